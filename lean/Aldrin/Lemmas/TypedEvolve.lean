/-
Schema evolution: data written for a newer environment survives a pass through the types of an older one.

The theorem is `survives_of`, for any two environments whose shapes are compatible type by type (`Compat`: the new
struct / enum still has every field / variant of the old one, and an old struct without fallback, which drops what it
does not declare, meets a new one that knows none of that either): whatever the old types write back for a value is read
by the new types as exactly what they read in the original value (`Surv`). It has two instances. `survives`
(`newer_data_survives_older_type` in Props/C16) is the one for `Ext envO envN`, through `compat_of_ext`: every definition
of the old environment reappears in the new one with the same name, structs and enums of the old one have a fallback, and
the new version of a struct / enum still has every field / variant the old one declares (it may add more; new
definitions may be added). `accept_idem` is the one for the same environment on both sides (`Compat.refl`).
`ShapeExt` takes no part in this; only `shapeExt_refl_of_simple` speaks of it.
-/
import Aldrin.Lemmas.Typed

namespace Aldrin.Typed
open Aldrin

/-- The new version of a definition relative to the old one. -/
def DefExt : Option Def → Option Def → Prop
  | some (.struct fsO fbO), some (.struct fsN _) =>
      fbO = true ∧ (fsO.map (·.id)).Nodup ∧ (fsN.map (·.id)).Nodup ∧
        ∀ id f, findField fsO id = some f → findField fsN id = some f
  | some (.enum vsO fbO), some (.enum vsN _) =>
      fbO = true ∧ ∀ id v, findVariant vsO id = some v → findVariant vsN id = some v
  | some (.newtype tO), some (.newtype tN) => tO = tN
  | none, _ => True
  | _, _ => False

def Ext (envO envN : Env) : Prop := ∀ name, DefExt (envO.get? name) (envN.get? name)

def ShapeExt : Shape → Shape → Prop
  | .struct fsO fbO, .struct fsN _ =>
      fbO = true ∧ (fsO.map (·.id)).Nodup ∧ (fsN.map (·.id)).Nodup ∧
        ∀ id f, findField fsO id = some f → findField fsN id = some f
  | .enum vsO fbO, .enum vsN _ =>
      fbO = true ∧ ∀ id v, findVariant vsO id = some v → findVariant vsN id = some v
  | .bad, _ => True
  | .struct .., _ => False
  | .enum .., _ => False
  | a, b => a = b

theorem shapeExt_refl_of_simple {a : Shape} (h1 : ∀ fs fb, a ≠ .struct fs fb) (h2 : ∀ vs fb, a ≠ .enum vs fb) :
    ShapeExt a a := by
  cases a <;> simp_all [ShapeExt]

/-- `Surv x`: what the old types make of `x` is read by the new types like `x` itself. -/
def Surv (envO envN : Env) (n : Nat) (x : Value) : Prop :=
  ∀ ty wo wn, accept envO n ty x = .ok wo → accept envN n ty x = .ok wn → accept envN n ty wo = .ok wn

/-- What `Surv` needs of the two shapes of one type. A struct without fallback drops the fields it does not
declare, so the new version must not know or keep any of them; with `b = a` this is reading back through the
same environment. -/
def Compat : Shape → Shape → Prop
  | .struct fsO fbO, b => ∃ fsN fbN, b = .struct fsN fbN ∧ (fsO.map (·.id)).Nodup ∧ (fsN.map (·.id)).Nodup ∧
      (∀ id f, findField fsO id = some f → findField fsN id = some f) ∧
      (fbO = true ∨ fbN = false ∧ ∀ id, findField fsO id = none → findField fsN id = none)
  | .enum vsO _, b => ∃ vsN fbN, b = .enum vsN fbN ∧ ∀ id v, findVariant vsO id = some v → findVariant vsN id = some v
  | .bad, _ => True
  | a, b => b = a

theorem Compat.refl {a : Shape} (h : ∀ fs fb, a = .struct fs fb → (fs.map (·.id)).Nodup) : Compat a a := by
  cases a with
  | struct fs fb => exact ⟨fs, fb, rfl, h _ _ rfl, h _ _ rfl, fun _ _ h => h, by cases fb <;> simp⟩
  | enum vs fb => exact ⟨vs, fb, rfl, fun _ _ h => h⟩
  | _ => simp [Compat]

theorem compat_of_ext {envO envN : Env} (hx : Ext envO envN) : ∀ (n : Nat) (ty : Ty),
    Compat (shape envO n ty) (shape envN n ty)
  | 0, ty => by simp [shape, Compat]
  | n + 1, ty => by
    cases ty with
    | box t => simpa [shape] using compat_of_ext hx n t
    | ref name =>
      have h := hx name
      simp only [shape]
      cases hO : envO.get? name with
      | none => simp [Compat]
      | some dO =>
        cases hN : envN.get? name with
        | none => rw [hO, hN] at h; cases dO <;> simp [DefExt] at h
        | some dN =>
          rw [hO, hN] at h
          cases dO <;> cases dN <;> simp only [DefExt] at h <;> try exact h.elim
          · obtain ⟨hfb, hnO, hnN, hrel⟩ := h
            exact ⟨_, _, rfl, hnO, hnN, hrel, .inl hfb⟩
          · exact ⟨_, _, rfl, h.2⟩
          · subst h; exact compat_of_ext hx n _
    | vec t =>
      simp only [shape]
      split <;> simp [Compat]
    | _ => simp [shape, Compat]

section Struct
variable {envO envN : Env} {n : Nat} {fsO fsN : List Field} {es : List (Key × Value)}
  {knO unO knN unN : List (Nat × Value)}

theorem acceptFields_wire_ok {env : Env} {fs : List Field} {l : List (Nat × Value)}
    (h : ∀ q ∈ l, ∀ g, findField fs q.1 = some g → ∃ w, accept env n g.wireTy q.2 = .ok w) :
    ∃ r, acceptFields env n fs (wire l) = .ok r := by
  refine acceptFields_ok_iff.2 fun p hp => ?_
  obtain ⟨q, hq, rfl⟩ := List.mem_map.1 hp
  exact ⟨q.1, keyId_int _, h q hq⟩

/-- The old struct has written its declared fields and, after them, some entries `U` it does not declare,
each with the last value the input has for its id. The new struct reads that like the input itself, and sets
aside the part of `U` it does not declare either. -/
theorem struct_survives_core (hnO : (fsO.map (·.id)).Nodup) (hnN : (fsN.map (·.id)).Nodup)
    (hrel : ∀ id f, findField fsO id = some f → findField fsN id = some f)
    (hIH : ∀ p ∈ es, Surv envO envN n p.2)
    (hO : acceptFields envO n fsO es = .ok (knO, unO)) (hN : acceptFields envN n fsN es = .ok (knN, unN))
    {U : List (Nat × Value)}
    (hU1 : ∀ q ∈ U, findField fsO q.1 = none ∧ lastOf q.1 (entries es) = some q.2)
    (hU2 : ∀ g, findField fsN g.id = some g → findField fsO g.id = none →
      lastOf g.id U = lastOf g.id (entries es)) :
    ∃ kn' un', acceptFields envN n fsN (fsO.filterMap (emit knO) ++ wire U) = .ok (kn', un') ∧
      finishFields fsN kn' = finishFields fsN knN ∧ un' = U.filter fun q => (findField fsN q.1).isNone := by
  -- a field both versions declare: what the old type read for it, the new type reads as it read the original
  have key : ∀ f y, findField fsO f.id = some f → lastOf f.id knO = some y →
      ∃ z, accept envN n f.wireTy y = .ok z ∧ lastOf f.id knN = some z := by
    intro f y hf hy
    cases hx : lastOf f.id (entries es) with
    | none => simp [lastOf_known hO, hx] at hy
    | some x =>
      obtain ⟨y', hy', hl⟩ := lastOf_known_some hO hf hx
      cases hl.symm.trans hy
      obtain ⟨z, hz, hlz⟩ := lastOf_known_some hN (hrel _ _ hf) hx
      obtain ⟨p, hp, _, hpv⟩ := mem_entries.1 (lastOf_mem hx)
      cases hpv
      exact ⟨z, hIH p hp f.wireTy y z hy' hz, hlz⟩
  have hknown : ∀ q ∈ emitted fsO knO, ∃ f, findField fsO q.1 = some f ∧ f.id = q.1 ∧
      lastOf f.id knO = some q.2 := by
    intro q hq
    simp only [emitted, List.mem_filterMap, Option.map_eq_some_iff] at hq
    obtain ⟨f, hf, p, hp, rfl⟩ := hq
    exact ⟨f, findField_of_mem hnO hf, rfl, (emit_id hp).2.1⟩
  obtain ⟨⟨kn', un'⟩, hrun⟩ := acceptFields_wire_ok (env := envN) (n := n) (fs := fsN)
    (l := emitted fsO knO ++ U) fun q hq g hg => by
      rcases List.mem_append.1 hq with hq | hq
      · obtain ⟨f, hf, hid, hl⟩ := hknown q hq
        rw [← hid] at hf hg
        have hfg : f = g := Option.some.inj ((hrel _ _ hf).symm.trans hg)
        subst hfg
        exact (key f q.2 hf hl).imp fun _ h => h.1
      · exact acceptFields_accepts hN (lastOf_mem (hU1 q hq).2) hg
  have hlast := lastOf_known hrun
  have hun' := acceptFields_unknown hrun
  rw [entries_wire] at hlast hun'
  refine ⟨kn', un', by rw [← wire_emitted, ← wire_append]; exact hrun, finishFields_congr fun g hg => ?_, ?_⟩
  · have hgN := findField_of_mem hnN hg
    have hl' := hlast g.id
    rw [hgN, Option.bind_some, lastOf_append, lastOf_emitted knO hnO] at hl'
    cases hfO : findField fsO g.id with
    | none =>
      -- the old struct set the entries with this id aside
      apply emit_congr
      rw [hl', hfO, hU2 g hgN hfO, lastOf_known hN, hgN]; simp
    | some f =>
      have hfg : f = g := Option.some.inj ((hrel _ _ hfO).symm.trans hgN)
      subst hfg
      have hUn : lastOf f.id U = none := (lastOf_none_iff _ _).2 fun q hq he => by
        have := (hU1 q hq).1; rw [he, hfO] at this; cases this
      rw [hfO, hUn, Option.none_or, Option.bind_some] at hl'
      cases he : emit knO f with
      | some p =>
        obtain ⟨z, hz, hlz⟩ := key f p.2 hfO (emit_id he).2.1
        apply emit_congr
        rw [hl', he, hlz]; simp [hz, Except.toOption]
      | none =>
        rw [he] at hl'
        rw [emit, hl']
        rcases emit_eq_none he with hl | ⟨hr, hl⟩
        · -- nothing read, so there was no entry
          cases hx : lastOf f.id (entries es) with
          | none => simp [emit, lastOf_known hN, hx]
          | some x => obtain ⟨_, _, hl''⟩ := lastOf_known_some hO hfO hx; rw [hl] at hl''; cases hl''
        · -- an optional field read as `None` is not written, and the new type reads `None` for it too
          obtain ⟨z, hz, hlz⟩ := key f _ hfO hl
          simp [emit, hlz, hr, accept_none_eq hz]
  · have : (emitted fsO knO).filter (fun q => (findField fsN q.1).isNone) = [] :=
      List.filter_eq_nil_iff.2 fun q hq => by
        obtain ⟨f, hf, _⟩ := hknown q hq
        simp [hrel _ _ hf]
    rw [hun', List.filter_append, this, List.nil_append]

theorem struct_survives {fbO fbN : Bool} (hnO : (fsO.map (·.id)).Nodup) (hnN : (fsN.map (·.id)).Nodup)
    (hrel : ∀ id f, findField fsO id = some f → findField fsN id = some f)
    (hfb : fbO = true ∨ fbN = false ∧ ∀ id, findField fsO id = none → findField fsN id = none)
    (hIH : ∀ p ∈ es, Surv envO envN n p.2)
    (hO : acceptFields envO n fsO es = .ok (knO, unO)) (hN : acceptFields envN n fsN es = .ok (knN, unN)) :
    ∃ kn' un', acceptFields envN n fsN (fsO.filterMap (emit knO) ++ if fbO then dedupLast unO else []) =
        .ok (kn', un') ∧ finishFields fsN kn' = finishFields fsN knN ∧
      (if fbN then dedupLast un' else []) = if fbN then dedupLast unN else [] := by
  cases fbO with
  | false =>
    obtain ⟨hfbN, hsame⟩ := hfb.resolve_left (by simp)
    obtain ⟨kn', un', hrun, hfin, _⟩ := struct_survives_core (U := []) hnO hnN hrel hIH hO hN (by simp)
      fun g hgN hgO => by rw [hsame _ hgO] at hgN; cases hgN
    exact ⟨kn', un', hrun, hfin, by simp [hfbN]⟩
  | true =>
    have hunO := acceptFields_unknown hO
    obtain ⟨kn', un', hrun, hfin, hun'⟩ := struct_survives_core (U := dedupLastN unO) hnO hnN hrel hIH hO hN
      (fun q hq => by
        have hq' := dedupLastN_sub unO q hq
        rw [hunO] at hq'
        have hnone : findField fsO q.1 = none := by simpa using (List.mem_filter.1 hq').2
        have hl := lastOf_of_mem_nodup (dedupLastN_nodup unO) hq
        rw [lastOf_dedupLastN, hunO, lastOf_filter (fun i => (findField fsO i).isNone)] at hl
        exact ⟨hnone, by simpa [hnone] using hl⟩)
      (fun g _ hgO => by
        rw [lastOf_dedupLastN, hunO, lastOf_filter (fun i => (findField fsO i).isNone)]; simp [hgO])
    refine ⟨kn', un', by rw [dedupLast_eq] at *; exact hrun, hfin, ?_⟩
    have hsub : ∀ q : Nat × Value, (findField fsN q.1).isNone = true → (findField fsO q.1).isNone = true := by
      intro q hq
      cases hf : findField fsO q.1 with
      | none => rfl
      | some f => simp [hrel _ _ hf] at hq
    rw [dedupLast_eq, dedupLast_eq, hun', ← dedupLastN_filter (fun i => (findField fsN i).isNone),
      dedupLastN_of_nodup _ (dedupLastN_nodup _), hunO, List.filter_filter, acceptFields_unknown hN]
    congr 3
    exact List.filter_congr fun q _ => by
      cases h : (findField fsN q.1).isNone <;> simp [h, hsub q]

end Struct

section Survives
variable {envO envN : Env} {n : Nat} {t : Ty}

theorem elems_survive {vs wos wns : List Value} (hIH : ∀ x ∈ vs, Surv envO envN n x)
    (hO : acceptElems envO n t vs = .ok wos) (hN : acceptElems envN n t vs = .ok wns) :
    acceptElems envN n t wos = .ok wns := by
  induction vs generalizing wos wns with
  | nil => cases hO; exact hN
  | cons v vs ih =>
    obtain ⟨wo, wos', hwo, hwos', rfl⟩ := acceptElems_cons_ok.1 hO
    obtain ⟨wn, wns', hwn, hwns', rfl⟩ := acceptElems_cons_ok.1 hN
    obtain ⟨hv, hvs⟩ := List.forall_mem_cons.1 hIH
    exact acceptElems_cons_ok.2 ⟨_, _, hv t wo wn hwo hwn, ih hvs hwos' hwns', rfl⟩

theorem entries_survive {es wos wns : List (Key × Value)} (hIH : ∀ p ∈ es, Surv envO envN n p.2)
    (hO : acceptEntries envO n t es = .ok wos) (hN : acceptEntries envN n t es = .ok wns) :
    acceptEntries envN n t wos = .ok wns := by
  induction es generalizing wos wns with
  | nil => cases hO; exact hN
  | cons p es ih =>
    obtain ⟨k, v⟩ := p
    obtain ⟨wo, wos', hwo, hwos', rfl⟩ := acceptEntries_cons_ok.1 hO
    obtain ⟨wn, wns', hwn, hwns', rfl⟩ := acceptEntries_cons_ok.1 hN
    obtain ⟨hv, hvs⟩ := List.forall_mem_cons.1 hIH
    exact acceptEntries_cons_ok.2 ⟨_, _, hv t wo wn hwo hwn, ih hvs hwos' hwns', rfl⟩

theorem survives_of (hc : ∀ ty, Compat (shape envO n ty) (shape envN n ty)) (v : Value) : Surv envO envN n v := by
  intro ty wo wn hO
  revert wn
  -- how the old type took the value; compatibility then fixes the new shape, which leaves one way for the
  -- new type to have taken it
  refine accept_induct (P := fun ty v wo => ∀ wn, accept envN n ty v = .ok wn → accept envN n ty wo = .ok wn)
    (fun {ty v wo} ih hO wn hN => ?_) hO
  have hc := hc ty
  rw [accept_iff] at hN ⊢
  generalize shape envO n ty = sO at hO hc
  generalize shape envN n ty = sN at hN hc ⊢
  cases hO with
  | value | unit | optNone | bool | int | fixed | string | bytes | set | unitVariant | unknownVariant => exact hN
  | optSome hx => cases (hc : sN = _); cases hN with | optSome hx' => exact .optSome (ih .some hx _ hx')
  | resOk hx => cases (hc : sN = _); cases hN with | resOk hx' => exact .resOk (ih .enum hx _ hx')
  | resErr hx => cases (hc : sN = _); cases hN with | resErr hx' => exact .resErr (ih .enum hx _ hx')
  | vec hws =>
    cases (hc : sN = _)
    cases hN with
    | vec hws' => exact .vec (elems_survive (fun x hx t _ _ h => ih (.vec hx) h _) hws hws')
  | arr hl hws =>
    cases (hc : sN = _)
    cases hN with
    | arr _ hws' =>
      exact .arr ((acceptElems_length hws).trans hl) (elems_survive (fun x hx t _ _ h => ih (.vec hx) h _) hws hws')
  | map hk hws =>
    cases (hc : sN = _)
    cases hN with
    | map hk' hws' => exact .map hk' (entries_survive (fun p hp t _ _ h => ih (.map hp) h _) hws hws')
  | struct haccO hfinO =>
    obtain ⟨fsN, fbN, rfl, hnO, hnN, hrel, hfb⟩ := hc
    cases hN with
    | struct haccN hfinN =>
      obtain ⟨kn', un', h1, h2, h3⟩ := struct_survives hnO hnN hrel hfb (fun p hp t _ _ h => ih (.map hp) h _) haccO haccN
      rw [(finishFields_some hfinO).2]
      exact h3 ▸ .struct h1 (h2.trans hfinN)
  | variant hv hx =>
    obtain ⟨vsN, fbN, rfl, hrel⟩ := hc
    have hv' := hrel _ _ hv
    cases hN with
    | variant hv'' hx' => cases hv'.symm.trans hv''; exact .variant hv' (ih .enum hx _ hx')
    | unitVariant hv'' => cases hv'.symm.trans hv''
    | unknownVariant hv'' => cases hv'.symm.trans hv''

end Survives

theorem survives {envO envN : Env} (hx : Ext envO envN) (n : Nat) : ∀ (v : Value), Surv envO envN n v :=
  survives_of (compat_of_ext hx n)

theorem survivesElems {envO envN : Env} (hx : Ext envO envN) (n : Nat) :
    ∀ (vs : List Value), ∀ x ∈ vs, Surv envO envN n x :=
  fun _ x _ => survives hx n x

theorem survivesEntries {envO envN : Env} (hx : Ext envO envN) (n : Nat) :
    ∀ (es : List (Key × Value)), ∀ p ∈ es, Surv envO envN n p.2 :=
  fun _ p _ => survives hx n p.2

/-! Reading back through the same environment is survival with nothing changed. -/

theorem accept_idem (env : Env) (hwf : env.WF) (n : Nat) (v : Value) (ty : Ty) (w : Value)
    (h : accept env n ty v = .ok w) : accept env n ty w = .ok w :=
  survives_of (fun ty => Compat.refl fun _ _ hs => shape_struct_nodup hwf n ty hs) v ty w w h h

theorem acceptElems_idem (env : Env) (hwf : env.WF) (n : Nat) :
    ∀ (vs : List Value) (ty : Ty) (ws : List Value), acceptElems env n ty vs = .ok ws → acceptElems env n ty ws = .ok ws :=
  fun _ _ _ h => elems_survive (fun x _ ty w _ hw hw' => hw.symm.trans hw' ▸ accept_idem env hwf n x ty w hw) h h

theorem acceptEntries_idem (env : Env) (hwf : env.WF) (n : Nat) :
    ∀ (es : List (Key × Value)) (ty : Ty) (ws : List (Key × Value)),
      acceptEntries env n ty es = .ok ws → acceptEntries env n ty ws = .ok ws :=
  fun _ _ _ h => entries_survive (fun p _ ty w _ hw hw' => hw.symm.trans hw' ▸ accept_idem env hwf n p.2 ty w hw) h h

theorem acceptFields_spec (env : Env) (hwf : env.WF) (n : Nat) :
    ∀ (es : List (Key × Value)) (fs : List Field) (kn un : List (Nat × Value)),
      acceptFields env n fs es = .ok (kn, un) →
      (∀ p ∈ kn, ∃ f, findField fs p.1 = some f ∧ accept env n f.wireTy p.2 = .ok p.2) ∧
      (∀ p ∈ un, findField fs p.1 = none) := by
  intro es fs
  induction es with
  | nil => intro kn un h; cases h; simp
  | cons p es ih =>
    intro kn un h
    obtain ⟨id, kn', un', _, hrest, hc⟩ := acceptFields_cons_ok h
    obtain ⟨ih1, ih2⟩ := ih kn' un' hrest
    rcases hc with ⟨f, w, hf, hw, rfl, rfl⟩ | ⟨hf, rfl, rfl⟩
    · exact ⟨List.forall_mem_cons.2 ⟨⟨f, hf, accept_idem env hwf n _ _ w hw⟩, ih1⟩, ih2⟩
    · exact ⟨ih1, List.forall_mem_cons.2 ⟨hf, ih2⟩⟩

/-- Executable sufficient condition for `DefExt`: every old field / variant is literally a field / variant of the new
version. -/
def defExtCheck : Def → Option Def → Bool
  | .struct fsO fbO, some (.struct fsN _) =>
      fbO && decide ((fsO.map (·.id)).Nodup) && decide ((fsN.map (·.id)).Nodup) && fsO.all (fun f => fsN.contains f)
  | .enum vsO fbO, some (.enum vsN _) =>
      fbO && decide ((vsN.map (·.id)).Nodup) && vsO.all (fun v => vsN.contains v)
  | .newtype tO, some (.newtype tN) => tO == tN
  | _, _ => false

def extCheck (envO envN : Env) : Bool := envO.all (fun p => defExtCheck p.2 (envN.get? p.1))

theorem Ext_of_check {envO envN : Env} (h : extCheck envO envN = true) : Ext envO envN := by
  intro name
  cases hO : envO.get? name with
  | none => simp [DefExt]
  | some dO =>
    simp only [Env.get?, Option.map_eq_some_iff] at hO
    obtain ⟨p, hp, rfl⟩ := hO
    have hm := List.mem_of_find?_eq_some hp
    have hname : p.1 = name := by simpa using List.find?_some hp
    simp only [extCheck, List.all_eq_true] at h
    have hc := h p hm
    rw [hname] at hc
    cases hN : envN.get? name with
    | none => rw [hN] at hc; cases hd : p.2 <;> rw [hd] at hc <;> simp [defExtCheck] at hc
    | some dN =>
      rw [hN] at hc
      cases hd : p.2 with
      | struct fsO fbO =>
        rw [hd] at hc
        cases dN <;> simp only [defExtCheck, Bool.and_eq_true, decide_eq_true_eq, List.all_eq_true,
          List.contains_iff_mem, Bool.false_eq_true] at hc
        rename_i fsN fbN
        obtain ⟨⟨⟨hfb, hnO⟩, hnN⟩, hsub⟩ := hc
        refine ⟨hfb, hnO, hnN, fun id f hf => ?_⟩
        obtain ⟨hm, hid⟩ := findField_some hf
        exact hid ▸ findField_of_mem hnN (hsub f hm)
      | enum vsO fbO =>
        rw [hd] at hc
        cases dN <;> simp only [defExtCheck, Bool.and_eq_true, decide_eq_true_eq, List.all_eq_true,
          List.contains_iff_mem, Bool.false_eq_true] at hc
        rename_i vsN fbN
        obtain ⟨⟨hfb, hnN⟩, hsub⟩ := hc
        refine ⟨hfb, fun id v hv => ?_⟩
        obtain ⟨hm, hid⟩ := findVariant_some hv
        exact hid ▸ findVariant_of_mem hnN (hsub v hm)
      | newtype tO =>
        rw [hd] at hc
        cases dN <;> simp only [defExtCheck, beq_iff_eq, Bool.false_eq_true] at hc
        exact hc

end Aldrin.Typed
