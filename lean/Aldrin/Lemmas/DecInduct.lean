/-
Rule induction over decoding (`dec_induct`): one closure condition per way in which `dec` or one of its four loops returns
a result (`DecRules`) or fails (`DecErrRules`). Size, well-formedness, depth and the UTF-8 flag of decoded values are
instances of the first half (`dec_ok_induct`), the bound on the fuel of the second (`dec_err_induct`), the comparisons
with `skip` (`skip_dec_fuel`) and with `conv` (`conv_dec_fuel`) of both.
-/
import Aldrin.Lemmas.Scalars
namespace Aldrin
open Generated

/-- The ways in which `dec` and its four loops return a result (one per kind of value, an empty and
a non-empty step per loop), each with what was read on the way, as closure conditions on five
predicates. -/
structure DecRules (cfg : DecCfg)
    (P : Nat → Bytes → Nat → Value → Bytes → Prop)
    (PE2 : KeyTy → Nat → Bytes → Nat → List (Key × Value) → Bytes → Prop)
    (PL2 : Nat → Bytes → Nat → List Value → Bytes → Prop)
    (PE1 : KeyTy → Nat → Nat → Bytes → Nat → List (Key × Value) → Bytes → Prop)
    (PL1 : Nat → Nat → Bytes → Nat → List Value → Bytes → Prop) : Prop where
  none : ∀ {f d b r}, ¬ d + 1 > maxValueDepth → classifyC cfg b = Option.some .none →
    P (f + 1) (b :: r) d .none r
  some : ∀ {f d b r v r'}, ¬ d + 1 > maxValueDepth → classifyC cfg b = Option.some .some →
    dec cfg f r (d + 1) = .ok (v, r') → P f r (d + 1) v r' → P (f + 1) (b :: r) d (.some v) r'
  bool : ∀ {f d b x r}, ¬ d + 1 > maxValueDepth → classifyC cfg b = Option.some .bool →
    P (f + 1) (b :: x :: r) d (.bool (x != 0)) r
  int : ∀ {f d b r t i r'}, ¬ d + 1 > maxValueDepth → classifyC cfg b = Option.some (.int t) →
    decInt t r = .ok (i, r') → P (f + 1) (b :: r) d (.int t i) r'
  fixed : ∀ {f d b r k s r'}, ¬ d + 1 > maxValueDepth → classifyC cfg b = Option.some (.fixed k) →
    takeN k.len r = .ok (s, r') → P (f + 1) (b :: r) d (.fixed k s) r'
  string : ∀ {f d b r n r1 s r2}, ¬ d + 1 > maxValueDepth → classifyC cfg b = Option.some .string →
    getVarint 4 r = .ok (n, r1) → takeN n r1 = .ok (s, r2) → ¬ (cfg.utf8 && !validUtf8 s) = true →
    P (f + 1) (b :: r) d (.string s) r2
  vec1 : ∀ {f d b r n r1 vs r2}, ¬ d + 1 > maxValueDepth → classifyC cfg b = Option.some .vec1 →
    getVarint 4 r = .ok (n, r1) → decElems1 cfg f n r1 (d + 1) = .ok (vs, r2) →
    PL1 f n r1 (d + 1) vs r2 → P (f + 1) (b :: r) d (.vec vs) r2
  bytes1 : ∀ {f d b r n r1}, ¬ d + 1 > maxValueDepth → classifyC cfg b = Option.some .bytes1 →
    getVarint 4 r = .ok (n, r1) → ¬ short r1 n = true →
    P (f + 1) (b :: r) d (.bytes (r1.take n)) (r1.drop n)
  map1 : ∀ {f d b r kt n r1 es r2}, ¬ d + 1 > maxValueDepth → classifyC cfg b = Option.some (.map1 kt) →
    getVarint 4 r = .ok (n, r1) → decEntries1 cfg kt f n r1 (d + 1) = .ok (es, r2) →
    PE1 kt f n r1 (d + 1) es r2 → P (f + 1) (b :: r) d (.map kt es) r2
  set1 : ∀ {f d b r kt n r1 ks r2}, ¬ d + 1 > maxValueDepth → classifyC cfg b = Option.some (.set1 kt) →
    getVarint 4 r = .ok (n, r1) → decKeys1 cfg.utf8 kt f n r1 = .ok (ks, r2) →
    P (f + 1) (b :: r) d (.set kt ks) r2
  enum : ∀ {f d b r id r1 v r2}, ¬ d + 1 > maxValueDepth → classifyC cfg b = Option.some .enum →
    getVarint 4 r = .ok (id, r1) → dec cfg f r1 (d + 1) = .ok (v, r2) → P f r1 (d + 1) v r2 →
    P (f + 1) (b :: r) d (.enum id v) r2
  vec2 : ∀ {f d b r vs r1}, ¬ d + 1 > maxValueDepth → classifyC cfg b = Option.some .vec2 →
    decElems2 cfg f r (d + 1) = .ok (vs, r1) → PL2 f r (d + 1) vs r1 →
    P (f + 1) (b :: r) d (.vec vs) r1
  bytes2 : ∀ {f d b r s r1}, ¬ d + 1 > maxValueDepth → classifyC cfg b = Option.some .bytes2 →
    decChunks f r = .ok (s, r1) → P (f + 1) (b :: r) d (.bytes s) r1
  map2 : ∀ {f d b r kt es r1}, ¬ d + 1 > maxValueDepth → classifyC cfg b = Option.some (.map2 kt) →
    decEntries2 cfg kt f r (d + 1) = .ok (es, r1) → PE2 kt f r (d + 1) es r1 →
    P (f + 1) (b :: r) d (.map kt es) r1
  set2 : ∀ {f d b r kt ks r1}, ¬ d + 1 > maxValueDepth → classifyC cfg b = Option.some (.set2 kt) →
    decKeys2 cfg.utf8 kt f r = .ok (ks, r1) → P (f + 1) (b :: r) d (.set kt ks) r1
  entries2_nil : ∀ {kt f r d}, PE2 kt (f + 1) (Kind.none.b :: r) d [] r
  entries2_cons : ∀ {kt f r d k r0 v r1 es r2}, decKey cfg.utf8 kt r = .ok (k, r0) →
    dec cfg f r0 d = .ok (v, r1) → P f r0 d v r1 →
    decEntries2 cfg kt f r1 d = .ok (es, r2) → PE2 kt f r1 d es r2 →
    PE2 kt (f + 1) (Kind.some.b :: r) d ((k, v) :: es) r2
  elems2_nil : ∀ {f r d}, PL2 (f + 1) (Kind.none.b :: r) d [] r
  elems2_cons : ∀ {f r d v r1 vs r2}, dec cfg f r d = .ok (v, r1) → P f r d v r1 →
    decElems2 cfg f r1 d = .ok (vs, r2) → PL2 f r1 d vs r2 →
    PL2 (f + 1) (Kind.some.b :: r) d (v :: vs) r2
  entries1_nil : ∀ {kt f bs d}, PE1 kt (f + 1) 0 bs d [] bs
  entries1_cons : ∀ {kt f n bs d k r0 v r es r'}, ¬ n = 0 → decKey cfg.utf8 kt bs = .ok (k, r0) →
    dec cfg f r0 d = .ok (v, r) → P f r0 d v r →
    decEntries1 cfg kt f (n - 1) r d = .ok (es, r') → PE1 kt f (n - 1) r d es r' →
    PE1 kt (f + 1) n bs d ((k, v) :: es) r'
  elems1_nil : ∀ {f bs d}, PL1 (f + 1) 0 bs d [] bs
  elems1_cons : ∀ {f n bs d v r vs r'}, ¬ n = 0 → dec cfg f bs d = .ok (v, r) → P f bs d v r →
    decElems1 cfg f (n - 1) r d = .ok (vs, r') → PL1 f (n - 1) r d vs r' →
    PL1 (f + 1) n bs d (v :: vs) r'

/-- The ways in which `dec` and its four loops fail, as closure conditions on five predicates over the error: raised on
the spot, or passed on from the reader of a leaf or from a callee once everything before it has been read (`P`: what is
known of a value decoded on the way). -/
structure DecErrRules (cfg : DecCfg)
    (P : Nat → Bytes → Nat → Value → Bytes → Prop)
    (Q : Nat → Bytes → Nat → DeErr → Prop)
    (QE2 : KeyTy → Nat → Bytes → Nat → DeErr → Prop)
    (QL2 : Nat → Bytes → Nat → DeErr → Prop)
    (QE1 : KeyTy → Nat → Nat → Bytes → Nat → DeErr → Prop)
    (QL1 : Nat → Nat → Bytes → Nat → DeErr → Prop) : Prop where
  fuel : ∀ {bs d}, Q 0 bs d .fuel
  tooDeep : ∀ {f bs d}, d + 1 > maxValueDepth → Q (f + 1) bs d .tooDeep
  eoi : ∀ {f d}, ¬ d + 1 > maxValueDepth → Q (f + 1) [] d .eoi
  unknown : ∀ {f d b r}, ¬ d + 1 > maxValueDepth → classifyC cfg b = Option.none → Q (f + 1) (b :: r) d .invalid
  some_err : ∀ {f d b r e}, ¬ d + 1 > maxValueDepth → classifyC cfg b = Option.some .some →
    dec cfg f r (d + 1) = .error e → Q f r (d + 1) e → Q (f + 1) (b :: r) d e
  bool_eoi : ∀ {f d b}, ¬ d + 1 > maxValueDepth → classifyC cfg b = Option.some .bool → Q (f + 1) [b] d .eoi
  int_err : ∀ {f d b r t e}, ¬ d + 1 > maxValueDepth → classifyC cfg b = Option.some (.int t) →
    decInt t r = .error e → Q (f + 1) (b :: r) d e
  fixed_err : ∀ {f d b r k e}, ¬ d + 1 > maxValueDepth → classifyC cfg b = Option.some (.fixed k) →
    takeN k.len r = .error e → Q (f + 1) (b :: r) d e
  string_len : ∀ {f d b r e}, ¬ d + 1 > maxValueDepth → classifyC cfg b = Option.some .string →
    getVarint 4 r = .error e → Q (f + 1) (b :: r) d e
  string_err : ∀ {f d b r n r1 e}, ¬ d + 1 > maxValueDepth → classifyC cfg b = Option.some .string →
    getVarint 4 r = .ok (n, r1) → takeN n r1 = .error e → Q (f + 1) (b :: r) d e
  string_utf8 : ∀ {f d b r n r1 s r2}, ¬ d + 1 > maxValueDepth → classifyC cfg b = Option.some .string →
    getVarint 4 r = .ok (n, r1) → takeN n r1 = .ok (s, r2) → (cfg.utf8 && !validUtf8 s) = true →
    Q (f + 1) (b :: r) d .invalid
  vec1_len : ∀ {f d b r e}, ¬ d + 1 > maxValueDepth → classifyC cfg b = Option.some .vec1 →
    getVarint 4 r = .error e → Q (f + 1) (b :: r) d e
  vec1_err : ∀ {f d b r n r1 e}, ¬ d + 1 > maxValueDepth → classifyC cfg b = Option.some .vec1 →
    getVarint 4 r = .ok (n, r1) → decElems1 cfg f n r1 (d + 1) = .error e → QL1 f n r1 (d + 1) e →
    Q (f + 1) (b :: r) d e
  bytes1_len : ∀ {f d b r e}, ¬ d + 1 > maxValueDepth → classifyC cfg b = Option.some .bytes1 →
    getVarint 4 r = .error e → Q (f + 1) (b :: r) d e
  bytes1_short : ∀ {f d b r n r1}, ¬ d + 1 > maxValueDepth → classifyC cfg b = Option.some .bytes1 →
    getVarint 4 r = .ok (n, r1) → short r1 n = true → Q (f + 1) (b :: r) d .invalid
  map1_len : ∀ {f d b r kt e}, ¬ d + 1 > maxValueDepth → classifyC cfg b = Option.some (.map1 kt) →
    getVarint 4 r = .error e → Q (f + 1) (b :: r) d e
  map1_err : ∀ {f d b r kt n r1 e}, ¬ d + 1 > maxValueDepth → classifyC cfg b = Option.some (.map1 kt) →
    getVarint 4 r = .ok (n, r1) → decEntries1 cfg kt f n r1 (d + 1) = .error e → QE1 kt f n r1 (d + 1) e →
    Q (f + 1) (b :: r) d e
  set1_len : ∀ {f d b r kt e}, ¬ d + 1 > maxValueDepth → classifyC cfg b = Option.some (.set1 kt) →
    getVarint 4 r = .error e → Q (f + 1) (b :: r) d e
  set1_err : ∀ {f d b r kt n r1 e}, ¬ d + 1 > maxValueDepth → classifyC cfg b = Option.some (.set1 kt) →
    getVarint 4 r = .ok (n, r1) → decKeys1 cfg.utf8 kt f n r1 = .error e → Q (f + 1) (b :: r) d e
  enum_id : ∀ {f d b r e}, ¬ d + 1 > maxValueDepth → classifyC cfg b = Option.some .enum →
    getVarint 4 r = .error e → Q (f + 1) (b :: r) d e
  enum_err : ∀ {f d b r id r1 e}, ¬ d + 1 > maxValueDepth → classifyC cfg b = Option.some .enum →
    getVarint 4 r = .ok (id, r1) → dec cfg f r1 (d + 1) = .error e → Q f r1 (d + 1) e → Q (f + 1) (b :: r) d e
  vec2_err : ∀ {f d b r e}, ¬ d + 1 > maxValueDepth → classifyC cfg b = Option.some .vec2 →
    decElems2 cfg f r (d + 1) = .error e → QL2 f r (d + 1) e → Q (f + 1) (b :: r) d e
  bytes2_err : ∀ {f d b r e}, ¬ d + 1 > maxValueDepth → classifyC cfg b = Option.some .bytes2 →
    decChunks f r = .error e → Q (f + 1) (b :: r) d e
  map2_err : ∀ {f d b r kt e}, ¬ d + 1 > maxValueDepth → classifyC cfg b = Option.some (.map2 kt) →
    decEntries2 cfg kt f r (d + 1) = .error e → QE2 kt f r (d + 1) e → Q (f + 1) (b :: r) d e
  set2_err : ∀ {f d b r kt e}, ¬ d + 1 > maxValueDepth → classifyC cfg b = Option.some (.set2 kt) →
    decKeys2 cfg.utf8 kt f r = .error e → Q (f + 1) (b :: r) d e
  entries2_fuel : ∀ {kt bs d}, QE2 kt 0 bs d .fuel
  entries2_eoi : ∀ {kt f d}, QE2 kt (f + 1) [] d .eoi
  entries2_key : ∀ {kt f r d e}, decKey cfg.utf8 kt r = .error e → QE2 kt (f + 1) (Kind.some.b :: r) d e
  entries2_value : ∀ {kt f r d k r0 e}, decKey cfg.utf8 kt r = .ok (k, r0) → dec cfg f r0 d = .error e → Q f r0 d e →
    QE2 kt (f + 1) (Kind.some.b :: r) d e
  entries2_rest : ∀ {kt f r d k r0 v r1 e}, decKey cfg.utf8 kt r = .ok (k, r0) → dec cfg f r0 d = .ok (v, r1) →
    P f r0 d v r1 → decEntries2 cfg kt f r1 d = .error e → QE2 kt f r1 d e → QE2 kt (f + 1) (Kind.some.b :: r) d e
  entries2_marker : ∀ {kt f m r d}, ¬ m = Kind.none.b → ¬ m = Kind.some.b → QE2 kt (f + 1) (m :: r) d .invalid
  elems2_fuel : ∀ {bs d}, QL2 0 bs d .fuel
  elems2_eoi : ∀ {f d}, QL2 (f + 1) [] d .eoi
  elems2_value : ∀ {f r d e}, dec cfg f r d = .error e → Q f r d e → QL2 (f + 1) (Kind.some.b :: r) d e
  elems2_rest : ∀ {f r d v r1 e}, dec cfg f r d = .ok (v, r1) → P f r d v r1 →
    decElems2 cfg f r1 d = .error e → QL2 f r1 d e → QL2 (f + 1) (Kind.some.b :: r) d e
  elems2_marker : ∀ {f m r d}, ¬ m = Kind.none.b → ¬ m = Kind.some.b → QL2 (f + 1) (m :: r) d .invalid
  entries1_fuel : ∀ {kt n bs d}, QE1 kt 0 n bs d .fuel
  entries1_key : ∀ {kt f n bs d e}, ¬ n = 0 → decKey cfg.utf8 kt bs = .error e → QE1 kt (f + 1) n bs d e
  entries1_value : ∀ {kt f n bs d k r0 e}, ¬ n = 0 → decKey cfg.utf8 kt bs = .ok (k, r0) →
    dec cfg f r0 d = .error e → Q f r0 d e → QE1 kt (f + 1) n bs d e
  entries1_rest : ∀ {kt f n bs d k r0 v r e}, ¬ n = 0 → decKey cfg.utf8 kt bs = .ok (k, r0) →
    dec cfg f r0 d = .ok (v, r) → P f r0 d v r → decEntries1 cfg kt f (n - 1) r d = .error e →
    QE1 kt f (n - 1) r d e → QE1 kt (f + 1) n bs d e
  elems1_fuel : ∀ {n bs d}, QL1 0 n bs d .fuel
  elems1_value : ∀ {f n bs d e}, ¬ n = 0 → dec cfg f bs d = .error e → Q f bs d e → QL1 (f + 1) n bs d e
  elems1_rest : ∀ {f n bs d v r e}, ¬ n = 0 → dec cfg f bs d = .ok (v, r) → P f bs d v r →
    decElems1 cfg f (n - 1) r d = .error e → QL1 f (n - 1) r d e → QL1 (f + 1) n bs d e

/-- What holds of everything `dec` and its four loops return at one amount of fuel. -/
structure DecOk (cfg : DecCfg) (f : Nat)
    (P : Nat → Bytes → Nat → Value → Bytes → Prop)
    (PE2 : KeyTy → Nat → Bytes → Nat → List (Key × Value) → Bytes → Prop)
    (PL2 : Nat → Bytes → Nat → List Value → Bytes → Prop)
    (PE1 : KeyTy → Nat → Nat → Bytes → Nat → List (Key × Value) → Bytes → Prop)
    (PL1 : Nat → Nat → Bytes → Nat → List Value → Bytes → Prop) : Prop where
  value : ∀ {bs d v r}, dec cfg f bs d = .ok (v, r) → P f bs d v r
  entries2 : ∀ {kt bs d es r}, decEntries2 cfg kt f bs d = .ok (es, r) → PE2 kt f bs d es r
  elems2 : ∀ {bs d vs r}, decElems2 cfg f bs d = .ok (vs, r) → PL2 f bs d vs r
  entries1 : ∀ {kt n bs d es r}, decEntries1 cfg kt f n bs d = .ok (es, r) → PE1 kt f n bs d es r
  elems1 : ∀ {n bs d vs r}, decElems1 cfg f n bs d = .ok (vs, r) → PL1 f n bs d vs r

/-- What holds of every error of `dec` and its four loops at one amount of fuel. -/
structure DecErr (cfg : DecCfg) (f : Nat)
    (Q : Nat → Bytes → Nat → DeErr → Prop)
    (QE2 : KeyTy → Nat → Bytes → Nat → DeErr → Prop)
    (QL2 : Nat → Bytes → Nat → DeErr → Prop)
    (QE1 : KeyTy → Nat → Nat → Bytes → Nat → DeErr → Prop)
    (QL1 : Nat → Nat → Bytes → Nat → DeErr → Prop) : Prop where
  value : ∀ {bs d e}, dec cfg f bs d = .error e → Q f bs d e
  entries2 : ∀ {kt bs d e}, decEntries2 cfg kt f bs d = .error e → QE2 kt f bs d e
  elems2 : ∀ {bs d e}, decElems2 cfg f bs d = .error e → QL2 f bs d e
  entries1 : ∀ {kt n bs d e}, decEntries1 cfg kt f n bs d = .error e → QE1 kt f n bs d e
  elems1 : ∀ {n bs d e}, decElems1 cfg f n bs d = .error e → QL1 f n bs d e

theorem dec_induct (cfg : DecCfg) {P PE2 PL2 PE1 PL1 Q QE2 QL2 QE1 QL1} (H : DecRules cfg P PE2 PL2 PE1 PL1)
    (E : DecErrRules cfg P Q QE2 QL2 QE1 QL1) (f : Nat) :
    DecOk cfg f P PE2 PL2 PE1 PL1 ∧ DecErr cfg f Q QE2 QL2 QE1 QL1 := by
  -- By induction on the fuel, each function by its defining cases: `fun_cases` evaluates the function's result along each
  -- case, so of the cases for a result those that fail are vacuous, and conversely. (`dec.mutual_induct_unfolding` has
  -- the same cases with the hypotheses for the callees attached, but leaves the result in it as the call
  -- `dec cfg (fuel + 1) (b :: r) d`, and evaluating that by `simp` along each case costs more than these lines.)
  -- The cases are numbered in the order of the definition's text; the first of each function is the one without fuel,
  -- which `cases hf` closes. Below each stands beside the rule it is.
  induction f with
  | zero => exact ⟨⟨nofun, nofun, nofun, nofun, nofun⟩, ⟨fun | rfl => E.fuel, fun | rfl => E.entries2_fuel,
      fun | rfl => E.elems2_fuel, fun | rfl => E.entries1_fuel, fun | rfl => E.elems1_fuel⟩⟩
  | succ f ih =>
    obtain ⟨⟨ih1, ih2, ih3, ih4, ih5⟩, ⟨ie1, ie2, ie3, ie4, ie5⟩⟩ := ih
    refine ⟨⟨@fun bs d v r => ?dec, @fun kt bs d es r => ?e2, @fun bs d vs r => ?l2,
        @fun kt n bs d es r => ?e1, @fun n bs d vs r => ?l1⟩,
      ⟨@fun bs d e => ?decErr, @fun kt bs d e => ?e2Err, @fun bs d e => ?l2Err,
        @fun kt n bs d e => ?e1Err, @fun n bs d e => ?l1Err⟩⟩
    all_goals generalize hf : f + 1 = f'
    case' dec | decErr => fun_cases dec cfg f' bs d
    case' e2 | e2Err => fun_cases decEntries2 cfg kt f' bs d
    case' l2 | l2Err => fun_cases decElems2 cfg f' bs d
    case' e1 | e1Err => fun_cases decEntries1 cfg kt f' n bs d
    case' l1 | l1Err => fun_cases decElems1 cfg f' n bs d
    all_goals (intro h; first | cases h | skip)
    all_goals (cases hf)
    case decErr.case2 => exact E.tooDeep ‹_›
    case decErr.case3 => exact E.eoi ‹_›
    case decErr.case4 => exact E.unknown ‹_› ‹_›
    case dec.case5 => exact H.none ‹_› ‹_›
    case decErr.case6 => exact E.some_err ‹_› ‹_› ‹_› (ie1 ‹_›)
    case dec.case7 => exact H.some ‹_› ‹_› ‹_› (ih1 ‹_›)
    case decErr.case8 => exact E.bool_eoi ‹_› ‹_›
    case dec.case9 => exact H.bool ‹_› ‹_›
    case decErr.case10 => exact E.int_err ‹_› ‹_› ‹_›
    case dec.case11 => exact H.int ‹_› ‹_› ‹_›
    case decErr.case12 => exact E.fixed_err ‹_› ‹_› ‹_›
    case dec.case13 => exact H.fixed ‹_› ‹_› ‹_›
    case decErr.case14 => exact E.string_len ‹_› ‹_› ‹_›
    case decErr.case15 => exact E.string_err ‹_› ‹_› ‹_› ‹_›
    case decErr.case16 => exact E.string_utf8 ‹_› ‹_› ‹_› ‹_› ‹_›
    case dec.case17 => exact H.string ‹_› ‹_› ‹_› ‹_› ‹_›
    case decErr.case18 => exact E.vec1_len ‹_› ‹_› ‹_›
    case decErr.case19 => exact E.vec1_err ‹_› ‹_› ‹_› ‹_› (ie5 ‹_›)
    case dec.case20 => exact H.vec1 ‹_› ‹_› ‹_› ‹_› (ih5 ‹_›)
    case decErr.case21 => exact E.bytes1_len ‹_› ‹_› ‹_›
    case decErr.case22 => exact E.bytes1_short ‹_› ‹_› ‹_› ‹_›
    case dec.case23 => exact H.bytes1 ‹_› ‹_› ‹_› ‹_›
    case decErr.case24 => exact E.map1_len ‹_› ‹_› ‹_›
    case decErr.case25 => exact E.map1_err ‹_› ‹_› ‹_› ‹_› (ie4 ‹_›)
    case dec.case26 => exact H.map1 ‹_› ‹_› ‹_› ‹_› (ih4 ‹_›)
    case decErr.case27 => exact E.set1_len ‹_› ‹_› ‹_›
    case decErr.case28 => exact E.set1_err ‹_› ‹_› ‹_› ‹_›
    case dec.case29 => exact H.set1 ‹_› ‹_› ‹_› ‹_›
    case decErr.case30 => exact E.enum_id ‹_› ‹_› ‹_›
    case decErr.case31 => exact E.enum_err ‹_› ‹_› ‹_› ‹_› (ie1 ‹_›)
    case dec.case32 => exact H.enum ‹_› ‹_› ‹_› ‹_› (ih1 ‹_›)
    case decErr.case33 => exact E.vec2_err ‹_› ‹_› ‹_› (ie3 ‹_›)
    case dec.case34 => exact H.vec2 ‹_› ‹_› ‹_› (ih3 ‹_›)
    case decErr.case35 => exact E.bytes2_err ‹_› ‹_› ‹_›
    case dec.case36 => exact H.bytes2 ‹_› ‹_› ‹_›
    case decErr.case37 => exact E.map2_err ‹_› ‹_› ‹_› (ie2 ‹_›)
    case dec.case38 => exact H.map2 ‹_› ‹_› ‹_› (ih2 ‹_›)
    case decErr.case39 => exact E.set2_err ‹_› ‹_› ‹_›
    case dec.case40 => exact H.set2 ‹_› ‹_› ‹_›
    case e2Err.case2 => exact E.entries2_eoi
    case e2.case3 => exact H.entries2_nil
    case e2Err.case4 => exact E.entries2_key ‹_›
    case e2Err.case5 => exact E.entries2_value ‹_› ‹_› (ie1 ‹_›)
    case e2Err.case6 => exact E.entries2_rest ‹_› ‹_› (ih1 ‹_›) ‹_› (ie2 ‹_›)
    case e2.case7 => exact H.entries2_cons ‹_› ‹_› (ih1 ‹_›) ‹_› (ih2 ‹_›)
    case e2Err.case8 => exact E.entries2_marker ‹_› ‹_›
    case l2Err.case2 => exact E.elems2_eoi
    case l2.case3 => exact H.elems2_nil
    case l2Err.case4 => exact E.elems2_value ‹_› (ie1 ‹_›)
    case l2Err.case5 => exact E.elems2_rest ‹_› (ih1 ‹_›) ‹_› (ie3 ‹_›)
    case l2.case6 => exact H.elems2_cons ‹_› (ih1 ‹_›) ‹_› (ih3 ‹_›)
    case l2Err.case7 => exact E.elems2_marker ‹_› ‹_›
    case e1.case2 => exact H.entries1_nil
    case e1Err.case3 => exact E.entries1_key ‹_› ‹_›
    case e1Err.case4 => exact E.entries1_value ‹_› ‹_› ‹_› (ie1 ‹_›)
    case e1Err.case5 => exact E.entries1_rest ‹_› ‹_› ‹_› (ih1 ‹_›) ‹_› (ie4 ‹_›)
    case e1.case6 => exact H.entries1_cons ‹_› ‹_› ‹_› (ih1 ‹_›) ‹_› (ih4 ‹_›)
    case l1.case2 => exact H.elems1_nil
    case l1Err.case3 => exact E.elems1_value ‹_› ‹_› (ie1 ‹_›)
    case l1Err.case4 => exact E.elems1_rest ‹_› ‹_› (ih1 ‹_›) ‹_› (ie5 ‹_›)
    case l1.case5 => exact H.elems1_cons ‹_› ‹_› (ih1 ‹_›) ‹_› (ih5 ‹_›)

/-- The half of `dec_induct` for results: the error paths need no case. -/
theorem dec_ok_induct (cfg : DecCfg) {P PE2 PL2 PE1 PL1} (H : DecRules cfg P PE2 PL2 PE1 PL1) (f : Nat) :
    DecOk cfg f P PE2 PL2 PE1 PL1 :=
  (dec_induct cfg H (Q := fun _ _ _ _ => True) (QE2 := fun _ _ _ _ _ => True) (QL2 := fun _ _ _ _ => True)
    (QE1 := fun _ _ _ _ _ _ => True) (QL1 := fun _ _ _ _ _ => True) (by constructor <;> intros <;> trivial) f).1

/-- The half of `dec_induct` for errors, where nothing is asked of the values decoded on the way. -/
theorem dec_err_induct (cfg : DecCfg) {Q QE2 QL2 QE1 QL1} (E : DecErrRules cfg (fun _ _ _ _ _ => True) Q QE2 QL2 QE1 QL1)
    (f : Nat) : DecErr cfg f Q QE2 QL2 QE1 QL1 :=
  (dec_induct cfg (PE2 := fun _ _ _ _ _ _ => True) (PL2 := fun _ _ _ _ _ => True) (PE1 := fun _ _ _ _ _ _ _ => True)
    (PL1 := fun _ _ _ _ _ _ => True) (by constructor <;> intros <;> trivial) E f).2

end Aldrin
