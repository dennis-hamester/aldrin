/-
The message codec over the generated layouts: fields written along a path of a kind's tree are read back by the tree
(`decTree_encFlds`), what a tree reads follows the tree and is not longer when written again (`decTree_ok`); the byte
offsets of the frame header and, through them, `decodeFrame` on a frame as `encodeFrame` assembles it (`decodeFrame_noValue`,
`decodeFrame_value`); what the proofs need of the generated tables, checked by evaluation (`tables_ok`, `kind_mode`).
-/
import Aldrin.Model.Msg
import Aldrin.Lemmas.Fuel
namespace Aldrin
open Generated

theorem encFld_disc_lt {n : Nat} (h : n < 256) : (UInt8.ofNat n).toNat = n := by
  simp [UInt8.toNat_ofNat']; omega

/-- A field list that follows a tree, by the form of the tree: its first field and what the rest follows. -/
theorem modeOf_some {t : L} {fs : List Fld} {m : VMode} (h : modeOf t fs = some m) :
    match t with
    | .u32 k => ∃ n fs', fs = .u32 n :: fs' ∧ n < 256 ^ 4 ∧ modeOf k fs' = some m
    | .uuid k => ∃ u fs', fs = .uuid u :: fs' ∧ u.length = 16 ∧ modeOf k fs' = some m
    | .enumv vals k => ∃ n fs', fs = .disc n :: fs' ∧ (vals.contains n = true ∧ n < 256) ∧ modeOf k fs' = some m
    | .tag alts => ∃ n fs', fs = .disc n :: fs' ∧ n < 256 ∧ modeOfAlts alts n fs' = some m
    | .fin m' => fs = [] ∧ m' = m := by
  cases t <;> rcases fs with _ | ⟨_ | _ | _, fs⟩ <;>
    simp only [modeOf, Option.ite_none_right_eq_some, Bool.and_eq_true, decide_eq_true_eq, reduceCtorEq] at h
  all_goals first | exact ⟨_, _, rfl, h⟩ | exact ⟨rfl, Option.some.inj h⟩

mutual
theorem decTree_encFlds : ∀ (t : L) (fs : List Fld) (m : VMode) (rest : Bytes),
    modeOf t fs = some m → decTree t (encFlds fs ++ rest) = .ok (fs, m, rest)
  | .u32 k, _, m, rest, h => by
    obtain ⟨n, fs, rfl, hn, h⟩ := modeOf_some h
    simp only [encFlds, encFld, List.append_assoc, decTree, getVarint_putVarint 4 n (by omega) (by omega) hn,
      decTree_encFlds k fs m rest h]
  | .uuid k, _, m, rest, h => by
    obtain ⟨u, fs, rfl, hu, h⟩ := modeOf_some h
    simp only [encFlds, encFld, List.append_assoc, decTree, takeN_append' u _ 16 hu, decTree_encFlds k fs m rest h]
  | .enumv vals k, _, m, rest, h => by
    obtain ⟨n, fs, rfl, ⟨hv, hn⟩, h⟩ := modeOf_some h
    simp only [encFlds, encFld, List.cons_append, List.nil_append, decTree, encFld_disc_lt hn, hv, reduceIte,
      decTree_encFlds k fs m rest h]
  | .tag alts, _, m, rest, h => by
    obtain ⟨n, fs, rfl, hn, h⟩ := modeOf_some h
    simp only [encFlds, encFld, List.cons_append, List.nil_append, decTree, encFld_disc_lt hn,
      decAlts_encFlds alts n fs m rest h]
  | .fin m', _, m, rest, h => by
    obtain ⟨rfl, rfl⟩ := modeOf_some h
    rfl

theorem decAlts_encFlds : ∀ (alts : List (Nat × L)) (n : Nat) (fs : List Fld) (m : VMode) (rest : Bytes),
    modeOfAlts alts n fs = some m → decAlts alts n (encFlds fs ++ rest) = .ok (fs, m, rest)
  | [], n, fs, m, rest, h => by simp [modeOfAlts] at h
  | (a, k) :: alts, n, fs, m, rest, h => by
    simp only [modeOfAlts] at h
    simp only [decAlts]
    split
    · rename_i he
      simp [he] at h
      exact decTree_encFlds k fs m rest h
    · rename_i he
      simp [he] at h
      exact decAlts_encFlds alts n fs m rest h
end

theorem u32le_length (n : Nat) : (u32le n).length = 4 := by simp [u32le]

theorem ofLeBytes_u32le {n : Nat} (h : n ≤ 4294967295) : ofLeBytes (u32le n) = n := by
  unfold u32le
  rw [ofLeBytes_leBytes]
  exact Nat.mod_eq_of_lt (by omega)

theorem hdr_getD (a : Bytes) (kb : UInt8) (body : Bytes) (h : a.length = 4) :
    (a ++ kb :: body).getD 4 0 = kb := by
  match a, h with
  | [a0, a1, a2, a3], _ => rfl

theorem hdr_take (a : Bytes) (x : Bytes) (h : a.length = 4) : (a ++ x).take 4 = a := by
  rw [← h]; simp

theorem hdr_drop5 (a : Bytes) (kb : UInt8) (body : Bytes) (h : a.length = 4) :
    (a ++ kb :: body).drop 5 = body := by
  match a, h with
  | [a0, a1, a2, a3], _ => rfl

theorem hdr_drop5_take4 (a : Bytes) (kb : UInt8) (b : Bytes) (rest : Bytes) (h : a.length = 4) (hb : b.length = 4) :
    ((a ++ kb :: (b ++ rest)).drop 5).take 4 = b := by
  rw [hdr_drop5 a kb _ h, hdr_take b rest hb]

theorem hdr_drop9 (a : Bytes) (kb : UInt8) (b : Bytes) (rest : Bytes) (h : a.length = 4) (hb : b.length = 4) :
    (a ++ kb :: (b ++ rest)).drop 9 = rest := by
  match a, h, b, hb with
  | [a0, a1, a2, a3], _, [b0, b1, b2, b3], _ => rfl

theorem hdr_drop9n (a : Bytes) (kb : UInt8) (b : Bytes) (v rest : Bytes) (h : a.length = 4) (hb : b.length = 4) :
    (a ++ kb :: (b ++ (v ++ rest))).drop (9 + v.length) = rest := by
  rw [← List.drop_drop, hdr_drop9 a kb b _ h hb]
  simp

theorem lookupKind_mem {α : Type} {k : Nat} {a : α} : ∀ {l : List (Nat × α)}, lookupKind k l = some a → (k, a) ∈ l
  | [], h => by simp [lookupKind] at h
  | (m, b) :: r, h => by
    simp only [lookupKind] at h
    split at h
    · rename_i he; simp at h; subst h; subst he; simp
    · exact List.mem_cons_of_mem _ (lookupKind_mem h)

theorem lookupKind_of_mem_keys {α : Type} {k : Nat} : ∀ {l : List (Nat × α)}, k ∈ l.map (·.1) → ∃ a, lookupKind k l = some a
  | (m, b) :: r, h => by
    simp only [lookupKind]
    by_cases he : m = k
    · exact ⟨b, if_pos he⟩
    · rw [if_neg he]
      exact lookupKind_of_mem_keys ((List.mem_cons.mp h).resolve_left (Ne.symm he))

/-- All fins of a tree treat the value slot the way the constructor promises. -/
def treeModesOk (hv : Bool) : L → Bool
  | .u32 k => treeModesOk hv k
  | .uuid k => treeModesOk hv k
  | .enumv _ k => treeModesOk hv k
  | .tag alts => altsModesOk hv alts
  | .fin m => if hv then m != .none else m == .none
where altsModesOk (hv : Bool) : List (Nat × L) → Bool
  | [] => true
  | (_, k) :: r => treeModesOk hv k && altsModesOk hv r

/-- Kind bytes fit a byte; the constructor table has the same kinds as the tree table; in frames
without value no path keeps or discards a value and vice versa. -/
theorem tables_ok :
    (deTrees.map (·.1)) = (deCtorHasValue.map (·.1)) ∧ (deTrees.map (·.1)) = (hasValueTable.map (·.1)) ∧
    deCtorHasValue = hasValueTable ∧
    (deTrees.map (·.1)).all (· < 256) = true ∧
    (deTrees.all (fun p => treeModesOk ((lookupKind p.1 deCtorHasValue).getD false) p.2)) = true := by
  refine ⟨by decide +kernel, by decide +kernel, by decide +kernel, by decide +kernel, by decide +kernel⟩

mutual
theorem modeOf_modesOk (hv : Bool) : ∀ (t : L) (fs : List Fld) (m : VMode),
    modeOf t fs = some m → treeModesOk hv t = true → (if hv then m ≠ .none else m = .none)
  | .u32 k, _, m, h, ho => by
    obtain ⟨_, fs, rfl, _, h⟩ := modeOf_some h
    exact modeOf_modesOk hv k fs m h (by simpa [treeModesOk] using ho)
  | .uuid k, _, m, h, ho => by
    obtain ⟨_, fs, rfl, _, h⟩ := modeOf_some h
    exact modeOf_modesOk hv k fs m h (by simpa [treeModesOk] using ho)
  | .enumv vals k, _, m, h, ho => by
    obtain ⟨_, fs, rfl, _, h⟩ := modeOf_some h
    exact modeOf_modesOk hv k fs m h (by simpa [treeModesOk] using ho)
  | .tag alts, _, m, h, ho => by
    obtain ⟨_, fs, rfl, _, h⟩ := modeOf_some h
    exact modeOfAlts_modesOk hv alts _ fs m h (by simpa [treeModesOk] using ho)
  | .fin m', _, m, h, ho => by
    obtain ⟨rfl, rfl⟩ := modeOf_some h
    simp only [treeModesOk] at ho
    cases hv <;> simp_all

theorem modeOfAlts_modesOk (hv : Bool) : ∀ (alts : List (Nat × L)) (n : Nat) (fs : List Fld) (m : VMode),
    modeOfAlts alts n fs = some m → treeModesOk.altsModesOk hv alts = true → (if hv then m ≠ .none else m = .none)
  | [], n, fs, m, h, _ => by simp [modeOfAlts] at h
  | (a, k) :: alts, n, fs, m, h, ho => by
    simp only [modeOfAlts] at h
    simp only [treeModesOk.altsModesOk, Bool.and_eq_true] at ho
    split at h
    · exact modeOf_modesOk hv k fs m h ho.1
    · exact modeOfAlts_modesOk hv alts n fs m h ho.2
end

/-- A generic message as the Rust types allow it: its fields follow a path of its kind's layout,
it carries a non-empty value exactly where the path keeps one, and it fits a `u32` length. -/
def Rec.WF (r : Rec) : Prop :=
  ∃ t m, lookupKind r.kind deTrees = some t ∧ modeOf t r.flds = some m ∧
    (match m with
     | .keep => ∃ v, r.value = some v ∧ 1 ≤ v.length
     | _ => r.value = none) ∧
    (match m with
     | .none => 5 + (encFlds r.flds).length
     | .keep => 9 + (r.value.getD []).length + (encFlds r.flds).length
     | .discard => 10 + (encFlds r.flds).length) ≤ 4294967295

/-- the constructor of a kind has a value slot exactly if the paths of its tree keep or discard a value -/
theorem kind_mode {k : Nat} {t : L} {fs : List Fld} {m : VMode} (ht : lookupKind k deTrees = some t) (hm : modeOf t fs = some m) :
    k < 256 ∧ lookupKind k deCtorHasValue = some (decide (m ≠ .none)) := by
  have hmem := lookupKind_mem ht
  obtain ⟨hkinds, _, _, hbyte, hmodes⟩ := tables_ok
  rw [List.all_eq_true] at hbyte hmodes
  obtain ⟨hv, hh⟩ : ∃ hv, lookupKind k deCtorHasValue = some hv :=
    lookupKind_of_mem_keys (hkinds ▸ List.mem_map.mpr ⟨(k, t), hmem, rfl⟩)
  have hok : treeModesOk hv t = true := by simpa [hh] using hmodes (k, t) hmem
  have hmode := modeOf_modesOk hv t fs m hm hok
  refine ⟨by simpa using hbyte k (List.mem_map.mpr ⟨(k, t), hmem, rfl⟩), ?_⟩
  cases hv
  · rw [hh, decide_eq_false (not_not_intro (by simpa using hmode))]
  · rw [hh, decide_eq_true (by simpa using hmode)]

theorem sigBytesAux_le_of_lt : ∀ (f n k : Nat), n < 256 ^ k → sigBytesAux f n ≤ k := sigBytesAux_le

mutual
theorem decTree_ok : ∀ (t : L) (bs : Bytes) (fs : List Fld) (m : VMode) (rest : Bytes),
    decTree t bs = .ok (fs, m, rest) → modeOf t fs = some m ∧ (encFlds fs).length + rest.length ≤ bs.length
  | .u32 k, bs, fs, m, rest, h => by
    simp only [decTree] at h
    split at h
    · cases h
    · rename_i n r hg
      split at h <;> cases h
      rename_i hd
      have ih := decTree_ok k r _ _ _ hd
      obtain ⟨hn, hlen⟩ := getVarint_ok (by decide) hg
      exact ⟨by simp [modeOf, hn, ih.1], by simp only [encFlds, encFld, List.length_append]; omega⟩
  | .uuid k, bs, fs, m, rest, h => by
    simp only [decTree] at h
    split at h
    · cases h
    · rename_i u r hg
      split at h <;> cases h
      rename_i hd
      have ih := decTree_ok k r _ _ _ hd
      have hb := takeN_ok hg
      exact ⟨by simp [modeOf, hb.2.1, ih.1], by simp only [encFlds, encFld, List.length_append]; omega⟩
  | .enumv vals k, bs, fs, m, rest, h => by
    cases bs with
    | nil => cases h
    | cons b r =>
      simp only [decTree] at h
      split at h
      · rename_i hv
        split at h <;> cases h
        rename_i hd
        have ih := decTree_ok k r _ _ _ hd
        exact ⟨by simpa [modeOf, b.toNat_lt, ih.1] using hv,
          by simp only [encFlds, encFld, List.length_append, List.length_cons, List.length_nil]; omega⟩
      · cases h
  | .tag alts, bs, fs, m, rest, h => by
    cases bs with
    | nil => cases h
    | cons b r =>
      simp only [decTree] at h
      split at h <;> cases h
      rename_i hd
      have ih := decAlts_ok alts b.toNat r _ _ _ hd
      exact ⟨by simp [modeOf, b.toNat_lt, ih.1],
        by simp only [encFlds, encFld, List.length_append, List.length_cons, List.length_nil]; omega⟩
  | .fin m', bs, fs, m, rest, h => by cases h; exact ⟨rfl, Nat.le_of_eq (Nat.zero_add _)⟩

theorem decAlts_ok : ∀ (alts : List (Nat × L)) (n : Nat) (bs : Bytes) (fs : List Fld) (m : VMode) (rest : Bytes),
    decAlts alts n bs = .ok (fs, m, rest) →
      modeOfAlts alts n fs = some m ∧ (encFlds fs).length + rest.length ≤ bs.length
  | [], n, bs, fs, m, rest, h => by cases h
  | (a, k) :: alts, n, bs, fs, m, rest, h => by
    simp only [decAlts] at h
    simp only [modeOfAlts]
    split at h
    · rw [if_pos ‹_›]; exact decTree_ok k bs fs m rest h
    · rw [if_neg ‹_›]; exact decAlts_ok alts n bs fs m rest h
end

theorem decAlts_sound : ∀ (alts : List (Nat × L)) (n : Nat) (bs : Bytes) (fs : List Fld) (m : VMode) (rest : Bytes),
    decAlts alts n bs = .ok (fs, m, rest) → modeOfAlts alts n fs = some m ∧ rest.length ≤ bs.length :=
  fun alts n bs fs m rest h => ⟨(decAlts_ok alts n bs fs m rest h).1, by have := (decAlts_ok alts n bs fs m rest h).2; omega⟩

theorem decAlts_size : ∀ (alts : List (Nat × L)) (n : Nat) (bs : Bytes) (fs : List Fld) (m : VMode) (rest : Bytes),
    decAlts alts n bs = .ok (fs, m, rest) → (encFlds fs).length + rest.length ≤ bs.length :=
  fun alts n bs fs m rest h => (decAlts_ok alts n bs fs m rest h).2

/-- Parsing a frame that was assembled without a value slot. -/
theorem decodeFrame_noValue (kind : Nat) (t : L) (body : Bytes) (hk : kind < 256)
    (ht : lookupKind kind deTrees = some t) (hc : lookupKind kind deCtorHasValue = some false)
    (hl : 5 + body.length ≤ 4294967295) :
    decodeFrame (u32le (5 + body.length) ++ UInt8.ofNat kind :: body) =
      match decTree t body with
      | .error e => .error e
      | .ok (fs, _, rest) =>
        if rest.isEmpty then .ok { kind := kind, flds := fs, value := none } else .error .trailing := by
  have hkb : (UInt8.ofNat kind).toNat = kind := encFld_disc_lt hk
  have hlen : (u32le (5 + body.length) ++ UInt8.ofNat kind :: body).length = 5 + body.length := by
    simp [u32le_length]; omega
  unfold decodeFrame
  rw [hlen]
  have h5 : ¬ (5 + body.length < 5) := by omega
  simp only [h5, ↓reduceIte]
  rw [hdr_getD _ _ _ (u32le_length _), hkb, ht, hc]
  simp only
  rw [hdr_take _ _ (u32le_length _), ofLeBytes_u32le hl, hdr_drop5 _ _ _ (u32le_length _)]
  simp only [ne_eq, not_true_eq_false, ↓reduceIte]
  cases decTree t body with
  | error e => rfl
  | ok p => obtain ⟨fs, m, rest⟩ := p; rfl

/-- Parsing a frame that was assembled with a value slot. -/
theorem decodeFrame_value (kind : Nat) (t : L) (v body : Bytes) (hk : kind < 256)
    (ht : lookupKind kind deTrees = some t) (hc : lookupKind kind deCtorHasValue = some true)
    (hv : 1 ≤ v.length) (hl : 9 + v.length + body.length ≤ 4294967295) :
    decodeFrame (u32le (9 + v.length + body.length) ++ UInt8.ofNat kind :: (u32le v.length ++ (v ++ body))) =
      match decTree t body with
      | .error e => .error e
      | .ok (fs, m, rest) =>
        if rest.isEmpty then .ok { kind := kind, flds := fs, value := if m = .keep then some v else none }
        else .error .trailing := by
  have hkb : (UInt8.ofNat kind).toNat = kind := encFld_disc_lt hk
  have hlen : (u32le (9 + v.length + body.length) ++ UInt8.ofNat kind :: (u32le v.length ++ (v ++ body))).length
      = 9 + v.length + body.length := by
    simp [u32le_length]; omega
  unfold decodeFrame
  rw [hlen]
  have h5 : ¬ (9 + v.length + body.length < 5) := by omega
  have h10 : ¬ (9 + v.length + body.length < 10) := by omega
  simp only [h5, ↓reduceIte]
  rw [hdr_getD _ _ _ (u32le_length _), hkb, ht, hc]
  simp only [h10, ↓reduceIte]
  rw [hdr_take _ _ (u32le_length _), ofLeBytes_u32le hl,
    hdr_drop5_take4 _ _ _ _ (u32le_length _) (u32le_length _), ofLeBytes_u32le (by omega),
    hdr_drop9 _ _ _ _ (u32le_length _) (u32le_length _),
    hdr_drop9n _ _ _ _ _ (u32le_length _) (u32le_length _)]
  have e2 : ¬ v.length < 1 := by omega
  have e3 : ¬ (v.length > 9 + v.length + body.length - 9) := by omega
  simp only [ne_eq, not_true_eq_false, ↓reduceIte, e2, e3, List.take_left']
  cases decTree t body with
  | error e => rfl
  | ok p => obtain ⟨fs, m, rest⟩ := p; rfl

/-- A frame whose value slot holds `v` parses back to the message, whether its path keeps the value or
discards it. -/
theorem decodeFrame_encoded {r : Rec} {t : L} {m : VMode} {v : Bytes} (hk : r.kind < 256)
    (ht : lookupKind r.kind deTrees = some t) (hc : lookupKind r.kind deCtorHasValue = some true)
    (hm : modeOf t r.flds = some m) (hv : 1 ≤ v.length) (hl : 9 + v.length + (encFlds r.flds).length ≤ 4294967295)
    (hr : r.value = if m = .keep then some v else none) :
    decodeFrame (u32le (9 + v.length + (encFlds r.flds).length) ++ UInt8.ofNat r.kind ::
      (u32le v.length ++ (v ++ encFlds r.flds))) = .ok r := by
  have hdec := decTree_encFlds t r.flds m [] hm
  rw [List.append_nil] at hdec
  rw [decodeFrame_value r.kind t v _ hk ht hc hv hl, hdec]
  simp only [List.isEmpty_nil, ↓reduceIte, ← hr]

theorem hdr_prefix (n : Nat) (x : Bytes) (h : 4 + x.length = n) :
    (u32le n ++ x).take 4 = u32le (u32le n ++ x).length := by
  rw [hdr_take _ _ (u32le_length _), List.length_append, u32le_length, h]

theorem ofLeBytes_take4_lt (fr : Bytes) : ofLeBytes (fr.take 4) < 4294967296 := by
  have := ofLeBytes_lt (fr.take 4)
  have h4 : (fr.take 4).length ≤ 4 := by simp; omega
  have : (256 : Nat) ^ (fr.take 4).length ≤ 256 ^ 4 := Nat.pow_le_pow_right (by omega) h4
  omega

end Aldrin
