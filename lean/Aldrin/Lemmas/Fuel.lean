import Aldrin.Lemmas.Size
namespace Aldrin
open Generated

/-! The decoder and its loops do not fail for lack of fuel: one that runs out was given at most `2 * length + 1` units
(`dec_fuel_all`, `decKeys*_fuel`, `decChunks_fuel`), so with `fuelFor bs` the recursion budget of the model is never the
reason for a result (`dec_total`). Two units per byte, because a counted loop hands its own input on to `dec` for the
next element (`decElems1`): in a chain of calls only every second one is on a shorter input (`*_shrink`, `Size.lean`).
The readers of leaves fail with `eoi` only (`*_err`). -/

theorem getVarint_err {N : Nat} {bs : Bytes} {e : DeErr} (h : getVarint N bs = .error e) : e = .eoi := by
  cases bs <;> simp only [getVarint] at h <;> (repeat' split at h) <;> cases h <;> rfl

theorem takeN_err {k : Nat} {bs : Bytes} {e : DeErr} (h : takeN k bs = .error e) : e = .eoi := by
  simp only [takeN] at h; split at h <;> cases h; rfl

theorem decInt_err {t : IntTy} {bs : Bytes} {e : DeErr} (h : decInt t bs = .error e) : e = .eoi := by
  rcases t.byte_or_wide with rfl | rfl | hw
  iterate 2 cases bs <;> cases h; rfl
  rw [decInt_wide hw] at h
  split at h <;> cases h
  exact getVarint_err ‹_›

theorem decKey_err {utf8 : Bool} {kt : KeyTy} {bs : Bytes} {e : DeErr} (h : decKey utf8 kt bs = .error e) :
    e = .eoi ∨ e = .invalid := by
  cases kt <;> simp only [decKey] at h <;> (repeat' split at h) <;> cases h
  all_goals first
    | exact .inl (decInt_err ‹_›) | exact .inl (getVarint_err ‹_›) | exact .inl (takeN_err ‹_›) | exact .inr rfl

theorem getVarint_ne_fuel {N : Nat} {bs : Bytes} : getVarint N bs ≠ .error .fuel :=
  fun h => nomatch getVarint_err h
theorem takeN_ne_fuel {k : Nat} {bs : Bytes} : takeN k bs ≠ .error .fuel :=
  fun h => nomatch takeN_err h
theorem decInt_ne_fuel {t : IntTy} {bs : Bytes} : decInt t bs ≠ .error .fuel :=
  fun h => nomatch decInt_err h
theorem decKey_ne_fuel {utf8 : Bool} {kt : KeyTy} {bs : Bytes} : decKey utf8 kt bs ≠ .error .fuel :=
  fun h => (decKey_err h).elim nofun nofun

theorem decKeys1_fuel {utf8 : Bool} {kt : KeyTy} {f n : Nat} {bs : Bytes} :
    decKeys1 utf8 kt f n bs = .error .fuel → f ≤ 2 * bs.length + 1 := by
  fun_induction decKeys1 utf8 kt f n bs <;> intro h <;> cases h
  · omega
  · exact absurd ‹_› decKey_ne_fuel
  · rename_i ih _
    have := decKey_shrink ‹decKey _ _ _ = .ok _›; have := ih ‹decKeys1 _ _ _ _ _ = .error .fuel›; omega

theorem decKeys2_fuel {utf8 : Bool} {kt : KeyTy} {f : Nat} {bs : Bytes} :
    decKeys2 utf8 kt f bs = .error .fuel → f ≤ 2 * bs.length + 1 := by
  fun_induction decKeys2 utf8 kt f bs <;> intro h <;> cases h
  · omega
  · exact absurd ‹_› decKey_ne_fuel
  · rename_i ih _
    have := decKey_shrink ‹decKey _ _ _ = .ok _›; have := ih ‹decKeys2 _ _ _ _ = .error .fuel›
    simp only [List.length_cons]; omega

theorem decChunks_fuel {f : Nat} {bs : Bytes} : decChunks f bs = .error .fuel → f ≤ 2 * bs.length + 1 := by
  fun_induction decChunks f bs <;> intro h <;> cases h
  · omega
  · exact absurd ‹_› getVarint_ne_fuel
  · rename_i ih _
    have := getVarint_shrink ‹getVarint _ _ = .ok _›; have := ih ‹decChunks _ _ = .error .fuel›
    simp only [List.length_drop] at this; omega

theorem dec_fuel_all (cfg : DecCfg) (f : Nat) : DecErr cfg f
    (fun f bs _ e => e = .fuel → f ≤ 2 * bs.length)
    (fun _ f bs _ e => e = .fuel → f ≤ 2 * bs.length + 1)
    (fun f bs _ e => e = .fuel → f ≤ 2 * bs.length + 1)
    (fun _ f _ bs _ e => e = .fuel → f ≤ 2 * bs.length + 1)
    (fun f _ bs _ e => e = .fuel → f ≤ 2 * bs.length + 1) := by
  apply dec_err_induct cfg
  constructor
  -- An error raised on the spot is not `fuel`, unless there was none to begin with.
  all_goals (intros; rename_i he; cases he; try simp only [List.length_cons])
  case fuel | entries2_fuel | elems2_fuel | entries1_fuel | elems1_fuel => exact Nat.zero_le _
  -- A reader of a leaf never runs out;
  case int_err | fixed_err | string_len | string_err | vec1_len | bytes1_len | map1_len | set1_len | enum_id |
      entries2_key | entries1_key =>
    simp only [getVarint_ne_fuel, takeN_ne_fuel, decInt_ne_fuel, decKey_ne_fuel] at *
  -- a walker did so on an input that the reads before it had shortened.
  case' vec1_err | map1_err | set1_err | enum_err => have := getVarint_shrink ‹getVarint _ _ = .ok _›
  case' entries1_value | entries1_rest | entries2_value | entries2_rest => have := decKey_shrink ‹decKey _ _ _ = .ok _›
  case' elems1_rest | entries1_rest | elems2_rest | entries2_rest => have := dec_shrink ‹dec _ _ _ _ = .ok _›
  case' set1_err => have := decKeys1_fuel ‹_›
  case' bytes2_err => have := decChunks_fuel ‹_›
  case' set2_err => have := decKeys2_fuel ‹_›
  case' some_err | vec1_err | map1_err | enum_err | vec2_err | map2_err | entries2_value | entries2_rest | elems2_value |
      elems2_rest | entries1_value | entries1_rest | elems1_value | elems1_rest => have := ‹_ = DeErr.fuel → _› rfl
  all_goals omega

theorem dec_total (cfg : DecCfg) (bs : Bytes) (d : Nat) : dec cfg (fuelFor bs) bs d ≠ .error .fuel :=
  fun h => by have := (dec_fuel_all cfg _).value h rfl; unfold fuelFor at this; omega

theorem decodeTop_eq_ok {cfg : DecCfg} {bs : Bytes} {v : Value} :
    decodeTop cfg bs = .ok v ↔ dec cfg (fuelFor bs) bs 0 = .ok (v, []) := by
  unfold decodeTop
  split
  · simp only [*, reduceCtorEq]
  · rename_i w rest h
    cases rest <;> simp [h]

end Aldrin
