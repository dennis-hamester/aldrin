/-
Round trip of type names: `typeNameP` on `typeText t` followed by anything that cannot continue a type returns
`t`. The side conditions (`ValidType`) say what the grammar can produce at all: identifiers of the right shape,
and no reference whose first identifier starts with one of the parameterless type keywords (the PEG commits to
the keyword there, e.g. `boolean` is read as `bool` followed by garbage).
-/
import Aldrin.Lemmas.Schema.Atoms

namespace Aldrin.Schema

def allPrims : List Prim := [.bool, .u8, .i8, .u16, .i16, .u32, .i32, .u64, .i64, .f32, .f64, .string, .uuid,
  .objectId, .serviceId, .value, .bytes, .lifetime, .unit]

/-- No parameterless type keyword is a prefix of `n`. -/
def NotKwPrefixed (n : Str) : Prop := ∀ p ∈ allPrims, ¬ (p.kwText <+: n)

def ValidRef : NamedRef → Prop
  | .intern n => ValidIdent n
  | .extern s n => ValidIdent s ∧ ValidIdent n

def NamedRef.head : NamedRef → Str
  | .intern n => n
  | .extern s _ => s

def ValidLen : ArrayLen → Prop
  | .lit v => ValidInt v
  | .ref r => ValidRef r

def ValidType : TypeName → Prop
  | .prim _ => True
  | .option t | .box t | .vec t | .set t | .sender t | .receiver t => ValidType t
  | .map k v => ValidType k ∧ ValidType v
  | .result a b => ValidType a ∧ ValidType b
  | .array t l => ValidType t ∧ ValidLen l
  | .ref r => ValidRef r ∧ NotKwPrefixed r.head

def TypeName.depth : TypeName → Nat
  | .prim _ | .ref _ => 1
  | .option t | .box t | .vec t | .set t | .sender t | .receiver t => t.depth + 1
  | .map k v => max k.depth v.depth + 1
  | .result a b => max a.depth b.depth + 1
  | .array t _ => t.depth + 1

/-- What may follow a type (or a reference) in the input: nothing that continues an identifier, and, after
optional white space, neither `<` nor `:`. -/
def TypeFollow (rest : Str) : Prop :=
  NoCont rest ∧ ∀ c r, skipWs rest = c :: r → c ≠ '<' ∧ c ≠ ':'

theorem typeFollow_cons {c : Char} (r : Str) (h1 : isIdCont c = false) (h2 : isWhiteSpace c = false)
    (h3 : c ≠ '<') (h4 : c ≠ ':') : TypeFollow (c :: r) := by
  refine ⟨noCont_cons r h1, fun d r' h => ?_⟩
  rw [skipWs_cons_nws h2] at h
  cases h; exact ⟨h3, h4⟩

theorem typeFollow_space_cons {c : Char} (r : Str) (h2 : isWhiteSpace c = false) (h3 : c ≠ '<') (h4 : c ≠ ':') :
    TypeFollow (' ' :: c :: r) := by
  refine ⟨noCont_cons _ (by decide), fun d r' h => ?_⟩
  rw [skipWs_space, skipWs_cons_nws h2] at h
  cases h; exact ⟨h3, h4⟩

theorem typeFollow_gt (r : Str) : TypeFollow ('>' :: r) := typeFollow_cons r (by decide) (by decide) (by decide) (by decide)
theorem typeFollow_comma (r : Str) : TypeFollow (',' :: r) := typeFollow_cons r (by decide) (by decide) (by decide) (by decide)
theorem typeFollow_semi (r : Str) : TypeFollow (';' :: r) := typeFollow_cons r (by decide) (by decide) (by decide) (by decide)
theorem typeFollow_rbr (r : Str) : TypeFollow (']' :: r) := typeFollow_cons r (by decide) (by decide) (by decide) (by decide)

theorem tok_fail_of_follow {rest : Str} (c : Char) (t : Str) (h : ∀ d r, skipWs rest = d :: r → d ≠ c) :
    tok (c :: t) rest = none := by
  rw [tok_eq]
  cases hsk : skipWs rest with
  | nil => rfl
  | cons d r => exact kw_cons_ne (h d r hsk).symm t r

theorem namedRefP_text {r : NamedRef} (hr : ValidRef r) {rest : Str} (hf : TypeFollow rest) :
    namedRefP (namedRefText r ++ rest) = some (r, rest) := by
  cases r with
  | intern n =>
    have h2 : tok (chars! "::") rest = none := tok_fail_of_follow ':' [':'] (fun d r h => (hf.2 d r h).2)
    simp only [namedRefP, namedRefText, identP_append (show ValidIdent n from hr) hf.1, h2]
  | extern s n =>
    have hr : ValidIdent s ∧ ValidIdent n := hr
    peg [namedRefP, namedRefText, identP_cons hr.1 (by decide : isIdCont ':' = false), skipWs_ident hr.2,
      identP_append hr.2 hf.1]

theorem Prim.text_eq_kwText (p : Prim) : p.text = p.kwText := by cases p <;> rfl

theorem isPrefixOf_append_split : ∀ (k n rest : Str), k <+: (n ++ rest) →
    (∃ n', n = k ++ n') ∨ (∃ k', k' ≠ [] ∧ k = n ++ k' ∧ k' <+: rest)
  | [], n, rest, _ => Or.inl ⟨n, rfl⟩
  | c :: k, [], rest, h => Or.inr ⟨c :: k, by simp, rfl, by simpa using h⟩
  | c :: k, d :: n, rest, h => by
    rw [List.cons_append, List.cons_prefix_cons] at h
    obtain ⟨rfl, h⟩ := h
    rcases isPrefixOf_append_split k n rest h with ⟨n', rfl⟩ | ⟨k', hne, rfl, hp⟩
    · exact Or.inl ⟨n', rfl⟩
    · exact Or.inr ⟨k', hne, rfl, hp⟩

theorem kw_ident_split {k : Str} {n rest r : Str} (hk : ∀ c ∈ k, isIdCont c = true)
    (hr : NoCont rest) (h : kw k (n ++ rest) = some ((), r)) : ∃ n', n = k ++ n' ∧ r = n' ++ rest := by
  unfold kw lit at h
  split at h
  · next hp =>
    cases h
    rcases isPrefixOf_append_split _ _ _ (List.isPrefixOf_iff_prefix.1 hp) with ⟨n', rfl⟩ | ⟨k', hne, rfl, hpre⟩
    · exact ⟨n', rfl, by simp⟩
    · -- the keyword would go on into `rest`, which starts with a non-identifier character
      cases k' with
      | nil => exact absurd rfl hne
      | cons c k'' =>
        obtain ⟨t, ht⟩ := hpre
        have := hr c (k'' ++ t) (by rw [← ht]; rfl)
        rw [hk c (by simp)] at this; cases this
  · cases h

theorem kw_none_of_not_prefix {k : Str} {n rest : Str} (hk : ∀ c ∈ k, isIdCont c = true)
    (hr : NoCont rest) (hn : ¬ (k <+: n)) : kw k (n ++ rest) = none := by
  cases h : kw k (n ++ rest) with
  | none => rfl
  | some x =>
    obtain ⟨n', rfl, _⟩ := kw_ident_split hk hr h
    exact absurd (List.prefix_append _ _) hn

theorem prim_kw_idCont (p : Prim) : ∀ c ∈ p.kwText, isIdCont c = true := by
  cases p <;> decide

theorem firstPrim_none {ps : List Prim} {n rest : Str} (hr : NoCont rest)
    (hn : ∀ p ∈ ps, ¬ (p.kwText <+: n)) : firstPrim ps (n ++ rest) = none := by
  induction ps with
  | nil => rfl
  | cons p ps ih =>
    simp only [firstPrim, kw_none_of_not_prefix (prim_kw_idCont p) hr (hn p List.mem_cons_self),
      ih (fun q hq => hn q (List.mem_cons_of_mem _ hq))]

theorem primKwP_none {p : Prim} {n rest : Str} (hr : NoCont rest) (hn : ¬ (p.kwText <+: n)) :
    primKwP p (n ++ rest) = none := by
  simp only [primKwP, kw_none_of_not_prefix (prim_kw_idCont p) hr hn, Option.map_none]

/-- Where a keyword of a parameterised type matches the beginning of an identifier, no `<` follows: the
identifier goes on, or what follows it is not `<`. -/
theorem lt_none_after_kw {k n rest : Str} (hk : ∀ c ∈ k, isIdCont c = true) (hk0 : k ≠ []) (hn : ValidIdent n)
    (hnc : NoCont rest) (hlt : ∀ d r, skipWs rest = d :: r → d ≠ '<') {r : Str} (h : kw k (n ++ rest) = some ((), r)) :
    tok (chars! "<") r = none := by
  obtain ⟨n', rfl, rfl⟩ := kw_ident_split hk hnc h
  cases n' with
  | nil => exact tok_fail_of_follow '<' [] hlt
  | cons d n'' =>
    obtain ⟨c0, r0, hn0, _, hcont⟩ := hn
    have hd : isIdCont d = true := by
      apply hcont
      cases k with
      | nil => exact absurd rfl hk0
      | cons k0 k' => cases hn0; simp
    have hne : d ≠ '<' := fun he => by rw [he] at hd; cases hd
    rw [tok_eq, List.cons_append, skipWs_cons_nws (idCont_not_ws hd)]
    exact kw_cons_ne hne.symm _ _

theorem generic1P_none_of_lt (rec : P TypeName) (k : Str) (mk : TypeName → TypeName) {cs : Str}
    (h : ∀ r, kw k cs = some ((), r) → tok (chars! "<") r = none) : generic1P rec k mk cs = none := by
  unfold generic1P
  cases hk : kw k cs with
  | none => rfl
  | some x => simp only [h x.2 hk]

theorem generic2P_none_of_lt (rec : P TypeName) (k sep : Str) (mk : TypeName → TypeName → TypeName) {cs : Str}
    (h : ∀ r, kw k cs = some ((), r) → tok (chars! "<") r = none) : generic2P rec k sep mk cs = none := by
  unfold generic2P
  cases hk : kw k cs with
  | none => rfl
  | some x => simp only [h x.2 hk]

theorem arrayP_ident_none (rec : P TypeName) {n rest : Str} (hn : ValidIdent n) : arrayP rec (n ++ rest) = none := by
  obtain ⟨c, r, rfl, hc, _⟩ := hn
  have : '[' ≠ c := by intro he; subst he; cases hc
  simp only [arrayP, List.cons_append, kw_cons_ne this]

theorem primsA_subset : ∀ p ∈ primsA, p ∈ allPrims := by decide

theorem typeNameP_ref {r : NamedRef} (hr : ValidRef r) (hk : NotKwPrefixed r.head) {rest : Str} (hf : TypeFollow rest)
    (fuel : Nat) : typeNameP (fuel + 1) (namedRefText r ++ rest) = some (.ref r, rest) := by
  have hres := namedRefP_text hr hf
  -- view the text as `head identifier ++ rest'` with `rest'` still a type follow set
  obtain ⟨n, rest', htext, hn, hnc, hlt, hkn⟩ : ∃ n rest', namedRefText r ++ rest = n ++ rest' ∧ ValidIdent n ∧
      NoCont rest' ∧ (∀ d r, skipWs rest' = d :: r → d ≠ '<') ∧ NotKwPrefixed n := by
    cases r with
    | intern n => exact ⟨n, rest, rfl, hr, hf.1, fun d r h => (hf.2 d r h).1, hk⟩
    | extern s n =>
      refine ⟨s, (chars! "::") ++ (n ++ rest), by simp [namedRefText], hr.1, noCont_cons _ (by decide), ?_, hk⟩
      intro c r h
      rw [show (chars! "::") ++ (n ++ rest) = ':' :: ':' :: (n ++ rest) from rfl, skipWs_cons_nws (by decide)] at h
      cases h; decide
  rw [htext] at hres ⊢
  have g1 : ∀ (k : Str) mk, (∀ c ∈ k, isIdCont c = true) → k ≠ [] → generic1P (typeNameP fuel) k mk (n ++ rest') = none :=
    fun k mk h1 h2 => generic1P_none_of_lt _ k mk (fun _ => lt_none_after_kw h1 h2 hn hnc hlt)
  have g2 : ∀ (k sep : Str) mk, (∀ c ∈ k, isIdCont c = true) → k ≠ [] →
      generic2P (typeNameP fuel) k sep mk (n ++ rest') = none :=
    fun k sep mk h1 h2 => generic2P_none_of_lt _ k sep mk (fun _ => lt_none_after_kw h1 h2 hn hnc hlt)
  simp only [typeNameP, firstPrim_none hnc (fun p hp => hkn p (primsA_subset p hp)),
    g1 (chars! "option") _ (by decide) (by decide), g1 (chars! "box") _ (by decide) (by decide),
    g1 (chars! "vec") _ (by decide) (by decide), primKwP_none hnc (hkn .bytes (by decide)),
    g2 (chars! "map") _ _ (by decide) (by decide), g1 (chars! "set") _ (by decide) (by decide),
    g1 (chars! "sender") _ (by decide) (by decide), g1 (chars! "receiver") _ (by decide) (by decide),
    primKwP_none hnc (hkn .lifetime (by decide)), primKwP_none hnc (hkn .unit (by decide)),
    g2 (chars! "result") _ _ (by decide) (by decide), arrayP_ident_none _ hn, hres, Option.map_none, Option.map_some,
    Option.orElse_eq_orElse, Option.orElse_eq_or, Option.none_or]

theorem typeText_head {t : TypeName} (ht : ValidType t) : ∃ c r, typeText t = c :: r ∧ isWhiteSpace c = false := by
  cases t with
  | ref r =>
    cases r with
    | intern n => obtain ⟨c, r, rfl, hc, _⟩ := ht.1; exact ⟨c, r, rfl, idStart_not_ws hc⟩
    | extern s n => obtain ⟨c, r, rfl, hc, _⟩ := ht.1.1; exact ⟨c, _, rfl, idStart_not_ws hc⟩
  | prim p => cases p <;> exact ⟨_, _, rfl, by decide⟩
  | _ => exact ⟨_, _, rfl, by decide⟩

theorem skipWs_typeText {t : TypeName} (ht : ValidType t) (rest : Str) :
    skipWs (typeText t ++ rest) = typeText t ++ rest := by
  obtain ⟨c, r, h, hc⟩ := typeText_head ht
  rw [h, List.cons_append, skipWs_cons_nws hc]

theorem generic1P_ok (rec : P TypeName) (k : Str) (mk : TypeName → TypeName) (t : TypeName) (ht : ValidType t)
    (rest : Str) (hrec : rec (typeText t ++ '>' :: rest) = some (t, '>' :: rest)) :
    generic1P rec k mk (k ++ '<' :: (typeText t ++ '>' :: rest)) = some (mk t, rest) := by
  peg [generic1P, kw_append, skipWs_typeText ht, hrec]

theorem arrayLenP_text {l : ArrayLen} (hl : ValidLen l) (rest : Str) :
    arrayLenP (arrayLenText l ++ ']' :: rest) = some (l, ']' :: rest) ∧
    skipWs (arrayLenText l ++ ']' :: rest) = arrayLenText l ++ ']' :: rest := by
  cases l with
  | lit v =>
    have hv : ValidInt v := hl
    simp only [arrayLenP, arrayLenText, litIntP_append hv (noDigit_cons (c := ']') rest (by decide)), skipWs_validInt hv, and_self]
  | ref r =>
    have hr : ValidRef r := hl
    -- a reference starts with an identifier, which is not an integer literal and not white space
    obtain ⟨c, r', htx, hc⟩ : ∃ c r', namedRefText r ++ ']' :: rest = c :: r' ∧ isIdStart c = true := by
      cases r with
      | intern n => obtain ⟨c, r', rfl, hc, _⟩ := (show ValidIdent n from hr); exact ⟨c, _, rfl, hc⟩
      | extern s n => obtain ⟨c, r', rfl, hc, _⟩ := (show ValidIdent s from hr.1); exact ⟨c, _, rfl, hc⟩
    have hp := namedRefP_text hr (typeFollow_rbr rest)
    rw [htx] at hp
    simp only [arrayLenP, arrayLenText, htx, litIntP_ident_none hc, hp, Option.map_some, skipWs_cons_nws (idStart_not_ws hc),
      and_self]

/-- Two texts differ at a position both have: neither is a prefix of the other, whatever follows them. -/
def diverge : Str → Str → Bool
  | a :: s, b :: t => if a = b then diverge s t else true
  | _, _ => false

theorem kw_of_diverge : ∀ {k t : Str}, diverge k t = true → ∀ r, kw k (t ++ r) = none
  | a :: s, b :: t, h, r => by
    by_cases hab : a = b
    · subst hab
      rw [diverge, if_pos rfl] at h
      rw [List.cons_append, kw_cons_self]
      exact kw_of_diverge h r
    · exact kw_cons_ne hab _ _

theorem firstPrim_hit : ∀ {ps : List Prim}, (ps.map Prim.kwText).Pairwise (fun a b => diverge a b = true) → ∀ {p : Prim}, p ∈ ps →
    ∀ more, firstPrim ps (p.kwText ++ more) = some (p, more)
  | q :: ps, hdiv, p, hp, more => by
    obtain ⟨hq, hps⟩ := List.pairwise_cons.1 (List.map_cons ▸ hdiv)
    rcases List.mem_cons.1 hp with rfl | hp
    · simp only [firstPrim, kw_append]
    · simp only [firstPrim, kw_of_diverge (hq p.kwText (List.mem_map_of_mem hp)) more, firstPrim_hit hps hp more]

def firstOf {α : Type} : List (P α) → P α
  | [], _ => none
  | p :: ps, cs => (p cs).or (firstOf ps cs)

/-- The alternatives of `type_name` before the reference, in grammar order, each with the keyword it begins with
(`rec` reads the nested types). -/
def typeAlts (rec : P TypeName) : List (Str × P TypeName) :=
  primsA.map (fun p => (p.kwText, primKwP p)) ++
  [(chars! "option", generic1P rec (chars! "option") .option), (chars! "box", generic1P rec (chars! "box") .box),
   (chars! "vec", generic1P rec (chars! "vec") .vec), (Prim.bytes.kwText, primKwP .bytes),
   (chars! "map", generic2P rec (chars! "map") (chars! "->") .map), (chars! "set", generic1P rec (chars! "set") .set),
   (chars! "sender", generic1P rec (chars! "sender") .sender), (chars! "receiver", generic1P rec (chars! "receiver") .receiver),
   (Prim.lifetime.kwText, primKwP .lifetime), (Prim.unit.kwText, primKwP .unit),
   (chars! "result", generic2P rec (chars! "result") (chars! ",") .result), (chars! "[", arrayP rec)]

/-- No keyword of `type_name` matches where another one was written (checked on the table of keywords). -/
theorem typeAlts_diverge (rec : P TypeName) : ((typeAlts rec).map (·.1)).Pairwise (fun a b => diverge a b = true) :=
  (by decide +kernel : ((typeAlts fun _ => none).map (·.1)).Pairwise (fun a b => diverge a b = true))

theorem firstOf_append {α : Type} (l1 l2 : List (P α)) (cs : Str) : firstOf (l1 ++ l2) cs = (firstOf l1 cs).or (firstOf l2 cs) := by
  induction l1 with
  | nil => rfl
  | cons p l1 ih => simp only [List.cons_append, firstOf, ih, Option.or_assoc]

theorem firstPrim_eq_firstOf (ps : List Prim) (cs : Str) :
    (firstPrim ps cs).map (fun x => (TypeName.prim x.1, x.2)) = firstOf (ps.map primKwP) cs := by
  induction ps with
  | nil => rfl
  | cons p ps ih =>
    simp only [firstPrim, List.map_cons, firstOf, primKwP, ← ih]
    cases kw p.kwText cs <;> rfl

theorem typeNameP_succ (fuel : Nat) (cs : Str) : typeNameP (fuel + 1) cs =
    (firstOf ((typeAlts (typeNameP fuel)).map (·.2)) cs).or ((namedRefP cs).map (fun x => (TypeName.ref x.1, x.2))) := by
  simp only [typeNameP, typeAlts, List.map_append, List.map_map, firstOf_append, Function.comp_def, ← firstPrim_eq_firstOf,
    List.map_cons, List.map_nil, firstOf, Option.orElse_eq_orElse, Option.orElse_eq_or, Option.or_assoc, Option.or_none]

/-- PEG ordered choice between parsers that begin with pairwise diverging keywords is a dispatch on the keyword. -/
theorem firstOf_hit {α : Type} : ∀ {alts : List (Str × P α)}, (∀ x ∈ alts, ∀ cs, kw x.1 cs = none → x.2 cs = none) →
    (alts.map (·.1)).Pairwise (fun a b => diverge a b = true) → ∀ {x}, x ∈ alts → ∀ {more v}, x.2 (x.1 ++ more) = some v →
    firstOf (alts.map (·.2)) (x.1 ++ more) = some v
  | y :: l, hled, hdiv, x, hx, more, v, h => by
    simp only [List.map_cons, firstOf]
    rcases List.mem_cons.1 hx with rfl | hx
    · rw [h]; rfl
    · have hd := (List.pairwise_cons.1 hdiv).1 x.1 (List.mem_map_of_mem hx)
      rw [hled y List.mem_cons_self _ (kw_of_diverge hd more), Option.none_or]
      exact firstOf_hit (fun z hz => hled z (List.mem_cons_of_mem _ hz)) (List.pairwise_cons.1 hdiv).2 hx h

theorem typeAlts_led (rec : P TypeName) : ∀ x ∈ typeAlts rec, ∀ cs, kw x.1 cs = none → x.2 cs = none := by
  intro x hx cs hk
  simp only [typeAlts, List.mem_append, List.mem_map, List.mem_cons, List.not_mem_nil, or_false] at hx
  rcases hx with ⟨p, _, rfl⟩ | rfl | rfl | rfl | rfl | rfl | rfl | rfl | rfl | rfl | rfl | rfl | rfl <;>
    simp only [primKwP, generic1P, generic2P, arrayP, hk, Option.map_none]

theorem typeNameP_hit {fuel : Nat} {k : Str} {p : P TypeName} (hx : (k, p) ∈ typeAlts (typeNameP fuel)) {more : Str}
    {v : TypeName × Str} (h : p (k ++ more) = some v) : typeNameP (fuel + 1) (k ++ more) = some v := by
  rw [typeNameP_succ, firstOf_hit (typeAlts_led _) (typeAlts_diverge _) hx h]; rfl

theorem primAlt_mem (rec : P TypeName) (p : Prim) : (p.kwText, primKwP p) ∈ typeAlts rec := by
  cases p
  -- `i := n` here and in `typeNameP_typeText` is the position in `typeAlts`: the 16 keywords of `primsA` are 0–15,
  -- the written table follows from 16 (`option`) to 27 (`[`)
  case bytes => exact List.mem_of_getElem? (i := 19) rfl
  case lifetime => exact List.mem_of_getElem? (i := 24) rfl
  case unit => exact List.mem_of_getElem? (i := 25) rfl
  all_goals exact List.mem_append_left _ (List.mem_map_of_mem (f := fun p => (p.kwText, primKwP p)) (by decide))

theorem typeNameP_generic1 {fuel : Nat} (k : Str) (mk : TypeName → TypeName) (t : TypeName)
    (hx : (k, generic1P (typeNameP fuel) k mk) ∈ typeAlts (typeNameP fuel)) (ht : ValidType t)
    (htext : typeText (mk t) = k ++ '<' :: (typeText t ++ ['>'])) (rest : Str)
    (hrec : typeNameP fuel (typeText t ++ '>' :: rest) = some (t, '>' :: rest)) :
    typeNameP (fuel + 1) (typeText (mk t) ++ rest) = some (mk t, rest) := by
  rw [htext]
  simpa only [List.append_assoc, List.cons_append, List.nil_append] using typeNameP_hit hx (generic1P_ok _ k mk t ht rest hrec)

theorem typeNameP_typeText : ∀ (t : TypeName), ValidType t → ∀ (fuel : Nat) (rest : Str), t.depth ≤ fuel →
    TypeFollow rest → typeNameP fuel (typeText t ++ rest) = some (t, rest)
  | t, ht, 0, rest, hd, hf => by cases t <;> cases hd
  | .ref r, ht, fuel + 1, rest, hd, hf => typeNameP_ref ht.1 ht.2 hf fuel
  | .prim p, ht, fuel + 1, rest, hd, hf => by
    rw [typeText, Prim.text_eq_kwText]
    exact typeNameP_hit (primAlt_mem _ p) (by simp only [primKwP, kw_append, Option.map_some])
  | .option t, ht, fuel + 1, rest, hd, hf =>
    typeNameP_generic1 (chars! "option") .option t (List.mem_of_getElem? (i := 16) rfl) ht rfl rest
      (typeNameP_typeText t ht fuel _ (Nat.le_of_succ_le_succ hd) (typeFollow_gt rest))
  | .box t, ht, fuel + 1, rest, hd, hf =>
    typeNameP_generic1 (chars! "box") .box t (List.mem_of_getElem? (i := 17) rfl) ht rfl rest
      (typeNameP_typeText t ht fuel _ (Nat.le_of_succ_le_succ hd) (typeFollow_gt rest))
  | .vec t, ht, fuel + 1, rest, hd, hf =>
    typeNameP_generic1 (chars! "vec") .vec t (List.mem_of_getElem? (i := 18) rfl) ht rfl rest
      (typeNameP_typeText t ht fuel _ (Nat.le_of_succ_le_succ hd) (typeFollow_gt rest))
  | .set t, ht, fuel + 1, rest, hd, hf =>
    typeNameP_generic1 (chars! "set") .set t (List.mem_of_getElem? (i := 21) rfl) ht rfl rest
      (typeNameP_typeText t ht fuel _ (Nat.le_of_succ_le_succ hd) (typeFollow_gt rest))
  | .sender t, ht, fuel + 1, rest, hd, hf =>
    typeNameP_generic1 (chars! "sender") .sender t (List.mem_of_getElem? (i := 22) rfl) ht rfl rest
      (typeNameP_typeText t ht fuel _ (Nat.le_of_succ_le_succ hd) (typeFollow_gt rest))
  | .receiver t, ht, fuel + 1, rest, hd, hf =>
    typeNameP_generic1 (chars! "receiver") .receiver t (List.mem_of_getElem? (i := 23) rfl) ht rfl rest
      (typeNameP_typeText t ht fuel _ (Nat.le_of_succ_le_succ hd) (typeFollow_gt rest))
  | .map k v, ht, fuel + 1, rest, hd, hf => by
    have hd : max k.depth v.depth ≤ fuel := Nat.le_of_succ_le_succ hd
    have ihk := typeNameP_typeText k ht.1 fuel (' ' :: '-' :: '>' :: ' ' :: (typeText v ++ '>' :: rest)) (by omega)
      (typeFollow_space_cons _ (by decide) (by decide) (by decide))
    have ihv := typeNameP_typeText v ht.2 fuel ('>' :: rest) (by omega) (typeFollow_gt rest)
    have := typeNameP_hit (fuel := fuel) (k := chars! "map") (v := (.map k v, rest))
      (more := '<' :: (typeText k ++ ' ' :: '-' :: '>' :: ' ' :: (typeText v ++ '>' :: rest))) (List.mem_of_getElem? (i := 20) rfl)
      (by peg [generic2P, skipWs_typeText ht.1, skipWs_typeText ht.2, ihk, ihv])
    simpa only [typeText, List.append_assoc, List.cons_append, List.nil_append] using this
  | .result a b, ht, fuel + 1, rest, hd, hf => by
    have hd : max a.depth b.depth ≤ fuel := Nat.le_of_succ_le_succ hd
    have iha := typeNameP_typeText a ht.1 fuel (',' :: ' ' :: (typeText b ++ '>' :: rest)) (by omega) (typeFollow_comma _)
    have ihb := typeNameP_typeText b ht.2 fuel ('>' :: rest) (by omega) (typeFollow_gt rest)
    have := typeNameP_hit (fuel := fuel) (k := chars! "result") (v := (.result a b, rest))
      (more := '<' :: (typeText a ++ ',' :: ' ' :: (typeText b ++ '>' :: rest))) (List.mem_of_getElem? (i := 26) rfl)
      (by peg [generic2P, skipWs_typeText ht.1, skipWs_typeText ht.2, iha, ihb])
    simpa only [typeText, List.append_assoc, List.cons_append, List.nil_append] using this
  | .array t l, ht, fuel + 1, rest, hd, hf => by
    have ih := typeNameP_typeText t ht.1 fuel (';' :: ' ' :: (arrayLenText l ++ ']' :: rest))
      (Nat.le_of_succ_le_succ hd) (typeFollow_semi _)
    obtain ⟨hl, hlw⟩ := arrayLenP_text ht.2 rest
    have := typeNameP_hit (fuel := fuel) (k := chars! "[") (v := (.array t l, rest))
      (more := typeText t ++ ';' :: ' ' :: (arrayLenText l ++ ']' :: rest)) (List.mem_of_getElem? (i := 27) rfl)
      (by peg [arrayP, skipWs_typeText ht.1, ih, hl, hlw])
    simpa only [typeText, List.append_assoc, List.cons_append, List.nil_append] using this

end Aldrin.Schema
