/-
Services: function parts, functions, events, the two item fallbacks, the item block and the service itself.
-/
import Aldrin.Lemmas.Schema.Inline

namespace Aldrin.Schema

theorem vi_args : ValidIdent (chars! "args") := ⟨'a', chars! "rgs", rfl, by decide, by decide⟩
theorem vi_ok : ValidIdent (chars! "ok") := ⟨'o', chars! "k", rfl, by decide, by decide⟩
theorem vi_err : ValidIdent (chars! "err") := ⟨'e', chars! "rr", rfl, by decide, by decide⟩
theorem vi_fn : ValidIdent (chars! "fn") := ⟨'f', chars! "n", rfl, by decide, by decide⟩
theorem vi_event : ValidIdent (chars! "event") := ⟨'e', chars! "vent", rfl, by decide, by decide⟩

def ValidPart (p : FnPart) : Prop := ValidLines 2 p.comment ∧ ValidInline p.ty

def canonPart (p : FnPart) : FnPart := { comment := p.comment.map canonC, ty := canonInline p.ty }

def partFuel (p : FnPart) : Nat := p.comment.length + inlineFuel p.ty + 1

def FnPartTexts (p : FnPart) (kind : Str) (txt : Str) : Prop :=
  ∃ itxt, InlineTexts p.ty 8 itxt ∧
    txt = joined (preItems p.comment [] [] 8) ++ (List.replicate 8 ' ' ++ (kind ++ (' ' :: '=' :: ' ' :: itxt)))

theorem emits_fnPartF (p : FnPart) (kind : Str) : Emits (fnPartF p kind) (FnPartTexts p kind) :=
  emits_line (newlineWithFirst_out _) fun st => by
    obtain ⟨itxt, hit, hout⟩ := inlineTail_out p.ty 8
      (w (chars! " = ") (w kind (w (chars! "        ") (prelude p.comment [] [] 8 false st))))
    exact ⟨_, ⟨itxt, hit, rfl⟩, by
      simp only [seqF_cons, seqF_nil, setNewline_out, hout, w_out, prelude_out, List.append_assoc, List.replicate]; rfl⟩

theorem blank4 : Blank (chars! "    ") := blank_replicate 4

theorem fnPartP_text (p : FnPart) (hv : ValidPart p) (kind : Str) (hk : ValidIdent kind) (fuel : Nat)
    (hf : partFuel p < fuel) (txt : Str) (ht : FnPartTexts p kind txt) (w rest : Str) (hw : Blank w) :
    fnPartP kind fuel (skipWs (w ++ (txt ++ rest))) = some (canonPart p, rest) := by
  obtain ⟨hvc, hvt⟩ := hv
  obtain ⟨itxt, hit, rfl⟩ := ht
  unfold partFuel at hf
  peg [fnPartP, preludeP_item (preOK_comments hvc (fuel := fuel) (by omega) false false) hw 8 (blank_replicate 8) (idHead_ident hk),
    kwEqInlineP, kw_append, skipWs_inlineTxt p.ty hvt 8 itxt hit,
    typeOrInlineP_text p.ty hvt 8 fuel (by omega) itxt hit rest, preComments_preItems, canonPart]

theorem fnPartP_other_none (kind kind' : Str) (hk' : ValidIdent kind') (hne : ∀ more, kw kind (kind' ++ more) = none)
    (cm : List Line) (hvc : ValidLines 2 cm) (fuel : Nat) (hf : cm.length < fuel) (more w : Str) (hw : Blank w) :
    fnPartP kind fuel (skipWs (w ++ (joined (preItems cm [] [] 8) ++ (List.replicate 8 ' ' ++ (kind' ++ more))))) = none := by
  simp only [fnPartP, preludeP_item (preOK_comments hvc hf false false) hw 8 (blank_replicate 8) (idHead_ident hk'), kwEqInlineP, hne]

theorem fnPartP_close_none (kind : Str) (hk : ∀ more, kw kind ('}' :: more) = none) (fuel : Nat) (more w : Str)
    (hw : Blank w) : fnPartP kind fuel (skipWs (w ++ ('}' :: more))) = none := by
  peg [skipWs_blank hw, fnPartP, preludeP_close, kwEqInlineP, hk]

def ValidFn (f : FnDef) : Prop :=
  ValidLines 2 f.comment ∧ ValidLines 3 f.doc ∧ ValidIdent f.name ∧ ValidInt f.id ∧
  (∀ p, f.args = some p → ValidPart p) ∧ (∀ p, f.ok = some p → ValidPart p) ∧ (∀ p, f.err = some p → ValidPart p)

def canonFn (f : FnDef) : FnDef :=
  { f with comment := f.comment.map canonC, doc := f.doc.map canonD, args := f.args.map canonPart,
           ok := f.ok.map canonPart, err := f.err.map canonPart }

def optPartFuel (o : Option FnPart) : Nat := match o with | some p => partFuel p + 1 | none => 0

def fnFuel (f : FnDef) : Nat :=
  f.comment.length + f.doc.length + optPartFuel f.args + optPartFuel f.ok + optPartFuel f.err + 1

/-- Text of one optional part inside a full function body: blank run, part, line end. -/
def partChunk (o : Option FnPart) (w t : Str) : Str :=
  match o with
  | some _ => w ++ (t ++ ['\n'])
  | none => []

def fnHead (f : FnDef) : Str :=
  joined (preItems f.comment f.doc [] 4) ++ (chars! "    fn " ++ (f.name ++ (' ' :: '@' :: ' ' :: f.id)))

def FnTexts (f : FnDef) (txt : Str) : Prop :=
  if f.args.isSome || okHasComment f || f.err.isSome then
    ∃ wa ta wo to we te,
      (∀ p, f.args = some p → Blank wa ∧ FnPartTexts p (chars! "args") ta) ∧
      (∀ p, f.ok = some p → Blank wo ∧ FnPartTexts p (chars! "ok") to) ∧
      (∀ p, f.err = some p → Blank we ∧ FnPartTexts p (chars! "err") te) ∧
      txt = fnHead f ++ (' ' :: '{' :: '\n' :: (partChunk f.args wa ta ++ (partChunk f.ok wo to ++ (partChunk f.err we te ++ chars! "    }"))))
  else match f.ok with
    | some ok => ∃ itxt, InlineTexts ok.ty 4 itxt ∧ txt = fnHead f ++ (' ' :: '=' :: ' ' :: itxt)
    | none => txt = fnHead f ++ [';']

theorem optPart_out (o : Option FnPart) (kind : Str) (st : FSt) :
    ∃ w t, (∀ p, o = some p → Blank w ∧ FnPartTexts p kind t) ∧
      (optPartF o kind st).out = st.out ++ partChunk o w t := by
  cases o with
  | none => exact ⟨[], [], nofun, by simp [partChunk, optPartF]⟩
  | some p =>
    obtain ⟨w, t, hw, ht, hout⟩ := emits_fnPartF p kind st
    exact ⟨w, t, fun q hq => by cases hq; exact ⟨hw, ht⟩, hout⟩

theorem fnParts_out (f : FnDef) (st : FSt) : ∃ wa ta wo to we te,
    (∀ p, f.args = some p → Blank wa ∧ FnPartTexts p (chars! "args") ta) ∧
    (∀ p, f.ok = some p → Blank wo ∧ FnPartTexts p (chars! "ok") to) ∧
    (∀ p, f.err = some p → Blank we ∧ FnPartTexts p (chars! "err") te) ∧
    (optPartF f.err (chars! "err") (optPartF f.ok (chars! "ok") (optPartF f.args (chars! "args") st))).out
      = st.out ++ (partChunk f.args wa ta ++ (partChunk f.ok wo to ++ partChunk f.err we te)) := by
  obtain ⟨wa, ta, ha, houta⟩ := optPart_out f.args (chars! "args") st
  obtain ⟨wo, to, ho, houto⟩ := optPart_out f.ok (chars! "ok") (optPartF f.args (chars! "args") st)
  obtain ⟨we, te, he, houte⟩ := optPart_out f.err (chars! "err") (optPartF f.ok (chars! "ok") (optPartF f.args (chars! "args") st))
  exact ⟨wa, ta, wo, to, we, te, ha, ho, he, by rw [houte, houto, houta, List.append_assoc, List.append_assoc]⟩

theorem eqInlineF_out (t : TypeOrInline) (ind : Nat) (st : FSt) :
    ∃ itxt, InlineTexts t ind itxt ∧ (eqInlineF t ind st).out = st.out ++ (' ' :: '=' :: ' ' :: (itxt ++ ['\n'])) := by
  obtain ⟨itxt, hit, hout⟩ := inlineTail_out t ind (w (chars! " = ") st)
  -- Here and wherever an `…_out` computation ends in `simp only [.., List.append_assoc]; rfl`: both sides are the same
  -- chunks up to where literal texts are cut (`chars! " = "` against `' ' :: '=' :: ' ' :: _`), which `rfl` evaluates.
  exact ⟨itxt, hit, by simp only [eqInlineF, seqF_cons, seqF_nil, hout, w_out, List.append_assoc]; rfl⟩

theorem emits_fnDefF (f : FnDef) : Emits (fnDefF f) (FnTexts f) :=
  emits_line (newlineItem_out _ _) fun st => by
    unfold FnTexts
    simp only [seqF_cons, seqF_nil, setNewline_out]
    split
    · obtain ⟨wa, ta, wo, to, we, te, ha, ho, he, hout⟩ := fnParts_out f (setFirst true (setNewline false (nl (w (chars! " {")
        (w f.id (w (chars! " @ ") (w f.name (w (chars! "    fn ") (prelude f.comment f.doc [] 4 false st)))))))))
      exact ⟨_, ⟨wa, ta, wo, to, we, te, ha, ho, he, rfl⟩, by
        simp only [seqF_cons, seqF_nil, nl_out, w_out, hout, setFirst_out, setNewline_out, prelude_out, fnHead,
          List.append_assoc, List.cons_append, List.nil_append]⟩
    · cases hok : f.ok with
      | none => exact ⟨_, rfl, by simp only [seqF_cons, seqF_nil, nl_out, w_out, prelude_out, fnHead, List.append_assoc]; rfl⟩
      | some ok =>
        obtain ⟨itxt, hit, hout⟩ := eqInlineF_out ok.ty 4
          (w f.id (w (chars! " @ ") (w f.name (w (chars! "    fn ") (prelude f.comment f.doc [] 4 false st)))))
        exact ⟨_, ⟨itxt, hit, rfl⟩, by simp only [hout, w_out, prelude_out, fnHead, List.append_assoc]; rfl⟩

/-- What an optional part needs for its round trip. -/
def PartOK (k : Str) (o : Option FnPart) (w t : Str) (fuel : Nat) : Prop :=
  ∀ p, o = some p → Blank w ∧ FnPartTexts p k t ∧ ValidPart p ∧ partFuel p < fuel

theorem optPartP_stage (k : Str) (hk : ValidIdent k) (o : Option FnPart) (w t B R : Str) (fuel : Nat)
    (ho : PartOK k o w t fuel) (hnone : o = none → fnPartP k fuel (skipWs R) = none) (hB : Blank B) :
    (optP (fnPartP k fuel) (skipWs (B ++ (partChunk o w t ++ R)))).1 = o.map canonPart ∧
    skipWs (optP (fnPartP k fuel) (skipWs (B ++ (partChunk o w t ++ R)))).2 = skipWs R := by
  cases o with
  | none =>
    simp only [partChunk, List.nil_append, skipWs_blank hB, optP, hnone rfl, Option.map_none, skipWs_idem, and_self]
  | some p =>
    obtain ⟨hw, ht, hv, hf⟩ := ho p rfl
    have := fnPartP_text p hv k hk fuel hf t ht (B ++ w) ('\n' :: R) (blank_append hB hw)
    peg [partChunk, optP] at this ⊢
    peg [this, and_self]

theorem fnPartP_chunk_none (k k' : Str) (hk' : ValidIdent k') (hne : ∀ more, kw k (k' ++ more) = none) {o : Option FnPart}
    {w t : Str} {fuel : Nat} (ho : PartOK k' o w t fuel) {R : Str} (hR : fnPartP k fuel (skipWs R) = none) :
    fnPartP k fuel (skipWs (partChunk o w t ++ R)) = none := by
  cases o with
  | none => exact hR
  | some p =>
    obtain ⟨hw, ⟨itxt, _, rfl⟩, hv, hf⟩ := ho p rfl
    simp only [partChunk, List.append_assoc]
    exact fnPartP_other_none k k' hk' hne p.comment hv.1 fuel (by unfold partFuel at hf; omega) _ w hw

theorem fnBodyFullP_text (a o e : Option FnPart) (hva : ∀ p, a = some p → ValidPart p) (hvo : ∀ p, o = some p → ValidPart p)
    (hve : ∀ p, e = some p → ValidPart p) (fuel : Nat) (hf : optPartFuel a + optPartFuel o + optPartFuel e < fuel)
    (wa ta wo to we te : Str)
    (ha : ∀ p, a = some p → Blank wa ∧ FnPartTexts p (chars! "args") ta)
    (ho : ∀ p, o = some p → Blank wo ∧ FnPartTexts p (chars! "ok") to)
    (he : ∀ p, e = some p → Blank we ∧ FnPartTexts p (chars! "err") te) (rest : Str) :
    fnBodyFullP fuel ('{' :: '\n' :: (partChunk a wa ta ++ (partChunk o wo to ++ (partChunk e we te ++ (chars! "    }" ++ rest)))))
      = some ((a.map canonPart, o.map canonPart, e.map canonPart), rest) := by
  have hA : PartOK (chars! "args") a wa ta fuel := fun p h =>
    ⟨(ha p h).1, (ha p h).2, hva p h, by simp only [optPartFuel, h] at hf; omega⟩
  have hO : PartOK (chars! "ok") o wo to fuel := fun p h =>
    ⟨(ho p h).1, (ho p h).2, hvo p h, by simp only [optPartFuel, h] at hf; omega⟩
  have hE : PartOK (chars! "err") e we te fuel := fun p h =>
    ⟨(he p h).1, (he p h).2, hve p h, by simp only [optPartFuel, h] at hf; omega⟩
  -- a part parser fails at the closing brace, hence also in front of the parts of other kinds before it
  have hclose : ∀ k : Str, (∀ more, kw k ('}' :: more) = none) → fnPartP k fuel (skipWs (chars! "    }" ++ rest)) = none :=
    fun k hk => fnPartP_close_none k hk fuel rest (chars! "    ") blank4
  obtain ⟨s1a, s1b⟩ := optPartP_stage (chars! "args") vi_args a wa ta ['\n'] _ fuel hA
    (fun _ => fnPartP_chunk_none _ _ vi_ok (fun _ => rfl) hO
      (fnPartP_chunk_none _ _ vi_err (fun _ => rfl) hE (hclose (chars! "args") fun _ => rfl))) blank_nl
  obtain ⟨s2a, s2b⟩ := optPartP_stage (chars! "ok") vi_ok o wo to [] _ fuel hO
    (fun _ => fnPartP_chunk_none _ _ vi_err (fun _ => rfl) hE (hclose (chars! "ok") fun _ => rfl)) blank_nil
  obtain ⟨s3a, s3b⟩ := optPartP_stage (chars! "err") vi_err e we te [] _ fuel hE
    (fun _ => hclose (chars! "err") fun _ => rfl) blank_nil
  peg [] at s1a s1b s2a s2b s3a s3b
  peg [fnBodyFullP, s1a, s1b, s2a, s2b, s3a, s3b]

theorem itemHeadP_text (k : Str) {name id : Str} (hn : ValidIdent name) (hi : ValidInt id) (rest : Str) (hr : NoDigit rest) :
    itemHeadP k (k ++ (' ' :: (name ++ (' ' :: '@' :: ' ' :: (id ++ rest))))) = some ((name, id), skipWs rest) := by
  simp only [itemHeadP, kwWs_blank, skipWs_space, skipWs_ident hn, nameIdP_text hn hi hr]

theorem eqInlineP_text (t : TypeOrInline) (hv : ValidInline t) (ind fuel : Nat) (hf : inlineFuel t < fuel) (itxt : Str)
    (hit : InlineTexts t ind itxt) (rest : Str) :
    eqInlineP fuel ('=' :: ' ' :: (itxt ++ rest)) = some (canonInline t, rest) := by
  peg [eqInlineP, skipWs_inlineTxt t hv ind itxt hit, typeOrInlineP_text t hv ind fuel hf itxt hit rest]

theorem preludeP_serviceItem {cm dc : List Line} (hvc : ValidLines 2 cm) (hvd : ValidLines 3 dc) {k : Str} (hk : ValidIdent k)
    {fuel : Nat} (hf : cm.length + dc.length < fuel) {w : Str} (hw : Blank w) (more : Str) :
    preludeP true true false fuel (skipWs (w ++ (joined (preItems cm dc [] 4) ++ (chars! "    " ++ (k ++ more)))))
      = ((preItems cm dc [] 4).map (·.1), k ++ more) :=
  preludeP_item (preOK_lines hvc hvd hf false) hw 4 blank4 (idHead_ident hk) more

/-- `X` is the text of the body of the function or event. -/
theorem itemHead_text (k : Str) (hk : ValidIdent k) {cm dc : List Line} (hvc : ValidLines 2 cm) (hvd : ValidLines 3 dc)
    {name id : Str} (hn : ValidIdent name) (hi : ValidInt id) {fuel : Nat} (hf : cm.length + dc.length < fuel)
    (X : Str) (hX : NoDigit X) (w : Str) (hw : Blank w) :
    ∃ pre, preludeP true true false fuel (skipWs (w ++ ((joined (preItems cm dc [] 4) ++
        (chars! "    " ++ (k ++ (' ' :: (name ++ (' ' :: '@' :: ' ' :: id)))))) ++ X))) = (pre, k ++ (' ' :: (name ++ (' ' :: '@' :: ' ' :: (id ++ X))))) ∧
      preComments pre = cm.map canonC ∧ preDocs pre = dc.map canonD ∧
      itemHeadP k (k ++ (' ' :: (name ++ (' ' :: '@' :: ' ' :: (id ++ X))))) = some ((name, id), skipWs X) := by
  refine ⟨_, ?_, preComments_preItems cm dc [] 4, preDocs_preItems cm dc [] 4, itemHeadP_text k hn hi X hX⟩
  simpa only [List.append_assoc, List.cons_append] using
    preludeP_serviceItem hvc hvd hk hf hw (' ' :: (name ++ (' ' :: '@' :: ' ' :: (id ++ X))))

theorem fnDefP_text (f : FnDef) (hv : ValidFn f) (fuel : Nat) (hf : fnFuel f ≤ fuel) (txt : Str) (ht : FnTexts f txt)
    (w rest : Str) (hw : Blank w) : fnDefP fuel (skipWs (w ++ (txt ++ rest))) = some (canonFn f, rest) := by
  obtain ⟨hvc, hvd, hn, hi, hva, hvo, hve⟩ := hv
  obtain ⟨X, rfl, hnd, hbody⟩ : ∃ X, txt = fnHead f ++ X ∧ NoDigit (X ++ rest) ∧
      fnBodyP fuel (skipWs (X ++ rest)) = some ((f.args.map canonPart, f.ok.map canonPart, f.err.map canonPart), rest) := by
    unfold FnTexts at ht
    split at ht
    · obtain ⟨wa, ta, wo, to, we, te, ha, ho, he, rfl⟩ := ht
      have := fnBodyFullP_text f.args f.ok f.err hva hvo hve fuel (by unfold fnFuel at hf; omega) wa ta wo to we te ha ho he rest
      peg [] at this
      exact ⟨_, rfl, noDigit_cons _ (by decide), by peg [fnBodyP, this]⟩
    · next hc =>
      simp only [Bool.or_eq_true, not_or, Bool.not_eq_true, Option.isSome_eq_false_iff, Option.isNone_iff_eq_none] at hc
      obtain ⟨⟨hargs, hokc⟩, herr⟩ := hc
      cases hok : f.ok with
      | none =>
        simp only [hok] at ht
        exact ⟨_, ht, noDigit_cons _ (by decide), by peg [fnBodyP, fnBodyFullP, eqInlineP, hargs, herr, hok]⟩
      | some ok =>
        simp only [hok] at ht
        obtain ⟨itxt, hit, rfl⟩ := ht
        have hfo : inlineFuel ok.ty < fuel := by
          unfold fnFuel at hf; simp [optPartFuel, hok, partFuel] at hf; omega
        have hcm : ok.comment = [] := by
          simp only [okHasComment, hok, Bool.not_eq_false', List.isEmpty_iff] at hokc; exact hokc
        exact ⟨_, rfl, noDigit_cons _ (by decide), by
          peg [fnBodyP, fnBodyFullP, eqInlineP_text ok.ty (hvo ok hok).2 4 fuel hfo itxt hit rest, hargs, herr, hok,
            canonPart, hcm, List.map_nil]⟩
  obtain ⟨pre, hpre, hc, hd, hhead⟩ := itemHead_text (chars! "fn") vi_fn hvc hvd hn hi
    (fuel := fuel) (by unfold fnFuel at hf; omega) (X ++ rest) hnd w hw
  simp only [fnHead, List.append_assoc, List.cons_append, List.nil_append] at hpre hhead ⊢
  simp only [fnDefP, hpre, hhead, hbody, hc, hd, canonFn]

def ValidEvent (e : EventDef) : Prop :=
  ValidLines 2 e.comment ∧ ValidLines 3 e.doc ∧ ValidIdent e.name ∧ ValidInt e.id ∧ (∀ t, e.ty = some t → ValidInline t)

def canonEvent (e : EventDef) : EventDef :=
  { e with comment := e.comment.map canonC, doc := e.doc.map canonD, ty := e.ty.map canonInline }

def eventFuel (e : EventDef) : Nat :=
  e.comment.length + e.doc.length + (match e.ty with | some t => inlineFuel t + 1 | none => 0) + 1

def eventHead (e : EventDef) : Str :=
  joined (preItems e.comment e.doc [] 4) ++ (chars! "    event " ++ (e.name ++ (' ' :: '@' :: ' ' :: e.id)))

def EventTexts (e : EventDef) (txt : Str) : Prop :=
  match e.ty with
  | some t => ∃ itxt, InlineTexts t 4 itxt ∧ txt = eventHead e ++ (' ' :: '=' :: ' ' :: itxt)
  | none => txt = eventHead e ++ [';']

theorem emits_eventF (e : EventDef) : Emits (eventF e) (EventTexts e) :=
  emits_line (newlineItem_out _ _) fun st => by
    unfold EventTexts
    simp only [seqF_cons, seqF_nil, setNewline_out]
    cases hty : e.ty with
    | none => exact ⟨_, rfl, by simp only [seqF_cons, seqF_nil, nl_out, w_out, prelude_out, eventHead, List.append_assoc]; rfl⟩
    | some t =>
      obtain ⟨itxt, hit, hout⟩ := eqInlineF_out t 4
        (w e.id (w (chars! " @ ") (w e.name (w (chars! "    event ") (prelude e.comment e.doc [] 4 false st)))))
      exact ⟨_, ⟨itxt, hit, rfl⟩, by simp only [hout, w_out, prelude_out, eventHead, List.append_assoc]; rfl⟩

theorem eventDefP_text (e : EventDef) (hv : ValidEvent e) (fuel : Nat) (hf : eventFuel e ≤ fuel) (txt : Str)
    (ht : EventTexts e txt) (w rest : Str) (hw : Blank w) :
    eventDefP fuel (skipWs (w ++ (txt ++ rest))) = some (canonEvent e, rest) := by
  obtain ⟨hvc, hvd, hn, hi, hvt⟩ := hv
  unfold eventFuel at hf
  obtain ⟨X, rfl, hnd, hbody⟩ : ∃ X, txt = eventHead e ++ X ∧ NoDigit (X ++ rest) ∧
      eventBodyP fuel (skipWs (X ++ rest)) = some (e.ty.map canonInline, rest) := by
    unfold EventTexts at ht
    cases hty : e.ty with
    | none =>
      simp only [hty] at ht
      exact ⟨_, ht, noDigit_cons _ (by decide), by peg [eventBodyP, eqInlineP]⟩
    | some t =>
      simp only [hty] at ht hf
      obtain ⟨itxt, hit, rfl⟩ := ht
      exact ⟨_, rfl, noDigit_cons _ (by decide), by
        peg [eventBodyP, eqInlineP_text t (hvt t hty) 4 fuel (by omega) itxt hit rest]⟩
  obtain ⟨pre, hpre, hc, hd, hhead⟩ := itemHead_text (chars! "event") vi_event hvc hvd hn hi
    (fuel := fuel) (by omega) (X ++ rest) hnd w hw
  simp only [eventHead, List.append_assoc, List.cons_append, List.nil_append] at hpre hhead ⊢
  simp only [eventDefP, hpre, hhead, hbody, hc, hd, canonEvent]

def itemFallbackText (fb : Fallback) (k : Str) : Str :=
  joined (preItems fb.comment fb.doc [] 4) ++ (chars! "    " ++ (k ++ (' ' :: (fb.name ++ chars! " = fallback;"))))

theorem emits_itemFallbackF (fb : Fallback) (k : Str) : Emits (itemFallbackF fb k) (fun t => t = itemFallbackText fb k) :=
  emits_line (newlineWithFirst_out _) fun st => ⟨_, rfl, by
    simp only [seqF, w_out, nl_out, prelude_out, setNewline_out, id, itemFallbackText, List.append_assoc, List.cons_append,
      List.nil_append]⟩

theorem itemFallbackP_text (fb : Fallback) (hv : ValidFallback fb) (k : Str) (hk : ValidIdent k) (fuel : Nat)
    (hf : fb.comment.length + fb.doc.length < fuel) (w rest : Str) (hw : Blank w) :
    itemFallbackP k fuel (skipWs (w ++ (itemFallbackText fb k ++ rest))) = some (canonFallback fb, rest) := by
  obtain ⟨hvc, hvd, hn⟩ := hv
  have hto := preludeP_serviceItem hvc hvd hk hf hw (' ' :: (fb.name ++ (chars! " = fallback;" ++ rest)))
  have htail := fallbackTailP_text hn rest
  simp only [itemFallbackText, List.append_assoc, List.cons_append, List.nil_append] at hto htail ⊢
  simp only [itemFallbackP, hto, kwWs_blank, skipWs_space, skipWs_ident hn, htail, preComments_preItems,
    preDocs_preItems, canonFallback]

def ValidItem : ServiceItem → Prop
  | .fn f => ValidFn f
  | .event e => ValidEvent e

def canonItem : ServiceItem → ServiceItem
  | .fn f => .fn (canonFn f)
  | .event e => .event (canonEvent e)

def ItemTexts (i : ServiceItem) (txt : Str) : Prop :=
  match i with
  | .fn f => FnTexts f txt
  | .event e => EventTexts e txt

def itemFuel : ServiceItem → Nat
  | .fn f => fnFuel f
  | .event e => eventFuel e

theorem eventText_head (e : EventDef) (txt : Str) (ht : EventTexts e txt) : ∃ X, txt = eventHead e ++ X := by
  unfold EventTexts at ht
  cases hty : e.ty with
  | none => simp only [hty] at ht; exact ⟨[';'], ht⟩
  | some t => simp only [hty] at ht; obtain ⟨itxt, _, rfl⟩ := ht; exact ⟨' ' :: '=' :: ' ' :: itxt, rfl⟩

theorem serviceItemP_text (i : ServiceItem) (hv : ValidItem i) (fuel : Nat) (hf : itemFuel i ≤ fuel) (txt : Str)
    (ht : ItemTexts i txt) (w rest : Str) (hw : Blank w) :
    serviceItemP fuel (skipWs (w ++ (txt ++ rest))) = some (canonItem i, rest) := by
  cases i with
  | fn f => simp only [serviceItemP, fnDefP_text f hv fuel hf txt ht w rest hw, canonItem]
  | event e =>
    have hev := eventDefP_text e hv fuel hf txt ht w rest hw
    obtain ⟨X, rfl⟩ := eventText_head e txt ht
    -- the function alternative stops at the keyword `event`
    have hto := preludeP_serviceItem hv.1 hv.2.1 vi_event (fuel := fuel) (by simp only [itemFuel, eventFuel] at hf; omega) hw
      (' ' :: (e.name ++ (' ' :: '@' :: ' ' :: e.id)) ++ (X ++ rest))
    simp only [eventHead, List.append_assoc, List.cons_append, List.nil_append] at hto hev ⊢
    peg [serviceItemP, fnDefP, hto, itemHeadP, hev, canonItem]

theorem serviceItemP_fallback_none (fb : Fallback) (hv : ValidFallback fb) (k : Str) (hk : k = chars! "fn" ∨ k = chars! "event")
    (fuel : Nat) (hf : fb.comment.length + fb.doc.length < fuel) (w rest : Str) (hw : Blank w) :
    serviceItemP fuel (skipWs (w ++ (itemFallbackText fb k ++ rest))) = none := by
  obtain ⟨hvc, hvd, hn⟩ := hv
  have hnid := nameIdP_eq_none hn (chars! " fallback;" ++ rest)
  have hto := preludeP_serviceItem hvc hvd (k := k) (by rcases hk with rfl | rfl; exact vi_fn; exact vi_event) hf hw
    (' ' :: (fb.name ++ (chars! " = fallback;" ++ rest)))
  rcases hk with rfl | rfl <;>
    simp only [itemFallbackText, List.append_assoc, List.cons_append, List.nil_append] at hto hnid ⊢ <;>
    peg [serviceItemP, fnDefP, eventDefP, hto, itemHeadP, skipWs_ident hn, hnid]

theorem serviceItemP_close_none (fuel : Nat) (more : Str) : serviceItemP fuel ('}' :: more) = none := by
  peg [serviceItemP, fnDefP, eventDefP, preludeP_close, itemHeadP]

theorem itemFallbackP_close_none (k : Str) (hk : ∀ more, kw k ('}' :: more) = none) (fuel : Nat) (more : Str) :
    itemFallbackP k fuel ('}' :: more) = none := by
  simp only [itemFallbackP, preludeP_close, kwWs_none (hk more)]

theorem itemFallbackP_other_none (fb : Fallback) (hv : ValidFallback fb) (fuel : Nat)
    (hf : fb.comment.length + fb.doc.length < fuel) (w rest : Str) (hw : Blank w) :
    itemFallbackP (chars! "fn") fuel (skipWs (w ++ (itemFallbackText fb (chars! "event") ++ rest))) = none := by
  have hto := preludeP_serviceItem hv.1 hv.2.1 vi_event hf hw (' ' :: (fb.name ++ (chars! " = fallback;" ++ rest)))
  simp only [itemFallbackText, List.append_assoc, List.cons_append, List.nil_append] at hto ⊢
  peg [itemFallbackP, hto]

def itemFbPart (fb : Option Fallback) (k w : Str) : Str :=
  match fb with
  | some f => w ++ (itemFallbackText f k ++ ['\n'])
  | none => []

theorem emits_serviceItemF (i : ServiceItem) : Emits (serviceItemF i) (ItemTexts i) := by
  cases i with
  | fn f => exact emits_fnDefF f
  | event e => exact emits_eventF e

theorem optFallbackF_out (fb : Option Fallback) (pre : F) (hpre : ∀ s, (pre s).out = s.out) (k : Str) (s : FSt) :
    ∃ w, Blank w ∧ (optFallbackF fb pre k s).out = s.out ++ itemFbPart fb k w := by
  cases fb with
  | none => exact ⟨[], blank_nil, by simp [itemFbPart, optFallbackF]⟩
  | some f =>
    obtain ⟨w, txt, hw, rfl, hout⟩ := emits_itemFallbackF f k (pre s)
    exact ⟨w, hw, by simp [optFallbackF, seqF, hout, hpre, itemFbPart]⟩

theorem itemsF_out (items : List ServiceItem) (fnFb evFb : Option Fallback) (st : FSt) :
    ∃ wts wf we, BlockRel ItemTexts items wts ∧ Blank wf ∧ Blank we ∧
      (itemsF items fnFb evFb st).out = st.out ++ (joined (blockItems canonItem items wts) ++
        (itemFbPart fnFb (chars! "fn") wf ++ itemFbPart evFb (chars! "event") we)) := by
  obtain ⟨wts, hrel, hout⟩ := forF_emits canonItem serviceItemF ItemTexts items (fun i _ => emits_serviceItemF i)
    ({ st with lastItem := none })
  obtain ⟨wf, hwf, houtf⟩ := optFallbackF_out fnFb (orNewline (evFb.isSome || items.any (fun i => !isFn i))) (fun _ => rfl)
    (chars! "fn") (forF items serviceItemF { st with lastItem := none })
  obtain ⟨we, hwe, houte⟩ := optFallbackF_out evFb (orNewline (fallbackMulti fnFb || (fnFb.isNone && items.any isFn))) (fun _ => rfl)
    (chars! "event") (optFallbackF fnFb (orNewline (evFb.isSome || items.any (fun i => !isFn i))) (chars! "fn")
      (forF items serviceItemF { st with lastItem := none }))
  refine ⟨wts, wf, we, hrel, hwf, hwe, ?_⟩
  simp only [itemsF, seqF_cons, seqF_nil, houte, houtf, hout, List.append_assoc]

theorem serviceFallbackP_text (fnFb evFb : Option Fallback) (wf we rest : Str) (fuel : Nat)
    (hvf : ∀ f, fnFb = some f → ValidFallback f ∧ f.comment.length + f.doc.length < fuel)
    (hve : ∀ f, evFb = some f → ValidFallback f ∧ f.comment.length + f.doc.length < fuel)
    (hwf : Blank wf) (hwe : Blank we) :
    ∃ r, serviceFallbackOptP fuel (skipWs (itemFbPart fnFb (chars! "fn") wf ++ (itemFbPart evFb (chars! "event") we ++ '}' :: rest)))
      = ((fnFb.map canonFallback, evFb.map canonFallback), r) ∧ skipWs r = '}' :: rest := by
  have hbrace : skipWs ('}' :: rest) = '}' :: rest := skipWs_cons_nws (by decide) _
  have hcf := itemFallbackP_close_none (chars! "fn") (fun _ => rfl) fuel rest
  have hce := itemFallbackP_close_none (chars! "event") (fun _ => rfl) fuel rest
  unfold serviceFallbackOptP
  cases fnFb with
  | none =>
    cases evFb with
    | none => exact ⟨'}' :: rest, by simp [itemFbPart, hbrace, serviceFallbackP, hcf, hce], hbrace⟩
    | some e =>
      obtain ⟨hv, hf⟩ := hve e rfl
      have h1 := itemFallbackP_other_none e hv fuel hf we ('\n' :: '}' :: rest) hwe
      have h2 := itemFallbackP_text e hv (chars! "event") vi_event fuel hf we ('\n' :: '}' :: rest) hwe
      refine ⟨'}' :: rest, ?_, hbrace⟩
      simp only [itemFbPart, List.nil_append, List.append_assoc, List.cons_append]
      simp [serviceFallbackP, h1, h2, optP, hbrace, hcf]
  | some f =>
    obtain ⟨hv, hf⟩ := hvf f rfl
    cases evFb with
    | none =>
      have h1 := itemFallbackP_text f hv (chars! "fn") vi_fn fuel hf wf ('\n' :: '}' :: rest) hwf
      refine ⟨'}' :: rest, ?_, hbrace⟩
      simp only [itemFbPart, List.nil_append, List.append_assoc, List.cons_append]
      simp [serviceFallbackP, h1, optP, hbrace, hce]
    | some e =>
      obtain ⟨hve', hfe⟩ := hve e rfl
      have h1 := itemFallbackP_text f hv (chars! "fn") vi_fn fuel hf wf
        ('\n' :: (we ++ (itemFallbackText e (chars! "event") ++ '\n' :: '}' :: rest))) hwf
      have h2 := itemFallbackP_text e hve' (chars! "event") vi_event fuel hfe ('\n' :: we) ('\n' :: '}' :: rest)
        (blank_append blank_nl hwe)
      refine ⟨'\n' :: '}' :: rest, ?_, by simp [hbrace]⟩
      simp only [itemFbPart, List.append_assoc, List.cons_append, List.nil_append, skipWs_newline] at h2 ⊢
      simp [serviceFallbackP, h1, h2, optP]

theorem serviceBodyP_text (items : List ServiceItem) (fnFb evFb : Option Fallback) (wts : List (Str × Str)) (wf we rest : Str)
    (fuel : Nat) (hrel : BlockRel ItemTexts items wts) (hvi : ∀ i ∈ items, ValidItem i ∧ itemFuel i ≤ fuel)
    (hvf : ∀ f, fnFb = some f → ValidFallback f ∧ f.comment.length + f.doc.length < fuel)
    (hve : ∀ f, evFb = some f → ValidFallback f ∧ f.comment.length + f.doc.length < fuel)
    (hwf : Blank wf) (hwe : Blank we) (hfuel : items.length < fuel) :
    serviceBodyP fuel (skipWs (joined (blockItems canonItem items wts) ++
        (itemFbPart fnFb (chars! "fn") wf ++ (itemFbPart evFb (chars! "event") we ++ '}' :: rest))))
      = some ((items.map canonItem, fnFb.map canonFallback, evFb.map canonFallback), rest) := by
  have hend : serviceItemP fuel (skipWs (itemFbPart fnFb (chars! "fn") wf ++ (itemFbPart evFb (chars! "event") we ++ '}' :: rest))) = none := by
    cases fnFb with
    | some f =>
      simp only [itemFbPart, List.append_assoc]
      exact serviceItemP_fallback_none f (hvf f rfl).1 _ (Or.inl rfl) fuel (hvf f rfl).2 wf _ hwf
    | none =>
      cases evFb with
      | some e =>
        simp only [itemFbPart, List.nil_append, List.append_assoc]
        exact serviceItemP_fallback_none e (hve e rfl).1 _ (Or.inr rfl) fuel (hve e rfl).2 we _ hwe
      | none => peg [itemFbPart, serviceItemP_close_none]
  obtain ⟨hm1, hm2⟩ := many_block canonItem ItemTexts (serviceItemP fuel) items wts _ fuel hrel
    (fun i hi => serviceItemP_text i (hvi i hi).1 fuel (hvi i hi).2) hend hfuel
  obtain ⟨r, hfb, hr⟩ := serviceFallbackP_text fnFb evFb wf we rest fuel hvf hve hwf hwe
  peg [serviceBodyP, hm1, hm2, hfb, hr]

def ValidService (d : ServiceDef) : Prop :=
  ValidLines 2 d.comment ∧ ValidLines 3 d.doc ∧ ValidIdent d.name ∧ ValidLines 2 d.uuidComment ∧ ValidUuid d.uuid ∧
  ValidLines 2 d.versionComment ∧ ValidInt d.version ∧ (∀ i ∈ d.items, ValidItem i) ∧
  (∀ f, d.fnFallback = some f → ValidFallback f) ∧ (∀ f, d.evFallback = some f → ValidFallback f)

def canonService (d : ServiceDef) : ServiceDef :=
  { d with comment := d.comment.map canonC, doc := d.doc.map canonD, uuidComment := d.uuidComment.map canonC,
           versionComment := d.versionComment.map canonC, items := d.items.map canonItem,
           fnFallback := d.fnFallback.map canonFallback, evFallback := d.evFallback.map canonFallback }

def serviceFuel (d : ServiceDef) : Nat :=
  d.comment.length + d.doc.length + d.uuidComment.length + d.versionComment.length + d.items.length +
  listMax (d.items.map itemFuel) + fallbackFuel d.fnFallback + fallbackFuel d.evFallback + 1

def serviceHeadText (d : ServiceDef) : Str :=
  joined (preItems d.comment d.doc [] 0) ++ (chars! "service " ++ (d.name ++ (chars! " {\n" ++
    (joined (preItems d.uuidComment [] [] 4) ++ (chars! "    uuid = " ++ (d.uuid ++ (chars! ";\n" ++
      (nlIf (!d.uuidComment.isEmpty || !d.versionComment.isEmpty) ++
        (joined (preItems d.versionComment [] [] 4) ++ (chars! "    version = " ++ (d.version ++ chars! ";\n")))))))))))

def ServiceTexts (d : ServiceDef) (txt : Str) : Prop :=
  ∃ wts wf we, BlockRel ItemTexts d.items wts ∧ Blank wf ∧ Blank we ∧
    txt = serviceHeadText d ++ (joined (blockItems canonItem d.items wts) ++
      (itemFbPart d.fnFallback (chars! "fn") wf ++ (itemFbPart d.evFallback (chars! "event") we ++ ['}'])))

theorem emits_serviceF (d : ServiceDef) : Emits (serviceF d) (ServiceTexts d) :=
  emits_line (newlineDef_out _ _) fun st => by
    obtain ⟨wts, wf, we, hrel, hwf, hwe, hitems⟩ := itemsF_out d.items d.fnFallback d.evFallback (setNewline true
      (nl (w (chars! ";") (w d.version (w (chars! "    version = ") (prelude d.versionComment [] [] 4 false
        ((if !d.uuidComment.isEmpty || !d.versionComment.isEmpty then nl else id) (nl (w (chars! ";") (w d.uuid
          (w (chars! "    uuid = ") (prelude d.uuidComment [] [] 4 false (nl (w (chars! " {") (w d.name
            (w (chars! "service ") (prelude d.comment d.doc [] 0 false st)))))))))))))))))
    refine ⟨_, ⟨wts, wf, we, hrel, hwf, hwe, rfl⟩, ?_⟩
    have hnl : ∀ s : FSt, ((if (!d.uuidComment.isEmpty || !d.versionComment.isEmpty) = true then nl else id) s).out
        = s.out ++ nlIf (!d.uuidComment.isEmpty || !d.versionComment.isEmpty) := by
      intro s; unfold nlIf; split <;> simp [nl_out]
    simp only [seqF_cons, seqF_nil, setNewline_out, nl_out, w_out, hitems, hnl, prelude_out, serviceHeadText,
      List.append_assoc]
    rfl

theorem kwEqLitP_text (k : Str) (hk : ValidIdent k) (p : P Str) (cm : List Line) (hvc : ValidLines 2 cm) (v : Str)
    (hsk : ∀ tail, skipWs (v ++ tail) = v ++ tail) (hp : ∀ tail, p (v ++ (';' :: tail)) = some (v, ';' :: tail))
    (fuel : Nat) (hf : cm.length < fuel) (w rest : Str) (hw : Blank w) :
    kwEqLitP k p fuel (skipWs (w ++ (joined (preItems cm [] [] 4) ++ (chars! "    " ++ (k ++ (chars! " = " ++ (v ++ (chars! ";\n" ++ rest))))))))
      = some ((cm.map canonC, v), skipWs rest) := by
  have hpre := preludeP_item (preOK_comments hvc hf false false) hw 4 blank4 (idHead_ident hk) (chars! " = " ++ (v ++ (chars! ";\n" ++ rest)))
  peg [] at hpre
  peg [kwEqLitP, hpre, kw_append, hsk, hp, preComments_preItems]

theorem serviceDefP_text (d : ServiceDef) (hv : ValidService d) (fuel : Nat) (hf : serviceFuel d ≤ fuel)
    (txt : Str) (ht : ServiceTexts d txt) (w rest : Str) (hw : Blank w) :
    serviceDefP fuel (skipWs (w ++ (txt ++ rest))) = some (canonService d, rest) := by
  obtain ⟨hvc, hvd, hn, hvuc, hvu, hvvc, hvv, hvi, hvff, hvef⟩ := hv
  obtain ⟨wts, wf, we, hrel, hwf, hwe, rfl⟩ := ht
  unfold serviceFuel at hf
  have hopen := fun more => defOpenP_text (chars! "service") hn more
  have huuid := fun rest => kwEqLitP_text (chars! "uuid") ⟨'u', chars! "uid", rfl, by decide, by decide⟩ litUuidP
    d.uuidComment hvuc d.uuid (skipWs_validUuid hvu) (fun _ => litUuidP_append hvu) fuel (by omega) ['\n'] rest blank_nl
  have hver := fun rest => kwEqLitP_text (chars! "version") ⟨'v', chars! "ersion", rfl, by decide, by decide⟩ litIntP
    d.versionComment hvvc d.version (skipWs_validInt hvv) (fun _ => litIntP_append hvv (noDigit_cons _ (by decide))) fuel
    (by omega) (nlIf (!d.uuidComment.isEmpty || !d.versionComment.isEmpty)) rest (blank_nlIf _)
  have hbody := serviceBodyP_text d.items d.fnFallback d.evFallback wts wf we rest fuel hrel
    (fun i hi => ⟨hvi i hi, by have := le_listMax_map itemFuel hi; omega⟩)
    (fun f hfb => ⟨hvff f hfb, by simp [fallbackFuel, hfb] at hf; omega⟩)
    (fun f hfb => ⟨hvef f hfb, by simp [fallbackFuel, hfb] at hf; omega⟩) hwf hwe (by omega)
  peg [] at hopen huuid hver
  peg [serviceDefP, serviceHeadText, preludeP_text (preOK_lines hvc hvd (fuel := fuel) (by omega) false) hw,
    preItemP_cons_none, hopen, huuid, hver, hbody, preComments_preItems, preDocs_preItems, canonService]

end Aldrin.Schema
