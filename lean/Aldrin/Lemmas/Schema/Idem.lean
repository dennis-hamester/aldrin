/-
The formatter looks at comment and doc lines only through their inner text, and sorting sorted imports changes
nothing: formatting the canonical form of a schema gives the same text as formatting the schema
(`format_of_canonical_form`, Props/C18.lean). Here: the same for every function of the formatter.
-/
import Aldrin.Lemmas.Schema.Schema

namespace Aldrin.Schema

theorem forF_map {α β : Type} (l : List α) (g : α → β) (f : β → F) : forF (l.map g) f = forF l (fun a => f (g a)) := by
  funext st; simp only [forF, List.foldl_map]

theorem canonLine_inner_idem (pre : Str) (k : Nat) (raw : Line) (hk : pre.length = k) :
    inner k (canonLine pre (inner k raw)) = inner k raw := by
  subst hk
  exact inner_canonLine pre _ (inner_trimmed _ raw)

theorem inner_canonC (l : Line) : inner 2 (canonC l) = inner 2 l := canonLine_inner_idem (chars! "//") 2 l rfl
theorem inner_canonD (l : Line) : inner 3 (canonD l) = inner 3 l := canonLine_inner_idem (chars! "///") 3 l rfl
theorem inner_canonDI (l : Line) : inner 3 (canonDI l) = inner 3 l := canonLine_inner_idem (chars! "//!") 3 l rfl

theorem commentLines_canon (cm : List Line) (ind : Nat) : commentLines (cm.map canonC) ind = commentLines cm ind := by
  simp only [commentLines, forF_map, inner_canonC]

theorem docLines_canon {c : Line → Line} (hc : ∀ l, inner 3 (c l) = inner 3 l) (dc : List Line) (ind : Nat) (style : Str) :
    docLines (dc.map c) ind style = docLines dc ind style := by
  simp only [docLines, forF_map, hc]

theorem prelude_canonC (cm dc : List Line) (ats : List Attribute) (ind : Nat) (inline : Bool) :
    prelude (cm.map canonC) dc ats ind inline = prelude cm dc ats ind inline := by
  simp only [prelude, commentLines_canon]

theorem prelude_canon_doc {c : Line → Line} (hc : ∀ l, inner 3 (c l) = inner 3 l) (cm dc : List Line) (ats : List Attribute)
    (ind : Nat) (inline : Bool) : prelude cm (dc.map c) ats ind inline = prelude cm dc ats ind inline := by
  simp only [prelude, docLines_canon hc]

theorem fieldF_canon (f : StructField) (ind : Nat) : fieldF (canonField f) ind = fieldF f ind := by
  -- `unfold`, not `simp only [canonField]`: it also rewrites inside the `Decidable` instance of `if f.required`
  unfold canonField
  simp only [fieldF, List.isEmpty_map, prelude_canonC, prelude_canon_doc inner_canonD]

theorem variantF_canon (v : EnumVariant) (ind : Nat) : variantF (canonVariant v) ind = variantF v ind := by
  simp only [variantF, canonVariant, List.isEmpty_map, prelude_canonC, prelude_canon_doc inner_canonD]

theorem fallbackEntryF_canon (fb : Fallback) (ind : Nat) : fallbackEntryF (canonFallback fb) ind = fallbackEntryF fb ind := by
  simp only [fallbackEntryF, canonFallback, List.isEmpty_map, prelude_canonC, prelude_canon_doc inner_canonD]

theorem fieldsF_canon (fs : List StructField) (fb : Option Fallback) (ind : Nat) :
    fieldsF (fs.map canonField) (fb.map canonFallback) ind = fieldsF fs fb ind := by
  cases fb <;> simp only [fieldsF, Option.map_some, Option.map_none, forF_map, fieldF_canon, fallbackEntryF_canon]

theorem variantsF_canon (vs : List EnumVariant) (fb : Option Fallback) (ind : Nat) :
    variantsF (vs.map canonVariant) (fb.map canonFallback) ind = variantsF vs fb ind := by
  cases fb <;> simp only [variantsF, Option.map_some, Option.map_none, forF_map, variantF_canon, fallbackEntryF_canon]

theorem structDefF_canon (d : StructDef) : structDefF (canonStruct d) = structDefF d := by
  unfold structDefF canonStruct isMultiStruct
  simp only [List.isEmpty_map, Option.isSome_map, prelude_canonC, prelude_canon_doc inner_canonD, fieldsF_canon]

theorem enumDefF_canon (d : EnumDef) : enumDefF (canonEnum d) = enumDefF d := by
  unfold enumDefF canonEnum isMultiEnum
  simp only [List.isEmpty_map, Option.isSome_map, prelude_canonC, prelude_canon_doc inner_canonD, variantsF_canon]

theorem inlineStructF_canon (s : InlineStruct) (ind : Nat) : inlineStructF (canonInlineStruct s) ind = inlineStructF s ind := by
  unfold inlineStructF canonInlineStruct isMultiStruct
  simp only [List.isEmpty_map, Option.isSome_map, prelude_canon_doc inner_canonDI, fieldsF_canon]

theorem inlineEnumF_canon (e : InlineEnum) (ind : Nat) : inlineEnumF (canonInlineEnum e) ind = inlineEnumF e ind := by
  unfold inlineEnumF canonInlineEnum isMultiEnum
  simp only [List.isEmpty_map, Option.isSome_map, prelude_canon_doc inner_canonDI, variantsF_canon]

theorem typeOrInlineF_canon (ind : Nat) : ∀ t : TypeOrInline, typeOrInlineF (canonInline t) ind = typeOrInlineF t ind
  | .ty _ => rfl
  | .struct s => inlineStructF_canon s ind
  | .enum e => inlineEnumF_canon e ind

theorem isTypeName_canon (t : TypeOrInline) : isTypeName (canonInline t) = isTypeName t := by cases t <;> rfl

theorem isMulti_canon (t : TypeOrInline) : isMultiTypeOrInline (canonInline t) = isMultiTypeOrInline t := by
  cases t <;> simp only [isMultiTypeOrInline, canonInline, canonInlineStruct, canonInlineEnum, isMultiStruct, isMultiEnum,
    List.isEmpty_map, Option.isSome_map]

theorem eqInlineF_canon (t : TypeOrInline) (ind : Nat) : eqInlineF (canonInline t) ind = eqInlineF t ind := by
  simp only [eqInlineF, typeOrInlineF_canon, isTypeName_canon]

theorem fnPartF_canon (p : FnPart) (k : Str) : fnPartF (canonPart p) k = fnPartF p k := by
  simp only [fnPartF, canonPart, List.isEmpty_map, isMulti_canon, prelude_canonC, typeOrInlineF_canon, isTypeName_canon]

theorem optPartF_canon (k : Str) : ∀ o : Option FnPart, optPartF (o.map canonPart) k = optPartF o k
  | none => rfl
  | some p => fnPartF_canon p k

theorem fnMulti_canon (f : FnDef) : fnMulti (canonFn f) = fnMulti f := by
  simp only [fnMulti, canonFn, List.isEmpty_map, Option.isSome_map]
  cases f.ok <;> simp only [Option.map_some, Option.map_none, canonPart, List.isEmpty_map, isMulti_canon]

theorem okHasComment_canon (f : FnDef) : okHasComment (canonFn f) = okHasComment f := by
  simp only [okHasComment, canonFn]
  cases f.ok <;> simp only [Option.map_some, Option.map_none, canonPart, List.isEmpty_map]

theorem fnDefF_canon (f : FnDef) : fnDefF (canonFn f) = fnDefF f := by
  unfold fnDefF
  rw [fnMulti_canon, okHasComment_canon]
  simp only [canonFn, Option.isSome_map, prelude_canonC, prelude_canon_doc inner_canonD, optPartF_canon]
  -- what still differs is the `match` on the `ok` part
  cases f.ok <;> simp only [Option.map_some, Option.map_none, canonPart, eqInlineF_canon]

theorem eventF_canon (e : EventDef) : eventF (canonEvent e) = eventF e := by
  simp only [eventF, eventMulti, canonEvent, List.isEmpty_map, prelude_canonC, prelude_canon_doc inner_canonD]
  cases e.ty <;> simp only [Option.map_some, Option.map_none, isMulti_canon, eqInlineF_canon]

theorem serviceItemF_canon : ∀ i : ServiceItem, serviceItemF (canonItem i) = serviceItemF i
  | .fn f => fnDefF_canon f
  | .event e => eventF_canon e

theorem itemFallbackF_canon (fb : Fallback) (k : Str) : itemFallbackF (canonFallback fb) k = itemFallbackF fb k := by
  simp only [itemFallbackF, canonFallback, List.isEmpty_map, prelude_canonC, prelude_canon_doc inner_canonD]

theorem optFallbackF_canon (fb : Option Fallback) (pre : F) (k : Str) :
    optFallbackF (fb.map canonFallback) pre k = optFallbackF fb pre k := by
  cases fb <;> simp only [optFallbackF, Option.map_some, Option.map_none, itemFallbackF_canon]

theorem isFn_canon (i : ServiceItem) : isFn (canonItem i) = isFn i := by cases i <;> rfl

theorem fallbackMulti_canon (fb : Option Fallback) : fallbackMulti (fb.map canonFallback) = fallbackMulti fb := by
  cases fb <;> simp only [fallbackMulti, Option.map_some, Option.map_none, canonFallback, List.isEmpty_map]

theorem itemsF_canon (items : List ServiceItem) (fnFb evFb : Option Fallback) :
    itemsF (items.map canonItem) (fnFb.map canonFallback) (evFb.map canonFallback) = itemsF items fnFb evFb := by
  simp only [itemsF, List.any_map, Function.comp_def, isFn_canon, fallbackMulti_canon, Option.isSome_map, Option.isNone_map,
    forF_map, serviceItemF_canon, optFallbackF_canon]

theorem serviceF_canon (d : ServiceDef) : serviceF (canonService d) = serviceF d := by
  simp only [serviceF, canonService, List.isEmpty_map, prelude_canonC, prelude_canon_doc inner_canonD, itemsF_canon]

theorem newtypeF_canon (d : NewtypeDef) : newtypeF (canonNewtype d) = newtypeF d := by
  simp only [newtypeF, canonNewtype, List.isEmpty_map, prelude_canonC, prelude_canon_doc inner_canonD]

theorem constF_canon (d : ConstDef) : constF (canonConst d) = constF d := by
  simp only [constF, canonConst, List.isEmpty_map, prelude_canonC, prelude_canon_doc inner_canonD]

theorem definitionF_canon : ∀ d : Definition, definitionF (canonDef d) = definitionF d
  | .struct d => structDefF_canon d
  | .enum d => enumDefF_canon d
  | .service d => serviceF_canon d
  | .const d => constF_canon d
  | .newtype d => newtypeF_canon d

theorem importF_canon (i : Import) : importF (canonImport i) = importF i := by
  simp only [importF, canonImport, List.isEmpty_map, prelude_canonC]

theorem insertImport_cons (i j : Import) (r : List Import) :
    insertImport i (j :: r) = if strLt j.name i.name then j :: insertImport i r else i :: j :: r := rfl

theorem sortImports_cons (x : Import) (l : List Import) : sortImports (x :: l) = insertImport x (sortImports l) := rfl

theorem mem_insertImport {i j : Import} : ∀ {l : List Import}, j ∈ insertImport i l ↔ j = i ∨ j ∈ l
  | [] => List.mem_cons
  | x :: l => by
    rw [insertImport_cons]
    split
    · rw [List.mem_cons, mem_insertImport (l := l), List.mem_cons, or_left_comm]
    · exact List.mem_cons

theorem mem_sortImports {j : Import} : ∀ {l : List Import}, j ∈ sortImports l ↔ j ∈ l
  | [] => Iff.rfl
  | x :: l => by rw [sortImports_cons, mem_insertImport, mem_sortImports (l := l), List.mem_cons]

theorem length_insertImport (i : Import) : ∀ (l : List Import), (insertImport i l).length = l.length + 1
  | [] => rfl
  | x :: l => by unfold insertImport; split <;> simp [length_insertImport i l]

theorem length_sortImports : ∀ (l : List Import), (sortImports l).length = l.length
  | [] => rfl
  | x :: l => by simp [sortImports, length_insertImport, ← length_sortImports l]

def ikey (i : Import) : List Nat := i.name.map Char.toNat

theorem strLt_iff (a b : Import) : strLt a.name b.name = true ↔ ikey a < ikey b := by
  simp only [strLt, ikey, decide_eq_true_eq]

def SortedI (l : List Import) : Prop := l.Pairwise (fun a b => ikey a ≤ ikey b)

theorem insertImport_sorted (i : Import) (l : List Import) (h : SortedI l) : SortedI (insertImport i l) := by
  induction l with
  | nil => exact List.pairwise_singleton _ _
  | cons j r ih =>
    obtain ⟨hj, hr⟩ := List.pairwise_cons.1 h
    rw [insertImport_cons]
    split
    next hlt =>
      have hji : ikey j ≤ ikey i := List.le_of_lt ((strLt_iff j i).1 hlt)
      refine List.pairwise_cons.2 ⟨fun x hx => ?_, ih hr⟩
      rcases mem_insertImport.1 hx with rfl | hx
      · exact hji
      · exact hj x hx
    next hlt =>
      have hij : ikey i ≤ ikey j := List.not_lt.1 (fun h' => hlt ((strLt_iff j i).2 h'))
      refine List.pairwise_cons.2 ⟨fun x hx => ?_, h⟩
      rcases List.mem_cons.1 hx with rfl | hx
      · exact hij
      · exact List.le_trans hij (hj x hx)

theorem sortImports_sorted (l : List Import) : SortedI (sortImports l) := by
  induction l with
  | nil => exact List.Pairwise.nil
  | cons x l ih => exact insertImport_sorted x _ ih

theorem insertImport_of_le {x : Import} {l : List Import} (h : ∀ y ∈ l, ikey x ≤ ikey y) : insertImport x l = x :: l := by
  cases l with
  | nil => rfl
  | cons j r => exact if_neg fun hs => List.not_lt.2 (h j List.mem_cons_self) ((strLt_iff j x).1 hs)

theorem sortImports_of_sorted (l : List Import) (h : SortedI l) : sortImports l = l := by
  induction l with
  | nil => rfl
  | cons x l ih =>
    obtain ⟨hx, hl⟩ := List.pairwise_cons.1 h
    rw [sortImports_cons, ih hl, insertImport_of_le hx]

theorem sortImports_idem (l : List Import) : sortImports (sortImports l) = sortImports l :=
  sortImports_of_sorted _ (sortImports_sorted l)

theorem insertImport_map (g : Import → Import) (hg : ∀ i, (g i).name = i.name) (i : Import) (l : List Import) :
    insertImport (g i) (l.map g) = (insertImport i l).map g := by
  induction l with
  | nil => rfl
  | cons j r ih =>
    rw [List.map_cons, insertImport_cons, insertImport_cons, hg, hg, ih]
    split <;> rfl

theorem sortImports_map (g : Import → Import) (hg : ∀ i, (g i).name = i.name) (l : List Import) :
    sortImports (l.map g) = (sortImports l).map g := by
  induction l with
  | nil => rfl
  | cons x l ih => rw [List.map_cons, sortImports_cons, sortImports_cons, ih, insertImport_map g hg]

theorem importsF_canon (is : List Import) : importsF ((sortImports is).map canonImport) = importsF is := by
  simp only [importsF, sortImports_map canonImport (fun _ => rfl), sortImports_idem, List.isEmpty_map, forF_map, importF_canon]

end Aldrin.Schema
