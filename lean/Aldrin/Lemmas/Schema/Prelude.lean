/-
Attributes and preludes (the comments, doc strings and attributes in front of an item): what the formatter
writes is read back as the same lists, with every line in its canonical form.
-/
import Aldrin.Lemmas.Schema.Many
import Aldrin.Lemmas.Schema.Lines
import Aldrin.Lemmas.Schema.Types

namespace Aldrin.Schema

def Pure (f : F) (txt : Str) : Prop := ∀ st, f st = { st with out := st.out ++ txt }

theorem pure_seq2 {f g : F} {a b : Str} (hf : Pure f a) (hg : Pure g b) : Pure (seqF [f, g]) (a ++ b) := by
  intro st; simp [seqF, hf st, hg _]

theorem pure_match_opt {α : Type} {o : Option α} {f : α → F} {g : F} {a : α → Str} {b : Str}
    (hf : ∀ x, Pure (f x) (a x)) (hg : Pure g b) :
    Pure (match o with | some x => f x | none => g) (match o with | some x => a x | none => b) := by
  cases o <;> simp [hf, hg]

/-! What a formatter function appends to the output, whatever the state, is said by a lemma `…_out`. -/

theorem w_out (s : Str) (st : FSt) : (w s st).out = st.out ++ s := rfl
theorem nl_out (st : FSt) : (nl st).out = st.out ++ ['\n'] := rfl
theorem indent_out (n : Nat) (st : FSt) : (indent n st).out = st.out ++ List.replicate n ' ' := rfl

theorem seqF_nil (st : FSt) : seqF [] st = st := rfl
theorem seqF_cons (f : F) (fs : List F) (st : FSt) : seqF (f :: fs) st = seqF fs (f st) := rfl

theorem forF_out {α : Type} (f : α → F) (t : α → Str) : ∀ (l : List α), (∀ a ∈ l, ∀ st, (f a st).out = st.out ++ t a) →
    ∀ st, (forF l f st).out = st.out ++ (l.map t).flatten
  | [], _, st => by simp [forF]
  | a :: l, h, st => by
    have := forF_out f t l (fun b hb => h b (List.mem_cons_of_mem _ hb)) (f a st)
    simp only [forF, List.foldl_cons] at this ⊢
    rw [this, h a List.mem_cons_self st]
    simp

def nlIf (b : Bool) : Str := if b then ['\n'] else []

theorem blank_nlIf (b : Bool) : Blank (nlIf b) := by
  cases b
  · exact blank_nil
  · exact blank_nl

theorem newlineF_out (st : FSt) : (newlineF st).out = st.out ++ nlIf st.newline := by
  unfold newlineF nlIf nl w
  cases h : st.newline <;> simp [h]

theorem newlineWithFirst_out (m : Bool) (st : FSt) : ∃ b, (newlineWithFirst m st).out = st.out ++ nlIf b :=
  ⟨_, newlineF_out _⟩

theorem newlineDef_out (k : DefKind) (m : Bool) (st : FSt) : ∃ b, (newlineDef k m st).out = st.out ++ nlIf b := by
  unfold newlineDef
  split
  · split <;> exact newlineWithFirst_out m _
  · exact newlineWithFirst_out m _

theorem newlineItem_out (k : ItemKind) (m : Bool) (st : FSt) : ∃ b, (newlineItem k m st).out = st.out ++ nlIf b := by
  unfold newlineItem
  split
  · split <;> exact newlineWithFirst_out m _
  · exact newlineWithFirst_out m _

theorem ite_w_out (c : Prop) [Decidable c] (s : Str) (st : FSt) :
    ((if c then w s else id) st).out = st.out ++ (if c then s else []) := by
  split <;> simp [w]

@[simp] theorem setNewline_out (b : Bool) (st : FSt) : (setNewline b st).out = st.out := rfl
@[simp] theorem setFirst_out (b : Bool) (st : FSt) : (setFirst b st).out = st.out := rfl
@[simp] theorem orNewline_out (b : Bool) (st : FSt) : (orNewline b st).out = st.out := rfl

theorem emits_line {nl0 : F} (hnl : ∀ st, ∃ b, (nl0 st).out = st.out ++ nlIf b) {rest : List F} {T : Str → Prop}
    (h : ∀ st, ∃ txt, T txt ∧ (seqF rest st).out = st.out ++ (txt ++ ['\n'])) : Emits (seqF (nl0 :: rest)) T := by
  intro st
  obtain ⟨b, hb⟩ := hnl st
  obtain ⟨txt, ht, hout⟩ := h (nl0 st)
  exact ⟨nlIf b, txt, blank_nlIf b, ht, by rw [seqF_cons, hout, hb, List.append_assoc]⟩

theorem skipWs_indent (ind : Nat) (r : Str) : skipWs (List.replicate ind ' ' ++ r) = skipWs r :=
  skipWs_blank (blank_replicate ind) r

def ValidAttr (a : Attribute) : Prop := ValidIdent a.name ∧ ∀ o ∈ a.options, ValidIdent o

/-- Text of an attribute without its line end. -/
def attrText (a : Attribute) (inline : Bool) : Str :=
  (if inline then chars! "#![" else chars! "#[") ++ a.name ++
    (if a.options.isEmpty then [] else chars! "(" ++ intercalate (chars! ", ") a.options ++ chars! ")") ++ chars! "]"

theorem attributeF_out (a : Attribute) (ind : Nat) (inline : Bool) (st : FSt) :
    (attributeF a ind inline st).out = st.out ++ (List.replicate ind ' ' ++ (attrText a inline ++ ['\n'])) := by
  cases inline <;> cases h : a.options.isEmpty <;> simp [attributeF, attrText, seqF, w, nl, indent, h]

theorem intercalate_cons (o : Str) (opts : List Str) :
    intercalate (chars! ", ") (o :: opts) = o ++ (opts.map (fun x => ',' :: ' ' :: x)).flatten := by
  induction opts generalizing o with
  | nil => simp [intercalate]
  | cons p opts ih => simp [intercalate, ih p]

theorem commaIdent_items (opts : List Str) (hv : ∀ o ∈ opts, ValidIdent o) (rest : Str) :
    SeqItems commaIdentP (opts.map (fun o => (o, ',' :: ' ' :: o, ([] : Str)))) (')' :: rest) := by
  induction opts with
  | nil => trivial
  | cons o opts ih =>
    have ho := hv o List.mem_cons_self
    refine ⟨blank_nil, ?_, ih (fun x hx => hv x (List.mem_cons_of_mem _ hx))⟩
    -- what follows the identifier is `,` or `)`
    have hid : ∀ tail, identP (o ++ (joined (opts.map (fun o => (o, ',' :: ' ' :: o, ([] : Str)))) ++ ')' :: tail))
        = some (o, joined (opts.map (fun o => (o, ',' :: ' ' :: o, ([] : Str)))) ++ ')' :: tail) := by
      intro tail
      cases opts with
      | nil => exact identP_cons ho (by decide) tail
      | cons o2 opts => exact identP_cons ho (by decide) _
    peg [commaIdentP, skipWs_ident ho, hid]

theorem joined_commaIdent (opts : List Str) :
    joined (opts.map (fun o => (o, ',' :: ' ' :: o, ([] : Str)))) = (opts.map (fun o => ',' :: ' ' :: o)).flatten := by
  induction opts with
  | nil => rfl
  | cons o opts ih => simp [ih]

theorem attrOptionsP_text (a : Attribute) (ha : ValidAttr a) (rest : Str) (fuel : Nat) (hf : a.options.length < fuel) :
    attrOptionsP fuel
      ((if a.options.isEmpty then [] else chars! "(" ++ intercalate (chars! ", ") a.options ++ chars! ")") ++ ']' :: rest)
      = some (a.options, ']' :: rest) := by
  cases hopts : a.options with
  | nil => peg [attrOptionsP, attrOptionsInnerP, List.isEmpty_nil, ↓reduceIte]
  | cons o opts =>
    rw [hopts] at hf
    have ho : ValidIdent o := ha.2 o (by rw [hopts]; exact List.mem_cons_self)
    have hm := many_seq commaIdentP _ (')' :: ']' :: rest) fuel
      (commaIdent_items opts (fun x hx => ha.2 x (by rw [hopts]; exact List.mem_cons_of_mem _ hx)) (']' :: rest))
      (by peg [commaIdentP]) (by simpa using Nat.lt_of_succ_lt hf)
    rw [joined_commaIdent] at hm
    -- the rest of the options starts with `,` or `)`: it does not continue the first identifier
    obtain ⟨c, t, htxt, hc, hcw⟩ : ∃ c t, (opts.map (fun x => ',' :: ' ' :: x)).flatten ++ ')' :: ']' :: rest = c :: t ∧
        isIdCont c = false ∧ isWhiteSpace c = false := by
      cases opts with
      | nil => exact ⟨')', _, rfl, by decide, by decide⟩
      | cons o2 opts => exact ⟨',', _, rfl, by decide, by decide⟩
    rw [htxt] at hm
    rw [skipWs_cons_nws hcw] at hm
    peg [attrOptionsP, attrOptionsInnerP, List.isEmpty_cons, Bool.false_eq_true, ↓reduceIte, intercalate_cons, htxt,
      skipWs_ident ho, identP_cons ho hc, skipWs_cons_nws hcw, hm.1, hm.2, List.map_map, Function.comp_def, List.map_id']

theorem attributeP_text (a : Attribute) (ha : ValidAttr a) (inline : Bool) (rest : Str) (fuel : Nat)
    (hf : a.options.length < fuel) : attributeP inline fuel (attrText a inline ++ rest) = some (a, rest) := by
  have hid : identP (a.name ++ ((if a.options.isEmpty then [] else
      chars! "(" ++ intercalate (chars! ", ") a.options ++ chars! ")") ++ ']' :: rest)) = some (a.name, _) :=
    identP_append ha.1 (by split <;> exact noCont_cons _ (by decide))
  have hopts := attrOptionsP_text a ha rest fuel hf
  peg [] at hid hopts
  cases inline <;>
    peg [attributeP, attrText, Bool.false_eq_true, ↓reduceIte, Option.bind_eq_bind, Option.bind_some, Option.pure_def,
      skipWs_ident ha.1, hid, hopts]

def canonC (l : Line) : Line := canonLine (chars! "//") (inner 2 l)
def canonD (l : Line) : Line := canonLine (chars! "///") (inner 3 l)
def canonDI (l : Line) : Line := canonLine (chars! "//!") (inner 3 l)

/-- The inner text of every line is on one line (true of everything the line parsers produce). -/
def ValidLines (k : Nat) (ls : List Line) : Prop := ∀ l ∈ ls, '\n' ∉ inner k l

def preItems (cm dc : List Line) (ats : List Attribute) (ind : Nat) : List (PreItem × Str × Str) :=
  cm.map (fun c => (PreItem.comment (canonC c), List.replicate ind ' ' ++ canonC c, ([] : Str))) ++
  (dc.map (fun d => (PreItem.doc (canonD d), List.replicate ind ' ' ++ canonD d, ([] : Str))) ++
   ats.map (fun a => (PreItem.attr a, List.replicate ind ' ' ++ attrText a false, ['\n'])))

theorem commentLines_out (cm : List Line) (ind : Nat) (st : FSt) :
    (commentLines cm ind st).out = st.out ++ (cm.map (fun c => List.replicate ind ' ' ++ canonC c)).flatten := by
  refine forF_out _ _ cm (fun c _ st => ?_) st
  cases h : (inner 2 c).isEmpty <;> simp [seqF, w, nl, indent, canonC, canonLine, h]

theorem docLines_out (dc : List Line) (ind : Nat) (style : Str) (st : FSt) :
    (docLines dc ind style st).out = st.out ++ (dc.map (fun d => List.replicate ind ' ' ++ canonLine style (inner 3 d))).flatten := by
  refine forF_out _ _ dc (fun d _ st => ?_) st
  cases h : (inner 3 d).isEmpty <;> simp [seqF, w, nl, indent, canonLine, h]

theorem prelude_out (cm dc : List Line) (ats : List Attribute) (ind : Nat) (st : FSt) :
    (prelude cm dc ats ind false st).out = st.out ++ joined (preItems cm dc ats ind) := by
  simp [prelude, seqF, commentLines_out, docLines_out, forF_out _ _ ats (fun a _ => attributeF_out a ind false), preItems,
    joined, canonD, Function.comp_def]

theorem canonLine_head (pre i : Str) (c : Char) (p' : Str) (hp : pre = c :: p') (rest : Str) :
    canonLine pre i ++ rest = c :: (p' ++ (if i.isEmpty then [] else ' ' :: i) ++ ['\n'] ++ rest) := by
  subst hp; simp [canonLine]

theorem lineItems_seq {α : Type} {p : P α} (mk : Line → α) (canon : Line → Line) (ls : List Line) (ind : Nat) (rest : Str)
    (h : ∀ l ∈ ls, ∀ tail, p (skipWs (canon l ++ tail)) = some (mk (canon l), tail)) :
    SeqItems p (ls.map (fun l => (mk (canon l), List.replicate ind ' ' ++ canon l, ([] : Str)))) rest :=
  seqItems_map p ls _ rest (fun l hl tail => ⟨blank_nil, by
    simp only [List.append_assoc, List.nil_append, skipWs_indent]; exact h l hl tail⟩)

theorem attrItems_seq {p : P PreItem} (inline : Bool) (fuel : Nat)
    (hp : ∀ t, p ('#' :: t) = (attributeP inline fuel ('#' :: t)).map (fun x => (PreItem.attr x.1, x.2)))
    (ats : List Attribute) (hva : ∀ x ∈ ats, ValidAttr x ∧ x.options.length < fuel) (ind : Nat) (rest : Str) :
    SeqItems p (ats.map (fun a => (PreItem.attr a, List.replicate ind ' ' ++ attrText a inline, ['\n']))) rest := by
  refine seqItems_map p ats _ rest (fun a ha tail => ⟨blank_nl, ?_⟩)
  have hattr := attributeP_text a (hva a ha).1 inline ('\n' :: tail) fuel (hva a ha).2
  obtain ⟨t, ht⟩ : ∃ t, attrText a inline ++ '\n' :: tail = '#' :: t := by cases inline <;> exact ⟨_, rfl⟩
  rw [ht] at hattr
  simp only [List.append_assoc, skipWs_indent, List.cons_append, List.nil_append, ht, skipWs_cons_nws (c := '#') (by decide),
    hp, hattr, Option.map_some]

def NoPre (comments docs attrs : Bool) (fuel : Nat) (rest : Str) : Prop :=
  preItemP comments docs attrs fuel (skipWs rest) = none

/-- What the parser with flags `c d a` and fuel `fuel` reads completely: only items it accepts, well formed. -/
structure PreOK (c d a : Bool) (fuel : Nat) (cm dc : List Line) (ats : List Attribute) : Prop where
  comments : cm ≠ [] → c = true
  docs : dc ≠ [] → d = true
  attrs : ats ≠ [] → a = true
  validComments : ValidLines 2 cm
  validDocs : ValidLines 3 dc
  validAttrs : ∀ x ∈ ats, ValidAttr x ∧ x.options.length < fuel
  fuel_lt : cm.length + dc.length + ats.length < fuel

theorem preOK_lines {cm dc : List Line} {fuel : Nat} (hvc : ValidLines 2 cm) (hvd : ValidLines 3 dc)
    (hf : cm.length + dc.length < fuel) (a : Bool) : PreOK true true a fuel cm dc [] :=
  { comments := fun _ => rfl, docs := fun _ => rfl, attrs := fun h => absurd rfl h, validComments := hvc, validDocs := hvd,
    validAttrs := nofun, fuel_lt := hf }

theorem preOK_comments {cm : List Line} {fuel : Nat} (hvc : ValidLines 2 cm) (hf : cm.length < fuel) (d a : Bool) :
    PreOK true d a fuel cm [] [] :=
  { comments := fun _ => rfl, docs := fun h => absurd rfl h, attrs := fun h => absurd rfl h, validComments := hvc,
    validDocs := nofun, validAttrs := nofun, fuel_lt := hf }

theorem preItems_seq {c d a : Bool} {fuel : Nat} {cm dc : List Line} {ats : List Attribute} (h : PreOK c d a fuel cm dc ats)
    (ind : Nat) (rest : Str) : SeqItems (preItemP c d a fuel) (preItems cm dc ats ind) rest := by
  refine seqItems_append _ _ _ _ (lineItems_seq PreItem.comment canonC cm ind _ fun x hx tail => ?_)
    (seqItems_append _ _ _ _ (lineItems_seq PreItem.doc canonD dc ind _ fun x hx tail => ?_) ?_)
  · simp only [canonC, skipWs_canonLine, preItemP, h.comments (List.ne_nil_of_mem hx), ↓reduceIte,
      commentP_canon _ tail (h.validComments x hx)]
  · simp only [canonD, skipWs_canonLine, preItemP, h.docs (List.ne_nil_of_mem hx), ↓reduceIte, commentP_doc,
      docP_canon _ tail (h.validDocs x hx), ite_self]
  · cases ats with
    | nil => trivial
    | cons x ats =>
      refine attrItems_seq false fuel (fun t => ?_) _ h.validAttrs ind rest
      cases c <;> cases d <;> simp [preItemP, h.attrs (List.cons_ne_nil _ _), commentP, docP]

theorem filterMap_none {α β : Type} (l : List α) : l.filterMap (fun _ => (none : Option β)) = [] := by
  induction l <;> simp_all

theorem preComments_preItems (cm dc : List Line) (ats : List Attribute) (ind : Nat) :
    preComments ((preItems cm dc ats ind).map (·.1)) = cm.map canonC := by
  simp [preItems, preComments, List.filterMap_append, List.filterMap_map, Function.comp_def, filterMap_none]

theorem preDocs_preItems (cm dc : List Line) (ats : List Attribute) (ind : Nat) :
    preDocs ((preItems cm dc ats ind).map (·.1)) = dc.map canonD := by
  simp [preItems, preDocs, List.filterMap_append, List.filterMap_map, Function.comp_def, filterMap_none]

theorem preAttrs_preItems (cm dc : List Line) (ats : List Attribute) (ind : Nat) :
    preAttrs ((preItems cm dc ats ind).map (·.1)) = ats := by
  simp [preItems, preAttrs, List.filterMap_append, List.filterMap_map, Function.comp_def, filterMap_none]

theorem preludeP_text {c d a : Bool} {fuel : Nat} {cm dc : List Line} {ats : List Attribute} (h : PreOK c d a fuel cm dc ats)
    {w : Str} (hw : Blank w) (ind : Nat) (rest : Str) (hend : preItemP c d a fuel (skipWs rest) = none) :
    preludeP c d a fuel (skipWs (w ++ (joined (preItems cm dc ats ind) ++ rest)))
      = ((preItems cm dc ats ind).map (·.1), skipWs rest) := by
  have hm := many_seq _ _ rest fuel (preItems_seq h ind rest) hend (by simpa [preItems, Nat.add_assoc] using h.fuel_lt)
  simp only [preludeP, skipWs_blank hw, hm.1, hm.2]

theorem commentP_cons_none {ch : Char} (h : ch ≠ '/') (r : Str) : commentP (ch :: r) = none := by
  simp [commentP, Ne.symm h]

theorem docP_cons_none {ch : Char} (h : ch ≠ '/') (r : Str) : docP (ch :: r) = none := by
  simp [docP, Ne.symm h]

theorem docInlineP_cons_none {ch : Char} (h : ch ≠ '/') (r : Str) : docInlineP (ch :: r) = none := by
  simp [docInlineP, Ne.symm h]

theorem attributeP_cons_none {ch : Char} (h : ch ≠ '#') (inline : Bool) (fuel : Nat) (r : Str) :
    attributeP inline fuel (ch :: r) = none := by
  simp only [attributeP, kw_cons_ne (Ne.symm h), Option.bind_eq_bind, Option.bind_none]

theorem preItemP_cons_none (c d a : Bool) (fuel : Nat) {ch : Char} (h1 : ch ≠ '/') (h2 : ch ≠ '#') (r : Str) :
    preItemP c d a fuel (ch :: r) = none := by
  simp only [preItemP, commentP_cons_none h1, docP_cons_none h1, attributeP_cons_none h2, ite_self, Option.map_none]

theorem preludeP_close (c d a : Bool) (fuel : Nat) (more : Str) :
    preludeP c d a fuel ('}' :: more) = ([], '}' :: more) := by
  peg [preludeP, many_none _ _ _ (preItemP_cons_none c d a fuel (ch := '}') (by decide) (by decide) more)]

theorem preludeP_nil (c d a : Bool) (fuel : Nat) : preludeP c d a fuel [] = ([], []) := by
  have h : preItemP c d a fuel [] = none := by
    cases c <;> cases d <;> cases a <;> simp [preItemP, commentP, docP, attributeP, kw, lit, Option.bind_eq_bind]
  simp only [preludeP, many_none _ _ _ h, skipWs_nil]

/-- The text begins like an identifier (a name or a keyword): white space is over, and no prelude item starts. -/
def IdHead (t : Str) : Prop := ∃ c r, t = c :: r ∧ isIdStart c = true

theorem idHead_ident {n : Str} (hn : ValidIdent n) : IdHead n := by
  obtain ⟨c, r, rfl, hc, _⟩ := hn; exact ⟨c, r, rfl, hc⟩

theorem IdHead.append {t : Str} (h : IdHead t) (more : Str) : IdHead (t ++ more) := by
  obtain ⟨c, r, rfl, hc⟩ := h; exact ⟨c, r ++ more, rfl, hc⟩

theorem IdHead.skipWs {t : Str} (h : IdHead t) (more : Str) : skipWs (t ++ more) = t ++ more := by
  obtain ⟨c, r, rfl, hc⟩ := h; exact skipWs_cons_nws (idStart_not_ws hc) _

theorem IdHead.preItemP_none {t : Str} (h : IdHead t) (c d a : Bool) (fuel : Nat) (more : Str) :
    preItemP c d a fuel (t ++ more) = none := by
  obtain ⟨ch, r, rfl, hch⟩ := h
  exact preItemP_cons_none c d a fuel (by rintro rfl; cases hch) (by rintro rfl; cases hch) _

theorem preludeP_item {c d a : Bool} {fuel : Nat} {cm dc : List Line} {ats : List Attribute} (h : PreOK c d a fuel cm dc ats)
    {w : Str} (hw : Blank w) (ind : Nat) {i : Str} (hi : Blank i) {core : Str} (hc : IdHead core) (more : Str) :
    preludeP c d a fuel (skipWs (w ++ (joined (preItems cm dc ats ind) ++ (i ++ (core ++ more)))))
      = ((preItems cm dc ats ind).map (·.1), core ++ more) := by
  simp only [preludeP_text h hw, skipWs_blank hi, hc.skipWs, hc.preItemP_none]

end Aldrin.Schema
