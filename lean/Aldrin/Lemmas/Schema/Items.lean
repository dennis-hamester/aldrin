/-
Struct fields, enum variants and fallback entries: the line the formatter writes for one of them is read back
as the same item with canonical comment and doc lines. `BodyItems`: what the proofs about bodies need of a kind of item;
fields (`fieldItems`) and variants (`variantItems`) are the two.
-/
import Aldrin.Lemmas.Schema.Prelude

namespace Aldrin.Schema

theorem nameIdP_text {name id rest : Str} (hn : ValidIdent name) (hi : ValidInt id) (hr : NoDigit rest) :
    nameIdP (name ++ (' ' :: '@' :: ' ' :: (id ++ rest))) = some ((name, id), rest) := by
  peg [nameIdP, identP_cons hn (by decide : isIdCont ' ' = false), skipWs_validInt hi, litIntP_append hi hr]

theorem eqTypeP_text {t : TypeName} (ht : ValidType t) (fuel : Nat) (hd : t.depth ≤ fuel) {rest : Str}
    (hf : TypeFollow rest) : eqTypeP fuel (' ' :: '=' :: ' ' :: (typeText t ++ rest)) = some (t, rest) := by
  peg [eqTypeP, skipWs_typeText ht, typeNameP_typeText t ht fuel rest hd hf]

def ValidField (f : StructField) : Prop :=
  ValidLines 2 f.comment ∧ ValidLines 3 f.doc ∧ ValidIdent f.name ∧ ValidInt f.id ∧ ValidType f.ty

def canonField (f : StructField) : StructField := { f with comment := f.comment.map canonC, doc := f.doc.map canonD }

/-- The field without its prelude and line end. -/
def fieldCore (f : StructField) : Str :=
  (if f.required then chars! "required " else []) ++ (f.name ++ (' ' :: '@' :: ' ' :: (f.id ++ (' ' :: '=' :: ' ' :: (typeText f.ty ++ [';'])))))

/-- What `fieldF` appends after its optional blank line. -/
def fieldText (f : StructField) (ind : Nat) : Str :=
  joined (preItems f.comment f.doc [] ind) ++ (List.replicate ind ' ' ++ fieldCore f)

def fieldFuel (f : StructField) : Nat := f.comment.length + f.doc.length + f.ty.depth + 1

/-- `required` is only taken as the keyword when an identifier follows: a name followed by a blank and a
character that cannot start an identifier is left alone, even when the name is `required` itself. -/
theorem requiredP_not_keyword {name : Str} (hn : ValidIdent name) (c : Char) (rest : Str) (hc : isIdStart c = false)
    (hcw : isWhiteSpace c = false) : requiredP (name ++ (' ' :: c :: rest)) = (false, name ++ (' ' :: c :: rest)) := by
  unfold requiredP
  cases hk2 : kw (chars! "required") (name ++ (' ' :: c :: rest)) with
  | none => rw [kwWs_none hk2]
  | some y =>
    obtain ⟨⟨⟩, r2⟩ := y
    obtain ⟨n', hsplit, rfl⟩ := kw_ident_split (k := chars! "required") (by decide)
      (noCont_cons (c := ' ') _ (by decide)) hk2
    cases n' with
    | nil =>
      -- the name is `required`: `&ws` holds, but no identifier follows
      cases hsplit
      simp only [List.append_nil, List.nil_append, kwWs_blank, skipWs_space, skipWs_cons_nws hcw, identP, hc, Bool.false_eq_true,
        ↓reduceIte, Option.isSome_none]
    | cons d n'' =>
      -- the name only starts with `required`: `&ws` fails
      obtain ⟨c0, r0, hn0, _, hcont⟩ := hn
      have hd : isIdCont d = true := hcont d (by cases hsplit ▸ hn0; simp)
      simp [kwWs, hk2, atWs, idCont_not_ws hd, commentP_cons_none (show d ≠ '/' by rintro rfl; cases hd)]

theorem requiredP_text (f : StructField) (hv : ValidField f) (rest : Str) :
    requiredP (fieldCore f ++ rest) = (f.required, f.name ++ (' ' :: '@' :: ' ' :: (f.id ++ (' ' :: '=' :: ' ' :: (typeText f.ty ++ (';' :: rest)))))) := by
  obtain ⟨_, _, hn, _, _⟩ := hv
  unfold fieldCore
  cases hr : f.required
  · -- not required: either the keyword does not match, or no identifier follows it (the name is `required`)
    simp only [Bool.false_eq_true, ↓reduceIte, List.nil_append, List.append_assoc, List.cons_append]
    exact requiredP_not_keyword hn '@' _ (by decide) (by decide)
  · peg [requiredP, ↓reduceIte, skipWs_ident hn, identP_cons hn (by decide : isIdCont ' ' = false), Option.isSome_some]

theorem idHead_fieldCore (f : StructField) (hv : ValidField f) : IdHead (fieldCore f) := by
  unfold fieldCore
  cases f.required
  · exact (idHead_ident hv.2.2.1).append _
  · exact ⟨'r', _, rfl, by decide⟩

theorem structFieldP_text (f : StructField) (hv : ValidField f) (ind : Nat) (fuel : Nat) (hf : fieldFuel f ≤ fuel)
    (w rest : Str) (hw : Blank w) :
    structFieldP fuel (skipWs (w ++ (fieldText f ind ++ rest))) = some (canonField f, rest) := by
  have hcore := idHead_fieldCore f hv
  have hreq := requiredP_text f hv rest
  obtain ⟨hvc, hvd, hn, hi, ht⟩ := hv
  have hok : PreOK true true false fuel f.comment f.doc [] := preOK_lines hvc hvd (by unfold fieldFuel at hf; omega) false
  unfold fieldFuel at hf
  peg [structFieldP, fieldText, preludeP_item hok hw ind (blank_replicate ind) hcore, preComments_preItems, preDocs_preItems, hreq,
    nameIdP_text hn hi (noDigit_cons (c := ' ') _ (by decide)), eqTypeP_text ht fuel (by omega) (typeFollow_semi rest), canonField]

theorem emits_fieldF (f : StructField) (ind : Nat) : Emits (fieldF f ind) (fun t => t = fieldText f ind) :=
  emits_line (newlineWithFirst_out _) fun st => ⟨_, rfl, by
    simp only [seqF, w_out, nl_out, indent_out, prelude_out, ite_w_out, setNewline_out, id, fieldText, fieldCore,
      List.append_assoc, List.cons_append, List.nil_append]⟩

def ValidVariant (v : EnumVariant) : Prop :=
  ValidLines 2 v.comment ∧ ValidLines 3 v.doc ∧ ValidIdent v.name ∧ ValidInt v.id ∧ (∀ t, v.ty = some t → ValidType t)

def canonVariant (v : EnumVariant) : EnumVariant := { v with comment := v.comment.map canonC, doc := v.doc.map canonD }

def variantCore (v : EnumVariant) : Str :=
  v.name ++ (' ' :: '@' :: ' ' :: (v.id ++ ((match v.ty with | some t => ' ' :: '=' :: ' ' :: typeText t | none => []) ++ [';'])))

def variantText (v : EnumVariant) (ind : Nat) : Str :=
  joined (preItems v.comment v.doc [] ind) ++ (List.replicate ind ' ' ++ variantCore v)

def variantFuel (v : EnumVariant) : Nat :=
  v.comment.length + v.doc.length + (match v.ty with | some t => t.depth | none => 0) + 1

theorem idHead_variantCore (v : EnumVariant) (hv : ValidVariant v) : IdHead (variantCore v) :=
  (idHead_ident hv.2.2.1).append _

theorem enumVariantP_text (v : EnumVariant) (hv : ValidVariant v) (ind : Nat) (fuel : Nat) (hf : variantFuel v ≤ fuel)
    (w rest : Str) (hw : Blank w) :
    enumVariantP fuel (skipWs (w ++ (variantText v ind ++ rest))) = some (canonVariant v, rest) := by
  have hcore := idHead_variantCore v hv
  obtain ⟨hvc, hvd, hn, hi, ht⟩ := hv
  unfold variantFuel at hf
  have hok : PreOK true true false fuel v.comment v.doc [] := preOK_lines hvc hvd (by omega) false
  simp only [enumVariantP, variantText, List.append_assoc, preludeP_item hok hw ind (blank_replicate ind) hcore,
    preComments_preItems, preDocs_preItems]
  unfold variantCore canonVariant
  cases hty : v.ty with
  | none => peg [nameIdP_text hn hi (noDigit_cons (c := ';') _ (by decide)), eqTypeP]
  | some t =>
    simp only [hty] at hf
    peg [nameIdP_text hn hi (noDigit_cons (c := ' ') _ (by decide)), eqTypeP_text (ht t hty) fuel (by omega) (typeFollow_semi rest)]

theorem emits_variantF (v : EnumVariant) (ind : Nat) : Emits (variantF v ind) (fun t => t = variantText v ind) :=
  emits_line (newlineWithFirst_out _) fun st => ⟨_, rfl, by
    cases h : v.ty <;>
      simp only [seqF, w_out, nl_out, indent_out, prelude_out, setNewline_out, id, variantText, variantCore, h,
        List.append_assoc, List.cons_append, List.nil_append]⟩

def ValidFallback (fb : Fallback) : Prop := ValidLines 2 fb.comment ∧ ValidLines 3 fb.doc ∧ ValidIdent fb.name

def canonFallback (fb : Fallback) : Fallback := { fb with comment := fb.comment.map canonC, doc := fb.doc.map canonD }

def fallbackText (fb : Fallback) (ind : Nat) : Str :=
  joined (preItems fb.comment fb.doc [] ind) ++ (List.replicate ind ' ' ++ (fb.name ++ chars! " = fallback;"))

theorem fallbackTailP_text {name : Str} (hn : ValidIdent name) (rest : Str) :
    fallbackTailP (name ++ (chars! " = fallback;" ++ rest)) = some (name, rest) := by
  peg [fallbackTailP, identP_cons hn (by decide : isIdCont ' ' = false)]

theorem fallbackP_text (fb : Fallback) (hv : ValidFallback fb) (ind : Nat) (fuel : Nat)
    (hf : fb.comment.length + fb.doc.length < fuel) (w rest : Str) (hw : Blank w) :
    fallbackP fuel (skipWs (w ++ (fallbackText fb ind ++ rest))) = some (canonFallback fb, rest) := by
  simp only [fallbackP, fallbackText, List.append_assoc,
    preludeP_item (preOK_lines hv.1 hv.2.1 hf false) hw ind (blank_replicate ind) (idHead_ident hv.2.2),
    fallbackTailP_text hv.2.2, preComments_preItems, preDocs_preItems, canonFallback]

/-- `fallback_field` / `fallback_variant`: like an item, but `newline` is not set afterwards. -/
theorem emits_fallbackEntryF (fb : Fallback) (ind : Nat) :
    Emits (fallbackEntryF fb ind) (fun t => t = fallbackText fb ind) :=
  emits_line (newlineWithFirst_out _) fun st => ⟨_, rfl, by
    simp only [seqF, w_out, nl_out, indent_out, prelude_out, id, fallbackText, List.append_assoc]⟩

theorem nameIdP_eq_none {name : Str} (hn : ValidIdent name) (more : Str) :
    nameIdP (name ++ (' ' :: '=' :: more)) = none := by
  peg [nameIdP, identP_cons hn (by decide : isIdCont ' ' = false)]

theorem structFieldP_fallback_none (f : Fallback) (hv : ValidFallback f) (ind fuel : Nat)
    (hf : f.comment.length + f.doc.length < fuel) (w tail : Str) (hw : Blank w) :
    structFieldP fuel (skipWs (w ++ (fallbackText f ind ++ tail))) = none := by
  have hreq := requiredP_not_keyword hv.2.2 '=' (chars! " fallback;" ++ tail) (by decide) (by decide)
  have hnid := nameIdP_eq_none hv.2.2 (chars! " fallback;" ++ tail)
  peg [] at hreq hnid
  peg [structFieldP, fallbackText, preludeP_item (preOK_lines hv.1 hv.2.1 hf false) hw ind (blank_replicate ind) (idHead_ident hv.2.2),
    hreq, hnid]

theorem enumVariantP_fallback_none (f : Fallback) (hv : ValidFallback f) (ind fuel : Nat)
    (hf : f.comment.length + f.doc.length < fuel) (w tail : Str) (hw : Blank w) :
    enumVariantP fuel (skipWs (w ++ (fallbackText f ind ++ tail))) = none := by
  have hnid := nameIdP_eq_none hv.2.2 (chars! " fallback;" ++ tail)
  peg [] at hnid
  peg [enumVariantP, fallbackText, preludeP_item (preOK_lines hv.1 hv.2.1 hf false) hw ind (blank_replicate ind) (idHead_ident hv.2.2),
    hnid]

theorem identP_close (more : Str) : identP ('}' :: more) = none := by
  simp [identP, isIdStart]

theorem structFieldP_close_none (fuel : Nat) (tail : Str) : structFieldP fuel ('}' :: tail) = none := by
  peg [structFieldP, preludeP_close, requiredP, nameIdP, identP_close]

theorem enumVariantP_close_none (fuel : Nat) (tail : Str) : enumVariantP fuel ('}' :: tail) = none := by
  peg [enumVariantP, preludeP_close, nameIdP, identP_close]

theorem fallbackP_close_none (fuel : Nat) (tail : Str) : fallbackP fuel ('}' :: tail) = none := by
  peg [fallbackP, preludeP_close, fallbackTailP, identP_close]

/-- A kind of body item (struct fields, enum variants): the formatter `itemF` writes `text`, the parser `itemP`
reads it back as `canon` and fails where the items of a body end. -/
structure BodyItems {β : Type} (canon : β → β) (text : β → Nat → Str) (Valid : β → Prop) (fuelOf : β → Nat)
    (itemP : Nat → P β) (itemF : β → Nat → F) : Prop where
  emits : ∀ x ind, Emits (itemF x ind) (fun t => t = text x ind)
  reads : ∀ x, Valid x → ∀ ind fuel, fuelOf x ≤ fuel → ∀ w rest, Blank w →
    itemP fuel (skipWs (w ++ (text x ind ++ rest))) = some (canon x, rest)
  fallback_none : ∀ f, ValidFallback f → ∀ ind fuel, f.comment.length + f.doc.length < fuel → ∀ w tail, Blank w →
    itemP fuel (skipWs (w ++ (fallbackText f ind ++ tail))) = none
  close_none : ∀ fuel tail, itemP fuel ('}' :: tail) = none
  /-- an item starts with regular comments, regular doc strings or an identifier -/
  head : ∀ x, Valid x → ∀ ind, ∃ cm dc core, IdHead core ∧
    text x ind = joined (preItems cm dc [] ind) ++ (List.replicate ind ' ' ++ core)

theorem fieldItems : BodyItems canonField fieldText ValidField fieldFuel structFieldP fieldF where
  emits := emits_fieldF
  reads := structFieldP_text
  fallback_none := structFieldP_fallback_none
  close_none := structFieldP_close_none
  head f hv _ := ⟨f.comment, f.doc, fieldCore f, idHead_fieldCore f hv, rfl⟩

theorem variantItems : BodyItems canonVariant variantText ValidVariant variantFuel enumVariantP variantF where
  emits := emits_variantF
  reads := enumVariantP_text
  fallback_none := enumVariantP_fallback_none
  close_none := enumVariantP_close_none
  head v hv _ := ⟨v.comment, v.doc, variantCore v, idHead_variantCore v hv, rfl⟩

end Aldrin.Schema
