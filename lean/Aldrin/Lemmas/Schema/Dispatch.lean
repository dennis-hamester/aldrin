/-
Imports and the choice between definitions. On the text of one kind of definition the parsers of the other kinds
fail. The parsers differ in which prelude items they accept, so they stop either at the keyword or at the first item
they do not accept (`/` of a doc string, `#` of an attribute).
-/
import Aldrin.Lemmas.Schema.Service

namespace Aldrin.Schema

theorem preItems_split (cm dc : List Line) (ats : List Attribute) (ind : Nat) :
    joined (preItems cm dc ats ind) =
      joined (preItems cm [] [] ind) ++ (joined (preItems [] dc [] ind) ++ joined (preItems [] [] ats ind)) := by
  simp [preItems, joined_append]

theorem noPre_hash (c d : Bool) (fuel : Nat) (w rest : Str) (hw : Blank w) : NoPre c d false fuel (w ++ ('#' :: rest)) := by
  unfold NoPre
  rw [skipWs_blank hw, skipWs_cons_nws (by decide)]
  cases c <;> cases d <;> simp [preItemP, commentP, docP]

theorem noPre_docline (fuel : Nat) (w i rest : Str) (hw : Blank w) :
    NoPre true false false fuel (w ++ (canonLine (chars! "///") i ++ rest)) := by
  unfold NoPre
  rw [skipWs_blank hw, skipWs_canonLine]
  simp [preItemP, commentP_doc]

/-- The head of what a parser with restricted prelude flags is left with: the keyword text itself, or the first
prelude item it does not accept. -/
def StopsAt (r kwText : Str) : Prop := r = kwText ∨ (∃ t, r = '/' :: '/' :: '/' :: t) ∨ (∃ t, r = '#' :: t)

theorem attrItems_head (ats : List Attribute) (hne : ats ≠ []) (ind : Nat) (rest : Str) :
    ∃ t, skipWs (joined (preItems [] [] ats ind) ++ rest) = '#' :: t := by
  cases ats with
  | nil => exact absurd rfl hne
  | cons a ats =>
    simp only [preItems, List.map_nil, List.nil_append, List.map_cons, joined_cons, List.append_assoc, skipWs_indent]
    cases hi : a.options.isEmpty <;> simp [attrText, hi, skipWs_visible]

theorem docItems_head (dc : List Line) (hne : dc ≠ []) (ind : Nat) (rest : Str) :
    ∃ t, skipWs (joined (preItems [] dc [] ind) ++ rest) = '/' :: '/' :: '/' :: t := by
  cases dc with
  | nil => exact absurd rfl hne
  | cons a dc =>
    simp only [preItems, List.map_nil, List.nil_append, List.append_nil, List.map_cons, joined_cons, List.append_assoc,
      skipWs_indent, canonD, skipWs_canonLine]
    simp [canonLine]

theorem after_comments (dc : List Line) (ats : List Attribute) {k : Str} (hk : ValidIdent k) (more : Str) :
    ∃ r, skipWs (joined (preItems [] dc [] 0) ++ (joined (preItems [] [] ats 0) ++ (k ++ more))) = r ∧
      StopsAt r (k ++ more) ∧ commentP r = none ∧ docInlineP r = none := by
  by_cases hdc : dc = []
  · subst hdc
    by_cases hats : ats = []
    · subst hats
      obtain ⟨ch, r, rfl, hch, _⟩ := hk
      have h1 : ch ≠ '/' := by rintro rfl; cases hch
      exact ⟨_, by simpa [preItems] using skipWs_cons_nws (idStart_not_ws hch) _, .inl rfl, commentP_cons_none h1 _,
        docInlineP_cons_none h1 _⟩
    · obtain ⟨t, ht⟩ := attrItems_head ats hats 0 (k ++ more)
      exact ⟨_, by simpa [preItems] using ht, .inr (.inr ⟨t, rfl⟩), commentP_cons_none (by decide) _,
        docInlineP_cons_none (by decide) _⟩
  · obtain ⟨t, ht⟩ := docItems_head dc hdc 0 (joined (preItems [] [] ats 0) ++ (k ++ more))
    exact ⟨_, ht, .inr (.inl ⟨t, rfl⟩), by simp [commentP], by simp [docInlineP]⟩

theorem preludeP_no_attrs (cm dc : List Line) (ats : List Attribute) (fuel : Nat) {k : Str} (hk : ValidIdent k) (more : Str)
    (hvc : ValidLines 2 cm) (hvd : ValidLines 3 dc) (hfuel : cm.length + dc.length < fuel) (w : Str) (hw : Blank w) :
    StopsAt (preludeP true true false fuel (skipWs (w ++ (joined (preItems cm dc ats 0) ++ (k ++ more))))).2 (k ++ more) := by
  have hcd : joined (preItems cm dc ats 0) = joined (preItems cm dc [] 0) ++ joined (preItems [] [] ats 0) := by
    simp [preItems, joined_append]
  rw [hcd, List.append_assoc]
  by_cases hats : ats = []
  · subst hats
    rw [show joined (preItems [] [] [] 0) = [] from rfl,
      preludeP_item (preOK_lines hvc hvd hfuel false) hw 0 blank_nil (idHead_ident hk) more]
    exact .inl rfl
  · obtain ⟨t, ht⟩ := attrItems_head ats hats 0 (k ++ more)
    rw [preludeP_text (preOK_lines hvc hvd hfuel false) hw 0 _ (by rw [ht]; simp [preItemP, commentP, docP]), ht]
    exact .inr (.inr ⟨t, rfl⟩)

theorem preludeP_comments_only (cm dc : List Line) (ats : List Attribute) (fuel : Nat) {k : Str} (hk : ValidIdent k) (more : Str)
    (hvc : ValidLines 2 cm) (hfuel : cm.length < fuel) (w : Str) (hw : Blank w) :
    StopsAt (preludeP true false false fuel (skipWs (w ++ (joined (preItems cm dc ats 0) ++ (k ++ more))))).2 (k ++ more) := by
  obtain ⟨r, hr, hstop, hc, _⟩ := after_comments dc ats hk more
  have hnone : preItemP true false false fuel r = none := by simp only [preItemP, hc, ↓reduceIte, Bool.false_eq_true]
  rw [preItems_split, List.append_assoc, List.append_assoc,
    preludeP_text (preOK_comments hvc hfuel false false) hw 0 _ (by rw [hr]; exact hnone), hr]
  exact hstop

theorem kwWs_stops_none {kx k more r : Str} (hs : StopsAt r (k ++ more))
    (hx1 : ∀ t, kw kx ('/' :: t) = none) (hx2 : ∀ t, kw kx ('#' :: t) = none) (hx3 : kw kx (k ++ more) = none) :
    kwWs kx r = none := by
  rcases hs with rfl | ⟨t, rfl⟩ | ⟨t, rfl⟩
  · exact kwWs_none hx3
  · exact kwWs_none (hx1 _)
  · exact kwWs_none (hx2 _)

def ValidImport (i : Import) : Prop := ValidLines 2 i.comment ∧ ValidIdent i.name

def canonImport (i : Import) : Import := { i with comment := i.comment.map canonC }

def importText (i : Import) : Str := joined (preItems i.comment [] [] 0) ++ (chars! "import " ++ (i.name ++ [';']))

theorem emits_importF (i : Import) : Emits (importF i) (fun t => t = importText i) :=
  emits_line (newlineWithFirst_out _) fun st => ⟨_, rfl, by
    simp only [seqF, w_out, nl_out, prelude_out, setNewline_out, id, importText, List.append_assoc]⟩

theorem vi_import : ValidIdent (chars! "import") := ⟨'i', chars! "mport", rfl, by decide, by decide⟩

theorem importP_text (i : Import) (hv : ValidImport i) (fuel : Nat) (hf : i.comment.length < fuel) (w rest : Str) (hw : Blank w) :
    importP fuel (skipWs (w ++ (importText i ++ rest))) = some (canonImport i, rest) := by
  obtain ⟨hvc, hn⟩ := hv
  have hh := headerP_text (chars! "import") hn (';' :: rest) (noCont_cons _ (by decide))
  peg [] at hh
  peg [importP, importText, preludeP_text (preOK_comments hvc hf false false) hw, preItemP_cons_none, hh,
    preComments_preItems, canonImport]

def ValidDef : Definition → Prop
  | .struct d => ValidStruct d
  | .enum d => ValidEnum d
  | .service d => ValidService d
  | .const d => ValidConst d
  | .newtype d => ValidNewtype d

def canonDef : Definition → Definition
  | .struct d => .struct (canonStruct d)
  | .enum d => .enum (canonEnum d)
  | .service d => .service (canonService d)
  | .const d => .const (canonConst d)
  | .newtype d => .newtype (canonNewtype d)

def DefTexts (d : Definition) (txt : Str) : Prop :=
  match d with
  | .struct d => StructTexts d txt
  | .enum d => EnumTexts d txt
  | .service d => ServiceTexts d txt
  | .const d => txt = constText d
  | .newtype d => txt = newtypeText d

def defFuel : Definition → Nat
  | .struct d => structFuel d
  | .enum d => enumFuel d
  | .service d => serviceFuel d
  | .const d => d.comment.length + d.doc.length + 1
  | .newtype d => newtypeFuel d

theorem emits_definitionF (d : Definition) : Emits (definitionF d) (DefTexts d) := by
  cases d with
  | struct d => exact emits_structDefF d
  | enum d => exact emits_enumDefF d
  | service d => exact emits_serviceF d
  | const d => exact emits_constF d
  | newtype d => exact emits_newtypeF d

/-- The prelude of a definition and the keyword it opens with. -/
structure DefHead where
  comment : List Line
  doc : List Line
  attrs : List Attribute
  keyword : Str

def Definition.head : Definition → DefHead
  | .struct d => ⟨d.comment, d.doc, d.attrs, chars! "struct"⟩
  | .enum d => ⟨d.comment, d.doc, d.attrs, chars! "enum"⟩
  | .service d => ⟨d.comment, d.doc, [], chars! "service"⟩
  | .const d => ⟨d.comment, d.doc, [], chars! "const"⟩
  | .newtype d => ⟨d.comment, d.doc, d.attrs, chars! "newtype"⟩

theorem defText_shape (d : Definition) (hv : ValidDef d) (txt : Str) (ht : DefTexts d txt) :
    (∃ more, txt = joined (preItems d.head.comment d.head.doc d.head.attrs 0) ++ (d.head.keyword ++ (' ' :: more))) ∧
      ValidLines 2 d.head.comment ∧ ValidLines 3 d.head.doc ∧ (∀ a ∈ d.head.attrs, ValidAttr a) ∧
      d.head.comment.length + d.head.doc.length + d.head.attrs.length + listMax (d.head.attrs.map (·.options.length)) < defFuel d := by
  cases d with
  | struct d =>
    obtain ⟨wts, wfb, _, _, rfl⟩ := ht
    exact ⟨⟨_, by simp [Definition.head]; rfl⟩, hv.1, hv.2.1, hv.2.2.1, by simp only [Definition.head, defFuel, structFuel]; omega⟩
  | enum d =>
    obtain ⟨wts, wfb, _, _, rfl⟩ := ht
    exact ⟨⟨_, by simp [Definition.head]; rfl⟩, hv.1, hv.2.1, hv.2.2.1, by simp only [Definition.head, defFuel, enumFuel]; omega⟩
  | service d =>
    obtain ⟨wts, wf, we, _, _, _, rfl⟩ := ht
    exact ⟨⟨_, by simp [Definition.head, serviceHeadText]; rfl⟩, hv.1, hv.2.1, nofun,
      by simp only [Definition.head, defFuel, serviceFuel, List.length_nil, List.map_nil, listMax, List.foldr_nil]; omega⟩
  | const d =>
    cases ht
    exact ⟨⟨_, by simp [Definition.head, constText]; rfl⟩, hv.1, hv.2.1, nofun,
      by simp only [Definition.head, defFuel, List.length_nil, List.map_nil, listMax, List.foldr_nil]; omega⟩
  | newtype d =>
    cases ht
    exact ⟨⟨_, by simp [Definition.head, newtypeText]; rfl⟩, hv.1, hv.2.1, hv.2.2.1,
      by simp only [Definition.head, defFuel, newtypeFuel]; omega⟩

theorem Definition.head_ident : ∀ d : Definition, ValidIdent d.head.keyword
  | .struct _ => vi_struct
  | .enum _ => vi_enum
  | .service _ => vi_service
  | .const _ => vi_const
  | .newtype _ => vi_newtype

theorem structDefP_mismatch (cm dc : List Line) (ats : List Attribute) (fuel : Nat) (hok : PreOK true true true fuel cm dc ats)
    {k : Str} (hk : ValidIdent k) (hne : ∀ m, kw (chars! "struct") (k ++ m) = none) (more w : Str) (hw : Blank w) :
    structDefP fuel (skipWs (w ++ (joined (preItems cm dc ats 0) ++ (k ++ more)))) = none := by
  have hpre := preludeP_item hok hw 0 blank_nil (idHead_ident hk) more
  rw [List.nil_append] at hpre
  simp only [structDefP, hpre, defOpenP, headerP, kwWs_none (hne more)]

theorem enumDefP_mismatch (cm dc : List Line) (ats : List Attribute) (fuel : Nat) (hok : PreOK true true true fuel cm dc ats)
    {k : Str} (hk : ValidIdent k) (hne : ∀ m, kw (chars! "enum") (k ++ m) = none) (more w : Str) (hw : Blank w) :
    enumDefP fuel (skipWs (w ++ (joined (preItems cm dc ats 0) ++ (k ++ more)))) = none := by
  have hpre := preludeP_item hok hw 0 blank_nil (idHead_ident hk) more
  rw [List.nil_append] at hpre
  simp only [enumDefP, hpre, defOpenP, headerP, kwWs_none (hne more)]

theorem serviceDefP_mismatch (cm dc : List Line) (ats : List Attribute) (fuel : Nat) (hvc : ValidLines 2 cm)
    (hvd : ValidLines 3 dc) (hf : cm.length + dc.length < fuel) {k : Str} (hk : ValidIdent k)
    (hne : ∀ m, kw (chars! "service") (k ++ m) = none) (more w : Str) (hw : Blank w) :
    serviceDefP fuel (skipWs (w ++ (joined (preItems cm dc ats 0) ++ (k ++ more)))) = none := by
  have hnone := kwWs_stops_none (kx := chars! "service") (preludeP_no_attrs cm dc ats fuel hk more hvc hvd hf w hw)
    (fun _ => rfl) (fun _ => rfl) (hne _)
  simp [serviceDefP, defOpenP, headerP, hnone]

theorem constDefP_mismatch (cm dc : List Line) (ats : List Attribute) (fuel : Nat) (hvc : ValidLines 2 cm)
    (hvd : ValidLines 3 dc) (hf : cm.length + dc.length < fuel) {k : Str} (hk : ValidIdent k)
    (hne : ∀ m, kw (chars! "const") (k ++ m) = none) (more w : Str) (hw : Blank w) :
    constDefP fuel (skipWs (w ++ (joined (preItems cm dc ats 0) ++ (k ++ more)))) = none := by
  have hnone := kwWs_stops_none (kx := chars! "const") (preludeP_no_attrs cm dc ats fuel hk more hvc hvd hf w hw)
    (fun _ => rfl) (fun _ => rfl) (hne _)
  simp [constDefP, nameEqP, headerP, hnone]

theorem defP_text (d : Definition) (hv : ValidDef d) (fuel : Nat) (hf : defFuel d ≤ fuel) (txt : Str) (ht : DefTexts d txt)
    (w rest : Str) (hw : Blank w) : defP fuel (skipWs (w ++ (txt ++ rest))) = some (canonDef d, rest) := by
  obtain ⟨⟨more, hshape⟩, hvc, hvd, hva, hfh⟩ := defText_shape d hv txt ht
  have hok := preOK_def hvc hvd hva (Nat.lt_of_lt_of_le hfh hf)
  have hfl : d.head.comment.length + d.head.doc.length < fuel := by omega
  have h1 := structDefP_mismatch _ _ _ fuel hok d.head_ident (more := ' ' :: more ++ rest) (w := w) (hw := hw)
  have h2 := enumDefP_mismatch _ _ _ fuel hok d.head_ident (more := ' ' :: more ++ rest) (w := w) (hw := hw)
  have h3 := serviceDefP_mismatch _ _ d.head.attrs fuel hvc hvd hfl d.head_ident (more := ' ' :: more ++ rest) (w := w) (hw := hw)
  have h4 := constDefP_mismatch _ _ d.head.attrs fuel hvc hvd hfl d.head_ident (more := ' ' :: more ++ rest) (w := w) (hw := hw)
  have htxt : txt ++ rest = joined (preItems d.head.comment d.head.doc d.head.attrs 0) ++ (d.head.keyword ++ (' ' :: more ++ rest)) := by
    rw [hshape]; simp only [List.append_assoc, List.cons_append]
  rw [← htxt] at h1 h2 h3 h4
  cases d with
  | struct d => simp only [defP, structDefP_text d hv fuel hf txt ht w rest hw, canonDef]
  | enum d => simp only [defP, h1 (fun _ => rfl), enumDefP_text d hv fuel hf txt ht w rest hw, canonDef]
  | service d =>
    simp only [defP, h1 (fun _ => rfl), h2 (fun _ => rfl), serviceDefP_text d hv fuel hf txt ht w rest hw, canonDef]
  | const d =>
    cases ht
    simp only [defP, h1 (fun _ => rfl), h2 (fun _ => rfl), h3 (fun _ => rfl),
      constDefP_text d hv fuel (Nat.lt_of_succ_le hf) w rest hw, canonDef]
  | newtype d =>
    cases ht
    simp only [defP, h1 (fun _ => rfl), h2 (fun _ => rfl), h3 (fun _ => rfl), h4 (fun _ => rfl),
      newtypeDefP_text d hv fuel hf w rest hw, canonDef, Option.map_some]

end Aldrin.Schema
