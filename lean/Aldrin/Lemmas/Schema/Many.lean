/-
Repetition: `many` / `manyTail` on a concatenation of item texts return the items, provided every item parses
at its position and nothing more parses after the last one. An item is a triple `(a, t, w)`: the parser, after
skipping white space, consumes `t` (which may start with white space) and stops in front of the blank run `w`
(e.g. the line end after a field).

Blocks of items are the case written by `forF`. `Emits f T`: whatever the formatter state, `f` appends a blank run, a
text satisfying `T` and a line end. The blank-line state of the formatter therefore never has to be tracked: it only
decides which blank run is written.
-/
import Aldrin.Lemmas.Schema.Atoms

namespace Aldrin.Schema

def joined {α : Type} (l : List (α × Str × Str)) : Str := (l.map (fun x => x.2.1 ++ x.2.2)).flatten

@[simp] theorem joined_nil {α : Type} : joined ([] : List (α × Str × Str)) = [] := rfl
@[simp] theorem joined_cons {α : Type} (a : α) (t w : Str) (l : List (α × Str × Str)) :
    joined ((a, t, w) :: l) = t ++ (w ++ joined l) := by
  simp [joined]

theorem joined_append {α : Type} (l m : List (α × Str × Str)) : joined (l ++ m) = joined l ++ joined m := by
  simp [joined]

/-- Every item parses where it stands (after optional white space), leaving its blank run and what follows. -/
def SeqItems {α : Type} (p : P α) : List (α × Str × Str) → Str → Prop
  | [], _ => True
  | (a, t, w) :: l, rest =>
    Blank w ∧ p (skipWs (t ++ (w ++ (joined l ++ rest)))) = some (a, w ++ (joined l ++ rest)) ∧ SeqItems p l rest

theorem manyTail_blank {α : Type} (p : P α) {w : Str} (hw : Blank w) (r : Str) : ∀ (f : Nat),
    (manyTail p f (w ++ r)).1 = (manyTail p f r).1 ∧ skipWs (manyTail p f (w ++ r)).2 = skipWs (manyTail p f r).2
  | 0 => ⟨rfl, skipWs_blank hw r⟩
  | f + 1 => by
    simp only [manyTail, skipWs_blank hw]
    cases p (skipWs r) with
    | none => exact ⟨rfl, skipWs_blank hw r⟩
    | some x => exact ⟨rfl, rfl⟩

theorem manyTail_seq {α : Type} (p : P α) : ∀ (l : List (α × Str × Str)) (rest : Str) (fuel : Nat), SeqItems p l rest →
    p (skipWs rest) = none → l.length < fuel →
    (manyTail p fuel (joined l ++ rest)).1 = l.map (·.1) ∧ skipWs (manyTail p fuel (joined l ++ rest)).2 = skipWs rest
  | [], rest, fuel + 1, _, hend, _ => by simp only [joined_nil, List.nil_append, manyTail, hend, List.map_nil, and_self]
  | (a, t, w) :: l, rest, fuel + 1, ⟨hw, h1, h2⟩, hend, hl => by
    have ih := manyTail_seq p l rest fuel h2 hend (Nat.lt_of_succ_lt_succ hl)
    -- after the item the parser stands in front of `w`, which the next repetition skips
    have hskip := manyTail_blank p hw (joined l ++ rest) fuel
    simp only [joined_cons, List.append_assoc, manyTail, h1, List.map_cons]
    exact ⟨by rw [hskip.1, ih.1], by rw [hskip.2, ih.2]⟩

/-- On a text from which white space is already skipped `many` is `manyTail`, up to the white space left over when
nothing parses. -/
theorem many_skipWs {α : Type} (p : P α) (r : Str) : ∀ (f : Nat),
    (many p f (skipWs r)).1 = (manyTail p f r).1 ∧ skipWs (many p f (skipWs r)).2 = skipWs (manyTail p f r).2
  | 0 => ⟨rfl, skipWs_idem r⟩
  | f + 1 => by
    simp only [many, manyTail]
    cases p (skipWs r) with
    | none => exact ⟨rfl, skipWs_idem r⟩
    | some x => exact ⟨rfl, rfl⟩

theorem many_seq {α : Type} (p : P α) (l : List (α × Str × Str)) (rest : Str) (fuel : Nat) (h : SeqItems p l rest)
    (hend : p (skipWs rest) = none) (hl : l.length < fuel) :
    (many p fuel (skipWs (joined l ++ rest))).1 = l.map (·.1) ∧
    skipWs (many p fuel (skipWs (joined l ++ rest))).2 = skipWs rest := by
  rw [(many_skipWs p _ fuel).1, (many_skipWs p _ fuel).2]
  exact manyTail_seq p l rest fuel h hend hl

theorem seqItems_append {α : Type} (p : P α) : ∀ (l1 l2 : List (α × Str × Str)) (rest : Str),
    SeqItems p l1 (joined l2 ++ rest) → SeqItems p l2 rest → SeqItems p (l1 ++ l2) rest
  | [], _, _, _, h2 => h2
  | (a, t, w) :: l1, l2, rest, ⟨hw, hp, hr⟩, h2 => by
    refine ⟨hw, ?_, seqItems_append p l1 l2 rest hr h2⟩
    simpa only [List.append_eq, joined_append, List.append_assoc] using hp

theorem seqItems_map {α β : Type} (p : P α) (l : List β) (f : β → α × Str × Str) (rest : Str)
    (h : ∀ b ∈ l, ∀ tail, Blank (f b).2.2 ∧
      p (skipWs ((f b).2.1 ++ ((f b).2.2 ++ tail))) = some ((f b).1, (f b).2.2 ++ tail)) :
    SeqItems p (l.map f) rest := by
  induction l with
  | nil => trivial
  | cons b l ih =>
    have hb := h b List.mem_cons_self (joined (l.map f) ++ rest)
    exact ⟨hb.1, hb.2, ih (fun x hx => h x (List.mem_cons_of_mem _ hx))⟩

theorem many_none {α : Type} (p : P α) (fuel : Nat) (cs : Str) (h : p cs = none) : many p fuel cs = ([], cs) := by
  cases fuel <;> simp only [many, h]

def Emits (f : F) (T : Str → Prop) : Prop :=
  ∀ st, ∃ w txt, Blank w ∧ T txt ∧ (f st).out = st.out ++ (w ++ (txt ++ ['\n']))

/-- The items of a block as `(parsed item, text with its leading blank, line end)`. -/
def blockItems {β γ : Type} (canon : β → γ) : List β → List (Str × Str) → List (γ × Str × Str)
  | x :: l, (w, txt) :: r => (canon x, w ++ txt, ['\n']) :: blockItems canon l r
  | _, _ => []

/-- `BlockRel T l wts`: `wts` gives, item by item of `l`, a blank run and a text that stands in `T` to the item — what
the formatter wrote for the block (so also in the `…Texts` predicates of things that hold a block). The two lists have
the same length; `blockItems` on lists of different lengths is never meant. -/
def BlockRel {β : Type} (T : β → Str → Prop) : List β → List (Str × Str) → Prop
  | [], [] => True
  | x :: l, (w, txt) :: r => Blank w ∧ T x txt ∧ BlockRel T l r
  | _, _ => False

theorem blockRel_nil {β : Type} {T : β → Str → Prop} {wts : List (Str × Str)} (h : BlockRel T [] wts) : wts = [] := by
  cases wts with
  | nil => rfl
  | cons => exact h.elim

theorem forF_emits {β γ : Type} (canon : β → γ) (f : β → F) (T : β → Str → Prop) :
    ∀ (l : List β), (∀ x ∈ l, Emits (f x) (T x)) → ∀ (st : FSt), ∃ wts : List (Str × Str),
      BlockRel T l wts ∧ (forF l f st).out = st.out ++ joined (blockItems canon l wts)
  | [], _, st => ⟨[], trivial, by simp [forF, blockItems]⟩
  | x :: l, h, st => by
    obtain ⟨w, txt, hw, ht, hout⟩ := h x List.mem_cons_self st
    obtain ⟨wts, hrel, hout2⟩ := forF_emits canon f T l (fun y hy => h y (List.mem_cons_of_mem _ hy)) (f x st)
    refine ⟨(w, txt) :: wts, ⟨hw, ht, hrel⟩, ?_⟩
    simp only [forF, List.foldl_cons] at hout2 ⊢
    rw [hout2, hout]
    simp [blockItems]

theorem blockItems_seqItems {β γ : Type} (canon : β → γ) (T : β → Str → Prop) (p : P γ) :
    ∀ (l : List β) (wts : List (Str × Str)) (rest : Str), BlockRel T l wts →
      (∀ x ∈ l, ∀ txt, T x txt → ∀ w tail, Blank w → p (skipWs (w ++ (txt ++ tail))) = some (canon x, tail)) →
      SeqItems p (blockItems canon l wts) rest
  | [], [], _, _, _ => trivial
  | [], _ :: _, _, h, _ => h.elim
  | x :: l, [], _, h, _ => h.elim
  | x :: l, (w, txt) :: r, rest, ⟨hw, ht, hrel⟩, hp => by
    refine ⟨blank_nl, ?_, blockItems_seqItems canon T p l r rest hrel
      (fun y hy => hp y (List.mem_cons_of_mem _ hy))⟩
    have := hp x List.mem_cons_self txt ht w (['\n'] ++ (joined (blockItems canon l r) ++ rest)) hw
    simpa only [List.append_assoc] using this

theorem blockItems_map_fst {β γ : Type} (canon : β → γ) (T : β → Str → Prop) :
    ∀ (l : List β) (wts : List (Str × Str)), BlockRel T l wts → (blockItems canon l wts).map (·.1) = l.map canon
  | [], [], _ => rfl
  | [], _ :: _, h => h.elim
  | x :: l, [], h => h.elim
  | x :: l, (w, txt) :: r, ⟨_, _, hrel⟩ => by simp [blockItems, blockItems_map_fst canon T l r hrel]

theorem many_block {β γ : Type} (canon : β → γ) (T : β → Str → Prop) (p : P γ) (l : List β) (wts : List (Str × Str))
    (rest : Str) (fuel : Nat) (hrel : BlockRel T l wts)
    (hp : ∀ x ∈ l, ∀ txt, T x txt → ∀ w tail, Blank w → p (skipWs (w ++ (txt ++ tail))) = some (canon x, tail))
    (hend : p (skipWs rest) = none) (hfuel : l.length < fuel) :
    (many p fuel (skipWs (joined (blockItems canon l wts) ++ rest))).1 = l.map canon ∧
    skipWs (many p fuel (skipWs (joined (blockItems canon l wts) ++ rest))).2 = skipWs rest := by
  have hmap := blockItems_map_fst canon T l wts hrel
  have := many_seq p _ rest fuel (blockItems_seqItems canon T p l wts rest hrel hp) hend
    (by rw [← List.length_map (·.1), hmap, List.length_map]; exact hfuel)
  rwa [hmap] at this

end Aldrin.Schema
