/-
The whole file: schema comments and docs, imports (sorted by the formatter), definitions: what the formatter writes
(`schemaF_out`) and where each of the three repetitions of `file` stops. `format_parses_back` (Props/C18.lean) puts them
together.
-/
import Aldrin.Lemmas.Schema.Dispatch

namespace Aldrin.Schema

/-- A text that starts (after a blank run) with the prelude of an import or definition and its keyword, or is
empty. -/
inductive ItemStart (fuel : Nat) (Kw : Str → Prop) : Str → Prop
  | eof : ItemStart fuel Kw []
  | item (w : Str) (cm dc : List Line) (ats : List Attribute) (k more : Str) : Blank w → ValidLines 2 cm → cm.length < fuel →
      ValidIdent k → Kw k → ItemStart fuel Kw (w ++ (joined (preItems cm dc ats 0) ++ (k ++ more)))

theorem commentP_items (cm : List Line) (hvc : ValidLines 2 cm) (rest : Str) :
    SeqItems commentP (cm.map (fun c => (canonC c, List.replicate 0 ' ' ++ canonC c, ([] : Str)))) rest :=
  lineItems_seq id canonC cm 0 rest fun x hx tail => by
    simp only [canonC, skipWs_canonLine, commentP_canon _ tail (hvc x hx), id]

theorem joined_commentItems (cm : List Line) :
    joined (cm.map (fun c => (canonC c, List.replicate 0 ' ' ++ canonC c, ([] : Str)))) = joined (preItems cm [] [] 0) := by
  simp [preItems, joined, Function.comp_def]

theorem many_comments (cm : List Line) (hvc : ValidLines 2 cm) (fuel : Nat) (hf : cm.length < fuel) (rest : Str)
    (hend : commentP (skipWs rest) = none) :
    (many commentP fuel (skipWs (joined (preItems cm [] [] 0) ++ rest))).1 = cm.map canonC ∧
    skipWs (many commentP fuel (skipWs (joined (preItems cm [] [] 0) ++ rest))).2 = skipWs rest := by
  have hm := many_seq commentP _ rest fuel (commentP_items cm hvc rest) hend (by simpa using hf)
  rw [joined_commentItems] at hm
  simpa [Function.comp_def] using hm

theorem fileGroupP_none {fuel : Nat} {Kw : Str → Prop} {cs : Str} (h : ItemStart fuel Kw cs) : fileGroupP fuel (skipWs cs) = none := by
  cases h with
  | eof => cases fuel <;> simp [fileGroupP, many, commentP, docInlineP]
  | item w cm dc ats k more hw hvc hf hk _ =>
    obtain ⟨r, hr, _, hc, hd⟩ := after_comments dc ats hk more
    have hm := many_comments cm hvc fuel hf _ (by rw [hr]; exact hc)
    rw [preItems_split, List.append_assoc, List.append_assoc, skipWs_blank hw]
    unfold fileGroupP
    rw [hm.2, hr, hd]

def docsText (dc : List Line) : Str := (dc.map (fun d => canonDI d)).flatten

/-- The groups `(comment* ~ doc_string_inline)` the written prelude consists of. -/
def headerGroups (cm dc : List Line) (b : Str) : List ((List Line × Line) × Str × Str) :=
  match dc with
  | [] => []
  | d :: ds => ((cm.map canonC, canonDI d), joined (preItems cm [] [] 0) ++ (b ++ canonDI d), ([] : Str)) ::
      ds.map (fun d => ((([] : List Line), canonDI d), canonDI d, ([] : Str)))

theorem joined_headerGroups (cm dc : List Line) (b : Str) (hne : dc ≠ []) :
    joined (headerGroups cm dc b) = joined (preItems cm [] [] 0) ++ (b ++ docsText dc) := by
  cases dc with
  | nil => exact absurd rfl hne
  | cons d ds =>
    have : joined (ds.map (fun d => ((([] : List Line), canonDI d), canonDI d, ([] : Str)))) = docsText ds := by
      induction ds with
      | nil => rfl
      | cons x xs ih => simp [joined_cons, ih, docsText]
    simp [headerGroups, this, docsText]

theorem canonDI_skip (d : Line) (tail : Str) : skipWs (canonDI d ++ tail) = canonDI d ++ tail := skipWs_canonLine _ _ _

theorem fileGroupP_doc (d : Line) (hv : '\n' ∉ inner 3 d) (fuel : Nat) (tail : Str) :
    fileGroupP fuel (canonDI d ++ tail) = some (([], canonDI d), tail) := by
  simp only [fileGroupP, many_none _ _ _ (commentP_docInline (inner 3 d) tail), canonDI, skipWs_canonLine,
    docInlineP_canon _ tail hv]

theorem headerGroups_seq (cm dc : List Line) (b : Str) (hb : Blank b) (hvc : ValidLines 2 cm) (hvd : ValidLines 3 dc)
    (fuel : Nat) (hf : cm.length < fuel) (rest : Str) : SeqItems (fileGroupP fuel) (headerGroups cm dc b) rest := by
  cases dc with
  | nil => trivial
  | cons d ds =>
    refine ⟨blank_nil, ?_, seqItems_map _ _ _ _ fun x hx tail => ⟨blank_nil, ?_⟩⟩
    · -- the first group: all comments, then the first doc line
      generalize joined (ds.map (fun d => ((([] : List Line), canonDI d), canonDI d, ([] : Str)))) ++ rest = T
      have hm := many_comments cm hvc fuel hf (b ++ (canonDI d ++ T))
        (by rw [skipWs_blank hb, canonDI_skip]; exact commentP_docInline _ _)
      simp only [List.nil_append, List.append_assoc, fileGroupP, hm.1, hm.2, skipWs_blank hb, canonDI_skip]
      rw [canonDI, docInlineP_canon _ T (hvd d List.mem_cons_self)]
    · simp only [List.nil_append, canonDI_skip, fileGroupP_doc x (hvd x (List.mem_cons_of_mem _ hx)) fuel tail]

theorem headerGroups_result (cm dc : List Line) (b : Str) (hcm : dc = [] → cm = []) :
    (((headerGroups cm dc b).map (·.1)).map (·.1)).flatten = cm.map canonC ∧
    ((headerGroups cm dc b).map (·.1)).map (·.2) = dc.map canonDI := by
  cases dc with
  | nil => simp [headerGroups, hcm rfl]
  | cons d ds =>
    have : (ds.map (fun _ => ([] : List Line))).flatten = [] := by induction ds <;> simp_all
    simp [headerGroups, Function.comp_def, this]

theorem block_itemStart {β γ : Type} (canon : β → γ) (T : β → Str → Prop) (fuel : Nat) (Kw : Str → Prop)
    (l : List β) (wts : List (Str × Str))
    (hs : ∀ x ∈ l, ∀ txt, T x txt → ∃ cm dc ats k more, txt = joined (preItems cm dc ats 0) ++ (k ++ more) ∧ ValidLines 2 cm ∧
      cm.length < fuel ∧ ValidIdent k ∧ Kw k)
    (hrel : BlockRel T l wts) (R : Str) (hR : ItemStart fuel Kw R) :
    ItemStart fuel Kw (joined (blockItems canon l wts) ++ R) := by
  match l, wts, hrel with
  | [], [], _ => exact hR
  | x :: l, (w, txt) :: wts, ⟨hw, ht, _⟩ =>
    obtain ⟨cm, dc, ats, k, more, rfl, hvc, hf, hk, hKw⟩ := hs x List.mem_cons_self txt ht
    have := ItemStart.item (fuel := fuel) (Kw := Kw) w cm dc ats k (more ++ (['\n'] ++ (joined (blockItems canon l wts) ++ R))) hw hvc hf hk hKw
    simpa only [blockItems, joined_cons, List.append_assoc] using this

theorem itemStart_mono {fuel : Nat} {Kw Kw' : Str → Prop} (h : ∀ k, Kw k → Kw' k) {cs : Str} (hs : ItemStart fuel Kw cs) :
    ItemStart fuel Kw' cs := by
  cases hs with
  | eof => exact .eof
  | item w cm dc ats k more hw hvc hf hk hKw => exact .item w cm dc ats k more hw hvc hf hk (h k hKw)

def NotImportKw (k : Str) : Prop := ∀ m, kw (chars! "import") (k ++ m) = none

theorem importP_none_at (fuel : Nat) (cs : Str) (h : ItemStart fuel NotImportKw cs) : importP fuel (skipWs cs) = none := by
  cases h with
  | eof => peg [importP, preludeP_nil, headerP]
  | item w cm dc ats k more hw hvc hf hkv hKw =>
    have hnone := kwWs_stops_none (kx := chars! "import") (preludeP_comments_only cm dc ats fuel hkv more hvc hf w hw)
      (fun _ => rfl) (fun _ => rfl) (hKw _)
    simp only [importP, headerP, hnone]

theorem defP_nil (fuel : Nat) : defP fuel [] = none := by
  peg [defP, structDefP, enumDefP, serviceDefP, constDefP, newtypeDefP, preludeP_nil, defOpenP, nameEqP, headerP]

def ValidSchema (s : Schema) : Prop :=
  ValidLines 2 s.comment ∧ ValidLines 3 s.doc ∧ (s.doc = [] → s.comment = []) ∧ (∀ i ∈ s.imports, ValidImport i) ∧
  (∀ d ∈ s.defs, ValidDef d)

/-- The schema the formatted text stands for: lines in canonical form, imports sorted. -/
def canonSchema (s : Schema) : Schema :=
  { comment := s.comment.map canonC, doc := s.doc.map canonDI, imports := (sortImports s.imports).map canonImport,
    defs := s.defs.map canonDef }

def schemaFuel (s : Schema) : Nat :=
  s.comment.length + s.doc.length + s.imports.length + listMax (s.imports.map (·.comment.length)) +
  s.defs.length + listMax (s.defs.map defFuel) + 2

def headerText (s : Schema) (b : Str) : Str :=
  if s.doc = [] then joined (preItems s.comment [] [] 0) else joined (headerGroups s.comment s.doc b)

theorem schemaF_out (s : Schema) : ∃ b wtsI wtsD, Blank b ∧
    BlockRel (fun (i : Import) t => t = importText i) (sortImports s.imports) wtsI ∧ BlockRel DefTexts s.defs wtsD ∧
    format s = headerText s b ++ (joined (blockItems canonImport (sortImports s.imports) wtsI) ++
      joined (blockItems canonDef s.defs wtsD)) := by
  simp only [format, schemaF, seqF_cons, seqF_nil]
  generalize hc : (if (!s.comment.isEmpty) = true then seqF [setNewline true, commentLines s.comment 0] else id) ({} : FSt) = st1
  have h1 : st1.out = joined (preItems s.comment [] [] 0) := by
    subst hc
    split
    · simp [seqF, commentLines_out, preItems, joined, Function.comp_def]
    · have : s.comment = [] := by cases h : s.comment <;> simp_all
      simp [this, preItems]
  generalize hd : (if (!s.doc.isEmpty) = true then seqF [newlineF, docLines s.doc 0 (chars! "//!"), setNewline true] else id) st1 = st2
  obtain ⟨b, hb, h2⟩ : ∃ b, Blank b ∧ st2.out = headerText s b := by
    subst hd
    by_cases hdoc : s.doc = []
    · exact ⟨[], blank_nil, by simp only [hdoc, List.isEmpty_nil, Bool.not_true, Bool.false_eq_true, ↓reduceIte, id, headerText, h1]⟩
    · have hd' : (!s.doc.isEmpty) = true := by cases h : s.doc <;> simp_all
      exact ⟨nlIf st1.newline, blank_nlIf _, by
        simp only [hd', ↓reduceIte, seqF_cons, seqF_nil, setNewline_out, docLines_out, newlineF_out, h1,
          headerText, hdoc, joined_headerGroups _ _ _ hdoc, docsText, canonDI, List.replicate, List.nil_append, List.append_assoc]⟩
  obtain ⟨wtsI, hrelI, houtI⟩ := forF_emits canonImport importF (fun (i : Import) t => t = importText i) (sortImports s.imports)
    (fun i _ => emits_importF i) st2
  obtain ⟨wtsD, hrelD, houtD⟩ := forF_emits canonDef definitionF DefTexts s.defs (fun d _ => emits_definitionF d)
    (importsF s.imports st2)
  exact ⟨b, wtsI, wtsD, hb, hrelI, hrelD, by
    rw [houtD]; simp only [importsF, seqF_cons, seqF_nil, orNewline_out, houtI, h2, List.append_assoc]⟩

/-- reading the schema prelude back: the groups up to where the first import or definition (or nothing) starts -/
theorem many_headerText (s : Schema) (b : Str) (hb : Blank b) (hvc : ValidLines 2 s.comment) (hvd : ValidLines 3 s.doc)
    (hcd : s.doc = [] → s.comment = []) (fuel : Nat) (hf : s.comment.length + s.doc.length < fuel) {tail : Str}
    (hend : fileGroupP fuel (skipWs tail) = none) :
    ((many (fileGroupP fuel) fuel (skipWs (headerText s b ++ tail))).1.map (·.1)).flatten = s.comment.map canonC ∧
    (many (fileGroupP fuel) fuel (skipWs (headerText s b ++ tail))).1.map (·.2) = s.doc.map canonDI ∧
    skipWs (many (fileGroupP fuel) fuel (skipWs (headerText s b ++ tail))).2 = skipWs tail := by
  by_cases hdoc : s.doc = []
  · have hm := many_seq (fileGroupP fuel) [] _ fuel trivial hend (by simp; omega)
    simp only [joined_nil, List.nil_append, List.map_nil] at hm
    simp [headerText, hdoc, hcd hdoc, preItems, hm.1, hm.2]
  · have hlen : (headerGroups s.comment s.doc b).length < fuel := by
      cases hd : s.doc with
      | nil => exact absurd hd hdoc
      | cons d ds => simp [headerGroups]; rw [hd] at hf; simp at hf; omega
    have hm := many_seq (fileGroupP fuel) _ _ fuel (headerGroups_seq s.comment s.doc b hb hvc hvd fuel (by omega) _) hend hlen
    obtain ⟨hr1, hr2⟩ := headerGroups_result s.comment s.doc b hcd
    simp only [headerText, hdoc, ↓reduceIte, hm.1]
    exact ⟨hr1, hr2, hm.2⟩

theorem importText_shape (i : Import) :
    importText i = joined (preItems i.comment [] [] 0) ++ (chars! "import" ++ (' ' :: (i.name ++ [';']))) := by
  simp [importText]

end Aldrin.Schema
