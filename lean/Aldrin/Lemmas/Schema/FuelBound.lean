/-
The fuel the parser model needs for a schema (`schemaFuel`) is bounded by the length of its formatted text: every
unit of fuel stands for a comment line, a doc line, an attribute, an option, an item, a level of type nesting, …,
each of which the formatter writes at least one character for. Hence the fuel `parseSchema` takes (input length
+ 2) is enough for what the formatter wrote (`formatted_text_carries_its_fuel`, Props/C18.lean).
-/
import Aldrin.Lemmas.Schema.Schema

namespace Aldrin.Schema

/-- Items that each take one unit of fuel plus their own `g`, and each write at least that many characters. -/
theorem length_add_listMax_le {α : Type} (g : α → Nat) (t : α → Str) : ∀ (l : List α), (∀ x ∈ l, g x + 1 ≤ (t x).length) →
    l.length + listMax (l.map g) ≤ ((l.map t).flatten).length
  | [], _ => Nat.le_refl _
  | x :: l, hx => by
    have ih := length_add_listMax_le g t l (fun y hy => hx y (List.mem_cons_of_mem _ hy))
    have h0 := hx x List.mem_cons_self
    simp only [List.length_cons, List.map_cons, listMax, List.foldr_cons, List.flatten_cons, List.length_append] at ih ⊢
    omega

theorem canonLine_length_pos (pre i : Str) : 1 ≤ (canonLine pre i).length := by
  simp only [canonLine, List.length_append, List.length_cons, List.length_nil]
  omega

theorem intercalate_length (os : List Str) : 2 * (os.length - 1) ≤ (intercalate (chars! ", ") os).length := by
  induction os with
  | nil => simp [intercalate]
  | cons a r ih =>
    cases r with
    | nil => simp [intercalate]
    | cons b r =>
      simp only [intercalate, List.length_append, List.length_cons, List.length_nil] at ih ⊢
      omega

theorem attrText_length (a : Attribute) (inline : Bool) : a.options.length + 1 ≤ (attrText a inline).length := by
  unfold attrText
  have := intercalate_length a.options
  cases h : a.options.isEmpty
  · have hpos : 1 ≤ a.options.length := List.length_pos_iff.mpr (by intro he; simp [he] at h)
    cases inline <;> simp [List.length_append] <;> omega
  · have : a.options = [] := by simpa using h
    cases inline <;> simp [this]

theorem lineItems_length {α : Type} (mk : Line → α) (canon : Line → Line) (hc : ∀ l, 1 ≤ (canon l).length) (ls : List Line)
    (ind : Nat) : ls.length ≤ (joined (ls.map (fun l => (mk (canon l), List.replicate ind ' ' ++ canon l, ([] : Str))))).length := by
  have := length_add_listMax_le (fun (_ : Line) => 0) (fun l => List.replicate ind ' ' ++ canon l ++ []) ls
    (fun l _ => by have := hc l; simp only [List.append_nil, List.length_append]; omega)
  simpa [joined, Function.comp_def] using Nat.le_trans (Nat.le_add_right _ _) this

theorem attrItems_length (ats : List Attribute) (inline : Bool) (ind : Nat) : ats.length + listMax (ats.map (·.options.length)) ≤
    (joined (ats.map (fun a => (PreItem.attr a, List.replicate ind ' ' ++ attrText a inline, ['\n'])))).length := by
  have := length_add_listMax_le (fun (a : Attribute) => a.options.length)
    (fun a => List.replicate ind ' ' ++ attrText a inline ++ ['\n']) ats
    (fun a _ => by have := attrText_length a inline; simp only [List.length_append]; omega)
  simpa [joined, Function.comp_def] using this

theorem preItems_length (cm dc : List Line) (ats : List Attribute) (ind : Nat) :
    cm.length + dc.length + ats.length + listMax (ats.map (·.options.length)) ≤ (joined (preItems cm dc ats ind)).length := by
  have h1 := lineItems_length PreItem.comment canonC (fun l => canonLine_length_pos _ _) cm ind
  have h2 := lineItems_length PreItem.doc canonD (fun l => canonLine_length_pos _ _) dc ind
  have h3 := attrItems_length ats false ind
  simp only [preItems, joined_append, List.length_append]
  omega

theorem preLines_length (cm dc : List Line) (ind : Nat) : cm.length + dc.length ≤ (joined (preItems cm dc [] ind)).length := by
  simpa [listMax] using preItems_length cm dc [] ind

theorem inlinePreItems_length (dc : List Line) (ats : List Attribute) (ind : Nat) :
    dc.length + ats.length + listMax (ats.map (·.options.length)) ≤ (joined (inlinePreItems dc ats ind)).length := by
  have h2 := lineItems_length PreItem.doc canonDI (fun l => canonLine_length_pos _ _) dc ind
  have h3 := attrItems_length ats true ind
  simp only [inlinePreItems, joined_append, List.length_append]
  omega

theorem validIdent_length {n : Str} (h : ValidIdent n) : 1 ≤ n.length := by
  obtain ⟨c, r, rfl, _⟩ := h
  simp

theorem namedRefText_length {r : NamedRef} (h : ValidRef r) : 1 ≤ (namedRefText r).length := by
  cases r with
  | intern n => exact validIdent_length h
  | extern s n => have := validIdent_length h.1; simp [namedRefText]; omega

theorem typeText_depth : ∀ (t : TypeName), ValidType t → t.depth ≤ (typeText t).length
  | .prim p, _ => by cases p <;> decide
  | .ref r, h => namedRefText_length h.1
  | .option t, h | .box t, h | .vec t, h | .set t, h | .sender t, h | .receiver t, h => by
    have := typeText_depth t h; simp [TypeName.depth, typeText]; omega
  | .map a b, h | .result a b, h => by
    have h1 := typeText_depth a h.1
    have h2 := typeText_depth b h.2
    simp [TypeName.depth, typeText]; omega
  | .array t l, h => by have := typeText_depth t h.1; simp [TypeName.depth, typeText]; omega

theorem fieldText_fuel (f : StructField) (hv : ValidField f) (ind : Nat) : fieldFuel f ≤ (fieldText f ind).length := by
  obtain ⟨_, _, _, _, hty⟩ := hv
  have h1 := preLines_length f.comment f.doc ind
  have h2 := typeText_depth f.ty hty
  simp only [fieldText, fieldCore, fieldFuel, List.length_append, List.length_cons, List.length_nil] at h1 ⊢
  omega

theorem variantText_fuel (v : EnumVariant) (hv : ValidVariant v) (ind : Nat) : variantFuel v ≤ (variantText v ind).length := by
  obtain ⟨_, _, _, _, hvt⟩ := hv
  have h1 := preLines_length v.comment v.doc ind
  simp only [variantText, variantCore, variantFuel, List.length_append, List.length_cons, List.length_nil] at h1 ⊢
  cases hty : v.ty with
  | none => simp; omega
  | some t => have h2 := typeText_depth t (hvt t hty); simp; omega

theorem fbPart_fuel (fb : Option Fallback) (wfb : Str) (ind : Nat) : fallbackFuel fb ≤ (fbPart fb wfb ind).length := by
  cases fb with
  | none => exact Nat.le_refl _
  | some f =>
    have h1 := preLines_length f.comment f.doc ind
    simp only [fallbackFuel, fbPart, fallbackText, List.length_append, List.length_cons, List.length_nil] at h1 ⊢
    omega

theorem blockItems_fuel {β γ : Type} (canon : β → γ) (T : β → Str → Prop) (fuel : β → Nat) :
    ∀ (l : List β) (wts : List (Str × Str)), (∀ x ∈ l, ∀ txt, T x txt → fuel x ≤ txt.length) → BlockRel T l wts →
    l.length + listMax (l.map fuel) ≤ (joined (blockItems canon l wts)).length
  | [], [], _, _ => Nat.le_refl _
  | [], _ :: _, _, h => h.elim
  | _ :: _, [], _, h => h.elim
  | x :: l, (w, txt) :: wts, hT, h => by
    have ih := blockItems_fuel canon T fuel l wts (fun y hy => hT y (List.mem_cons_of_mem _ hy)) h.2.2
    have h0 := hT x List.mem_cons_self txt h.2.1
    simp only [blockItems, joined_cons, List.length_append, List.length_cons, List.length_nil, List.map_cons, listMax,
      List.foldr_cons] at ih ⊢
    omega

theorem body_fuel {β : Type} (canon : β → β) (text : β → Nat → Str) (Valid : β → Prop) (fuelOf : β → Nat)
    (htext : ∀ x, Valid x → ∀ ind, fuelOf x ≤ (text x ind).length) (l : List β) (hv : ∀ x ∈ l, Valid x) (fb : Option Fallback)
    (ind : Nat) (wts : List (Str × Str)) (wfb : Str) (hrel : BlockRel (fun x t => t = text x ind) l wts) :
    l.length + listMax (l.map fuelOf) + fallbackFuel fb ≤ (joined (blockItems canon l wts) ++ fbPart fb wfb ind).length := by
  have h2 := blockItems_fuel canon _ fuelOf l wts (fun x hx txt (h : txt = text x ind) => h ▸ htext x (hv x hx) ind) hrel
  have h3 := fbPart_fuel fb wfb ind
  simp only [List.length_append]
  omega

theorem inlineBodyTexts_fuel {β : Type} (k : Str) (canon : β → β) (text : β → Nat → Str) (Valid : β → Prop) (fuelOf : β → Nat)
    (htext : ∀ x, Valid x → ∀ ind, fuelOf x ≤ (text x ind).length) (dc : List Line) (ats : List Attribute) (l : List β)
    (hv : ∀ x ∈ l, Valid x) (fb : Option Fallback) (ind : Nat) (t : Str) (ht : InlineBodyTexts k canon text dc ats l fb ind t) :
    dc.length + ats.length + listMax (ats.map (·.options.length)) + l.length + listMax (l.map fuelOf) + fallbackFuel fb + 1
      ≤ t.length := by
  obtain ⟨wts, wfb, hrel, _, rfl⟩ := ht
  split
  · have h1 := inlinePreItems_length dc ats (ind + 4)
    have h2 := body_fuel canon text Valid fuelOf htext l hv fb (ind + 4) wts wfb hrel
    simp only [List.length_append, List.length_cons, List.length_nil] at h1 h2 ⊢
    omega
  · next hm =>
    obtain ⟨rfl, rfl, rfl, rfl⟩ := inline_empty hm
    simp [listMax, fallbackFuel]

theorem inlineTexts_fuel (t : TypeOrInline) (hv : ValidInline t) (ind : Nat) (txt : Str) (ht : InlineTexts t ind txt) :
    inlineFuel t ≤ txt.length := by
  cases t with
  | ty ty => cases ht; have := typeText_depth ty hv; simp [inlineFuel]; omega
  | struct s =>
    obtain ⟨_, _, hvf, _⟩ := hv
    exact inlineBodyTexts_fuel _ canonField fieldText ValidField fieldFuel fieldText_fuel s.doc s.attrs s.fields hvf
      s.fallback ind txt ht
  | enum e =>
    obtain ⟨_, _, hvv, _⟩ := hv
    exact inlineBodyTexts_fuel _ canonVariant variantText ValidVariant variantFuel variantText_fuel e.doc e.attrs e.variants
      hvv e.fallback ind txt ht

theorem fnPartTexts_fuel (p : FnPart) (hv : ValidPart p) (kind txt : Str) (ht : FnPartTexts p kind txt) : partFuel p ≤ txt.length := by
  obtain ⟨itxt, hi, rfl⟩ := ht
  have h1 := preLines_length p.comment [] 8
  have h2 := inlineTexts_fuel p.ty hv.2 8 itxt hi
  simp only [partFuel, List.length_append, List.length_cons, List.length_nil, List.length_replicate] at h1 ⊢
  omega

theorem partChunk_fuel (o : Option FnPart) (hv : ∀ p, o = some p → ValidPart p) (kind w t : Str)
    (ht : ∀ p, o = some p → Blank w ∧ FnPartTexts p kind t) : optPartFuel o ≤ (partChunk o w t).length := by
  cases o with
  | none => exact Nat.le_refl _
  | some p =>
    have := fnPartTexts_fuel p (hv p rfl) kind t (ht p rfl).2
    simp only [optPartFuel, partChunk, List.length_append, List.length_cons, List.length_nil]
    omega

theorem fnTexts_fuel (f : FnDef) (hv : ValidFn f) (txt : Str) (ht : FnTexts f txt) : fnFuel f ≤ txt.length := by
  have hh := preLines_length f.comment f.doc 4
  obtain ⟨_, _, _, _, ha, ho, he⟩ := hv
  unfold FnTexts at ht
  split at ht
  · obtain ⟨wa, ta, wo, to, we, te, h1, h2, h3, rfl⟩ := ht
    have c1 := partChunk_fuel f.args ha (chars! "args") wa ta h1
    have c2 := partChunk_fuel f.ok ho (chars! "ok") wo to h2
    have c3 := partChunk_fuel f.err he (chars! "err") we te h3
    simp only [fnFuel, fnHead, List.length_append, List.length_cons, List.length_nil] at c1 c2 c3 hh ⊢
    omega
  · next hmulti =>
    simp only [Bool.or_eq_true, not_or, Bool.not_eq_true, Option.isSome_eq_false_iff, Option.isNone_iff_eq_none] at hmulti
    obtain ⟨⟨hargs, hokc⟩, herr⟩ := hmulti
    cases hok : f.ok with
    | none =>
      simp only [hok] at ht
      simp only [ht, fnFuel, fnHead, hargs, hok, herr, optPartFuel, List.length_append, List.length_cons, List.length_nil] at hh ⊢
      omega
    | some ok =>
      simp only [hok] at ht
      obtain ⟨itxt, hi, rfl⟩ := ht
      have hc : ok.comment = [] := by
        simpa only [okHasComment, hok, Bool.not_eq_false', List.isEmpty_iff] using hokc
      have h2 := inlineTexts_fuel ok.ty (ho ok hok).2 4 itxt hi
      simp only [fnFuel, fnHead, hargs, hok, herr, optPartFuel, partFuel, hc, List.length_nil, List.length_append,
        List.length_cons] at hh ⊢
      omega

theorem eventTexts_fuel (e : EventDef) (hv : ValidEvent e) (txt : Str) (ht : EventTexts e txt) : eventFuel e ≤ txt.length := by
  obtain ⟨_, _, _, _, hvt⟩ := hv
  have hh := preLines_length e.comment e.doc 4
  unfold EventTexts at ht
  cases hty : e.ty with
  | none =>
    simp only [hty] at ht
    simp only [ht, eventFuel, eventHead, hty, List.length_append, List.length_cons, List.length_nil] at hh ⊢
    omega
  | some t =>
    simp only [hty] at ht
    obtain ⟨itxt, hi, rfl⟩ := ht
    have h2 := inlineTexts_fuel t (hvt t hty) 4 itxt hi
    simp only [eventFuel, eventHead, hty, List.length_append, List.length_cons] at hh ⊢
    omega

theorem itemTexts_fuel (i : ServiceItem) (hv : ValidItem i) (txt : Str) (ht : ItemTexts i txt) : itemFuel i ≤ txt.length := by
  cases i with
  | fn f => exact fnTexts_fuel f hv txt ht
  | event e => exact eventTexts_fuel e hv txt ht

theorem itemFbPart_fuel (fb : Option Fallback) (k w : Str) : fallbackFuel fb ≤ (itemFbPart fb k w).length := by
  cases fb with
  | none => exact Nat.le_refl _
  | some f =>
    have h1 := preLines_length f.comment f.doc 4
    simp only [fallbackFuel, itemFbPart, itemFallbackText, List.length_append, List.length_cons, List.length_nil] at h1 ⊢
    omega

theorem serviceTexts_fuel (d : ServiceDef) (hv : ValidService d) (txt : Str) (ht : ServiceTexts d txt) : serviceFuel d ≤ txt.length := by
  obtain ⟨wts, wf, we, hrel, _, _, rfl⟩ := ht
  obtain ⟨_, _, _, _, _, _, _, hvi, _, _⟩ := hv
  have h1 := preLines_length d.comment d.doc 0
  have h2 := preLines_length d.uuidComment [] 4
  have h3 := preLines_length d.versionComment [] 4
  have h4 := blockItems_fuel canonItem ItemTexts itemFuel d.items wts
    (fun i hi => itemTexts_fuel i (hvi i hi)) hrel
  have h5 := itemFbPart_fuel d.fnFallback (chars! "fn") wf
  have h6 := itemFbPart_fuel d.evFallback (chars! "event") we
  simp only [serviceFuel, serviceHeadText, List.length_append, List.length_cons, List.length_nil] at h1 h2 h3 h4 h5 h6 ⊢
  omega

theorem blockDefTexts_fuel {β : Type} (k : Str) (canon : β → β) (text : β → Nat → Str) (Valid : β → Prop) (fuelOf : β → Nat)
    (htext : ∀ x, Valid x → ∀ ind, fuelOf x ≤ (text x ind).length) (cm dc : List Line) (ats : List Attribute) (name : Str)
    (l : List β) (hv : ∀ x ∈ l, Valid x) (fb : Option Fallback) (t : Str) (ht : BlockDefTexts k canon text cm dc ats name l fb t) :
    cm.length + dc.length + ats.length + listMax (ats.map (·.options.length)) + l.length + listMax (l.map fuelOf) +
        fallbackFuel fb + 1 ≤ t.length := by
  obtain ⟨wts, wfb, hrel, _, rfl⟩ := ht
  have h1 := preItems_length cm dc ats 0
  split
  · have h2 := body_fuel canon text Valid fuelOf htext l hv fb 4 wts wfb hrel
    simp only [List.length_append, List.length_cons, List.length_nil] at h1 h2 ⊢
    omega
  · next hb =>
    obtain ⟨rfl, rfl⟩ := body_empty hb
    simp only [fallbackFuel, List.length_nil, List.map_nil, listMax, List.foldr_nil, List.length_append,
      List.length_cons] at h1 ⊢
    omega

theorem defTexts_fuel (d : Definition) (hv : ValidDef d) (txt : Str) (ht : DefTexts d txt) : defFuel d ≤ txt.length := by
  cases d with
  | struct d =>
    obtain ⟨_, _, _, _, hvf, _⟩ := hv
    exact blockDefTexts_fuel (chars! "struct") canonField fieldText ValidField fieldFuel fieldText_fuel d.comment d.doc d.attrs
      d.name d.fields hvf d.fallback txt ht
  | enum d =>
    obtain ⟨_, _, _, _, hvv, _⟩ := hv
    exact blockDefTexts_fuel (chars! "enum") canonVariant variantText ValidVariant variantFuel variantText_fuel d.comment d.doc
      d.attrs d.name d.variants hvv d.fallback txt ht
  | service d => exact serviceTexts_fuel d hv txt ht
  | const d =>
    cases ht
    have h1 := preLines_length d.comment d.doc 0
    simp only [defFuel, constText, List.length_append, List.length_cons, List.length_nil] at h1 ⊢
    omega
  | newtype d =>
    cases ht
    obtain ⟨_, _, _, _, hvt⟩ := hv
    have h1 := preItems_length d.comment d.doc d.attrs 0
    have h2 := typeText_depth d.target hvt
    simp only [defFuel, newtypeFuel, newtypeText, List.length_append, List.length_cons, List.length_nil] at h1 ⊢
    omega

theorem listMax_le_of_forall {l : List Nat} {m : Nat} (h : ∀ n ∈ l, n ≤ m) : listMax l ≤ m := by
  induction l with
  | nil => exact Nat.zero_le _
  | cons a l ih =>
    have h1 := h a List.mem_cons_self
    have h2 := ih (fun n hn => h n (List.mem_cons_of_mem _ hn))
    simp only [listMax, List.foldr_cons] at h2 ⊢
    omega

theorem docsText_length (dc : List Line) : dc.length ≤ (docsText dc).length := by
  have := length_add_listMax_le (fun (_ : Line) => 0) canonDI dc (fun d _ => canonLine_length_pos _ _)
  exact Nat.le_trans (Nat.le_add_right _ _) this

theorem headerText_length (s : Schema) (b : Str) : s.comment.length + s.doc.length ≤ (headerText s b).length := by
  have h1 := preLines_length s.comment [] 0
  unfold headerText
  split
  · next hd => simp only [hd, List.length_nil] at h1 ⊢; omega
  · next hd =>
    rw [joined_headerGroups _ _ _ hd]
    have := docsText_length s.doc
    simp only [List.length_append, List.length_nil] at h1 ⊢
    omega

end Aldrin.Schema
