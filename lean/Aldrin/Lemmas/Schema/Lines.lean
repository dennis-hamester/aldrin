/-
Comment and doc lines: what the formatter writes for a line is read back as a line with the same `inner`.
-/
import Aldrin.Lemmas.Schema.Atoms

namespace Aldrin.Schema

/-- The line the formatter writes for a comment / doc string with inner text `i`. -/
def canonLine (pre : Str) (i : Str) : Line := pre ++ (if i.isEmpty then [] else ' ' :: i) ++ ['\n']

theorem lineTail_append : ∀ (body rest : Str), '\n' ∉ body → lineTail (body ++ '\n' :: rest) = (body ++ ['\n'], rest)
  | [], rest, _ => rfl
  | c :: body, rest, h => by
    have hc : c ≠ '\n' := fun he => h (he ▸ List.mem_cons_self)
    have hb : '\n' ∉ body := fun hm => h (List.mem_cons_of_mem _ hm)
    have ih := lineTail_append body rest hb
    rw [List.cons_append]
    unfold lineTail
    split
    · next heq => cases heq
    · next heq => cases heq; exact absurd rfl hc
    · next r heq =>
      -- `\r\n`: the character after `\r` is the line feed that ends `body`, so `body` is empty
      obtain ⟨rfl, heq⟩ := List.cons.inj heq
      cases body with
      | nil => cases heq; rfl
      | cons d body => cases heq; exact absurd List.mem_cons_self hb
    · next heq => cases heq; rw [ih]; rfl

theorem trimEnd_eq_self {s : Str} (h : ∀ c, s.getLast? = some c → isWs c = false) : trimEnd s = s := by
  unfold trimEnd
  cases hrev : s.reverse with
  | nil =>
    have : s = [] := by simpa using hrev
    simp [this]
  | cons d r =>
    have hl : s.getLast? = some d := by
      rw [← List.head?_reverse, hrev]; rfl
    have hw := h d hl
    simp only [List.dropWhile, hw]
    rw [← hrev, List.reverse_reverse]

theorem trimEnd_idem (s : Str) : trimEnd (trimEnd s) = trimEnd s := by
  simp only [trimEnd, List.reverse_reverse, dropWhile_idem]

theorem mem_trimEnd {s : Str} {c : Char} (h : c ∈ trimEnd s) : c ∈ s :=
  List.mem_reverse.1 ((List.dropWhile_sublist isWs).subset (List.mem_reverse.1 h))

theorem trimEnd_append_allws (s t : Str) (ht : ∀ c ∈ t, isWs c = true) : trimEnd (s ++ t) = trimEnd s := by
  unfold trimEnd
  rw [List.reverse_append, List.dropWhile_append_of_pos fun c hc => ht c (List.mem_reverse.1 hc)]

theorem inner_trimmed (k : Nat) (raw : Line) : trimEnd (inner k raw) = inner k raw := trimEnd_idem _

theorem inner_canonLine (pre : Str) (i : Str) (hi : trimEnd i = i) : inner pre.length (canonLine pre i) = i := by
  unfold inner canonLine
  simp only [List.append_assoc, List.drop_left]
  cases i with
  | nil => rfl
  | cons c i =>
    show trimEnd ((c :: i) ++ ['\n']) = c :: i
    rw [trimEnd_append_allws _ ['\n'] (by decide)]
    exact hi

theorem lineTail_canonLine (pre i rest : Str) (hp : '\n' ∉ pre) (hn : '\n' ∉ i) :
    lineTail (canonLine pre i ++ rest) = (canonLine pre i, rest) := by
  have := lineTail_append (pre ++ (if i.isEmpty then [] else ' ' :: i)) rest (by split <;> simp [hp, hn])
  simpa only [canonLine, List.append_assoc, List.cons_append, List.nil_append] using this

theorem commentP_canon (i rest : Str) (hn : '\n' ∉ i) :
    commentP (canonLine (chars! "//") i ++ rest) = some (canonLine (chars! "//") i, rest) := by
  unfold commentP
  rw [lineTail_canonLine _ i rest (by decide) hn]
  cases h : i.isEmpty <;> simp [canonLine, h]

theorem docP_canon (i rest : Str) (hn : '\n' ∉ i) :
    docP (canonLine (chars! "///") i ++ rest) = some (canonLine (chars! "///") i, rest) := by
  unfold docP
  rw [lineTail_canonLine _ i rest (by decide) hn]
  simp [canonLine]

theorem docInlineP_canon (i rest : Str) (hn : '\n' ∉ i) :
    docInlineP (canonLine (chars! "//!") i ++ rest) = some (canonLine (chars! "//!") i, rest) := by
  unfold docInlineP
  rw [lineTail_canonLine _ i rest (by decide) hn]
  simp [canonLine]

theorem docP_comment (i rest : Str) : docP (canonLine (chars! "//") i ++ rest) = none := by
  unfold canonLine docP
  cases h : i.isEmpty <;> simp [h]

theorem commentP_doc (i rest : Str) : commentP (canonLine (chars! "///") i ++ rest) = none := by
  simp [canonLine, commentP]

theorem commentP_docInline (i rest : Str) : commentP (canonLine (chars! "//!") i ++ rest) = none := by
  simp [canonLine, commentP]

theorem skipWs_canonLine (p i rest : Str) : skipWs (canonLine ('/' :: p) i ++ rest) = canonLine ('/' :: p) i ++ rest :=
  skipWs_cons_nws (by decide) _

end Aldrin.Schema
