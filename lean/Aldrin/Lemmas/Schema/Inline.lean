/-
Inline structs and enums (in function parts and events) and `type_name_or_inline`.
-/
import Aldrin.Lemmas.Schema.Defs

namespace Aldrin.Schema

def inlinePreItems (dc : List Line) (ats : List Attribute) (ind : Nat) : List (PreItem × Str × Str) :=
  dc.map (fun d => (PreItem.doc (canonDI d), List.replicate ind ' ' ++ canonDI d, ([] : Str))) ++
  ats.map (fun a => (PreItem.attr a, List.replicate ind ' ' ++ attrText a true, ['\n']))

theorem prelude_inline_out (dc : List Line) (ats : List Attribute) (ind : Nat) (st : FSt) :
    (prelude [] dc ats ind true st).out = st.out ++ joined (inlinePreItems dc ats ind) := by
  simp [prelude, seqF, commentLines_out, docLines_out, forF_out _ _ ats (fun a _ => attributeF_out a ind true), inlinePreItems,
    joined, canonDI, Function.comp_def]

theorem inlinePreItems_seq (dc : List Line) (ats : List Attribute) (ind fuel : Nat) (rest : Str)
    (hvd : ValidLines 3 dc) (hva : ∀ x ∈ ats, ValidAttr x ∧ x.options.length < fuel) :
    SeqItems (inlinePreItemP fuel) (inlinePreItems dc ats ind) rest := by
  refine seqItems_append _ _ _ _ (lineItems_seq PreItem.doc canonDI dc ind _ fun x hx tail => ?_)
    (attrItems_seq true fuel (fun t => ?_) ats hva ind rest)
  · simp only [canonDI, skipWs_canonLine, inlinePreItemP, docInlineP_canon _ tail (hvd x hx)]
  · simp only [inlinePreItemP, docInlineP_cons_none (show '#' ≠ '/' by decide)]

theorem preDocs_inlinePreItems (dc : List Line) (ats : List Attribute) (ind : Nat) :
    preDocs ((inlinePreItems dc ats ind).map (·.1)) = dc.map canonDI := by
  simp [inlinePreItems, preDocs, List.filterMap_append, List.filterMap_map, Function.comp_def, filterMap_none]

theorem preAttrs_inlinePreItems (dc : List Line) (ats : List Attribute) (ind : Nat) :
    preAttrs ((inlinePreItems dc ats ind).map (·.1)) = ats := by
  simp [inlinePreItems, preAttrs, List.filterMap_append, List.filterMap_map, Function.comp_def, filterMap_none]

/-- `kw ~ "{" ~ (doc_string_inline | attribute_inline)*` on what the formatter writes. -/
theorem inlineOpenP_text (k : Str) (dc : List Line) (ats : List Attribute) (ind fuel : Nat) (wnl rest : Str)
    (hvd : ValidLines 3 dc) (hva : ∀ x ∈ ats, ValidAttr x ∧ x.options.length < fuel) (hwnl : Blank wnl)
    (hend : inlinePreItemP fuel (skipWs rest) = none) (hfuel : dc.length + ats.length < fuel) :
    inlineOpenP k fuel (k ++ (' ' :: '{' :: (wnl ++ (joined (inlinePreItems dc ats ind) ++ rest))))
      = some ((inlinePreItems dc ats ind).map (·.1), skipWs rest) := by
  have hm := many_seq _ _ rest fuel (inlinePreItems_seq dc ats ind fuel rest hvd hva) hend
    (by simpa [inlinePreItems] using hfuel)
  peg [inlineOpenP, kwWs_blank, skipWs_blank hwnl, hm.1, hm.2]

theorem inlinePreItemP_cons_none (fuel : Nat) {c : Char} (h1 : c ≠ '/') (h2 : c ≠ '#') (r : Str) :
    inlinePreItemP fuel (c :: r) = none := by
  simp only [inlinePreItemP, docInlineP_cons_none h1, attributeP_cons_none h2, Option.map_none]

theorem IdHead.inlinePreItemP_none {t : Str} (h : IdHead t) (fuel : Nat) (more : Str) :
    inlinePreItemP fuel (t ++ more) = none := by
  obtain ⟨c, r, rfl, hc⟩ := h
  exact inlinePreItemP_cons_none fuel (by rintro rfl; cases hc) (by rintro rfl; cases hc) _

theorem inlinePreItemP_line_none (fuel : Nat) (p i more : Str) (hp : p = ['/'] ∨ p = ['/', '/']) :
    inlinePreItemP fuel (canonLine ('/' :: p) i ++ more) = none := by
  rcases hp with rfl | rfl <;> cases hi : i.isEmpty <;>
    simp [inlinePreItemP, docInlineP, canonLine, hi, attributeP_cons_none (show '/' ≠ '#' by decide)]

theorem inlinePre_none_at_item (cm dc : List Line) (ind fuel : Nat) {core : Str} (hc : IdHead core)
    (w more : Str) (hw : Blank w) :
    inlinePreItemP fuel (skipWs (w ++ ((joined (preItems cm dc [] ind) ++ (List.replicate ind ' ' ++ core)) ++ more))) = none := by
  rw [skipWs_blank hw]
  match cm, dc with
  | x :: cm, _ =>
    simp only [preItems, List.map_cons, List.cons_append, joined_cons, List.append_assoc, skipWs_indent, canonC,
      skipWs_canonLine, inlinePreItemP_line_none _ _ _ _ (.inl rfl)]
  | [], x :: dc =>
    simp only [preItems, List.map_nil, List.nil_append, List.map_cons, List.cons_append, joined_cons, List.append_assoc,
      skipWs_indent, canonD, skipWs_canonLine, inlinePreItemP_line_none _ _ _ _ (.inr rfl)]
  | [], [] =>
    simp only [preItems, List.map_nil, List.nil_append, joined_nil, List.append_assoc, skipWs_indent, hc.skipWs,
      hc.inlinePreItemP_none]

theorem inlinePre_none_at_body {β : Type} {canon : β → β} {text : β → Nat → Str} {Valid : β → Prop} {fuelOf : β → Nat}
    {itemP : Nat → P β} {itemF : β → Nat → F} (K : BodyItems canon text Valid fuelOf itemP itemF)
    (l : List β) (hv : ∀ x ∈ l, Valid x) (fb : Option Fallback) (hvfb : ∀ f, fb = some f → ValidFallback f)
    (ind ind' fuel : Nat) (wts : List (Str × Str)) (wfb rest : Str)
    (hrel : BlockRel (fun x t => t = text x ind) l wts) (hwfb : Blank wfb) :
    inlinePreItemP fuel (skipWs (joined (blockItems canon l wts) ++
      (fbPart fb wfb ind ++ (List.replicate ind' ' ' ++ '}' :: rest)))) = none := by
  match l, wts, hrel with
  | x :: l, (w, txt) :: wts, ⟨hw, ht, _⟩ =>
    obtain rfl : txt = text x ind := ht
    obtain ⟨cm, dc, core, hcore, htext⟩ := K.head x (hv x List.mem_cons_self) ind
    simp only [blockItems, joined_cons, htext, List.append_assoc]
    have := inlinePre_none_at_item cm dc ind fuel hcore w (['\n'] ++ (joined (blockItems canon l wts) ++
      (fbPart fb wfb ind ++ (List.replicate ind' ' ' ++ '}' :: rest)))) hw
    simpa only [List.append_assoc] using this
  | [], [], _ =>
    cases fb with
    | some f =>
      have := inlinePre_none_at_item f.comment f.doc ind fuel ((idHead_ident (hvfb f rfl).2.2).append (chars! " = fallback;"))
        wfb (['\n'] ++ (List.replicate ind' ' ' ++ '}' :: rest)) hwfb
      simpa only [blockItems, joined_nil, List.nil_append, fbPart, fallbackText, List.append_assoc] using this
    | none =>
      peg [blockItems, joined_nil, fbPart, skipWs_indent, inlinePreItemP_cons_none]

/-- Text of an inline struct or enum (keyword `k`) without the final line end. The condition is `isMultiStruct [] …` /
`isMultiEnum [] …` unfolded (hence `!([] : List Line).isEmpty`), so that `InlineStructTexts` and `InlineEnumTexts` below
are instances of this predicate by definitional unfolding. -/
def InlineBodyTexts {β : Type} (k : Str) (canon : β → β) (text : β → Nat → Str) (dc : List Line) (ats : List Attribute)
    (l : List β) (fb : Option Fallback) (ind : Nat) (t : Str) : Prop :=
  ∃ wts wfb, BlockRel (fun x t => t = text x (ind + 4)) l wts ∧ Blank wfb ∧
    t = k ++ (if !([] : List Line).isEmpty || !dc.isEmpty || !ats.isEmpty || !l.isEmpty || fb.isSome then
      ' ' :: '{' :: '\n' :: (joined (inlinePreItems dc ats (ind + 4)) ++ (joined (blockItems canon l wts) ++
        (fbPart fb wfb (ind + 4) ++ (List.replicate ind ' ' ++ ['}']))))
      else chars! " {}")

/-- An inline struct or enum written as `{}` has no doc string, attribute, item or fallback. -/
theorem inline_empty {β : Type} {dc : List Line} {ats : List Attribute} {l : List β} {fb : Option Fallback}
    (h : ¬ (!([] : List Line).isEmpty || !dc.isEmpty || !ats.isEmpty || !l.isEmpty || fb.isSome) = true) :
    dc = [] ∧ ats = [] ∧ l = [] ∧ fb = none := by
  cases dc <;> cases ats <;> cases l <;> cases fb <;> simp_all

section InlineBody
variable {β : Type} {canon : β → β} {text : β → Nat → Str} {Valid : β → Prop} {fuelOf : β → Nat} {itemP : Nat → P β}
  {itemF : β → Nat → F} (K : BodyItems canon text Valid fuelOf itemP itemF)
include K

/-- What `inlineStructF` / `inlineEnumF` (the function `f`, with body `body`) write. -/
theorem inlineF_out (k : Str) (dc : List Line) (ats : List Attribute) (l : List β) (fb : Option Fallback) (ind : Nat)
    {f body : F}
    (hbody : ∀ st, body st = (fb.elim id (fallbackEntryF · (ind + 4))) (forF l (fun x => itemF x (ind + 4)) (setFirst true st)))
    (hf : ∀ st, f st = if !([] : List Line).isEmpty || !dc.isEmpty || !ats.isEmpty || !l.isEmpty || fb.isSome then
      seqF [w (k ++ chars! " {"), nl, if !dc.isEmpty || !ats.isEmpty then prelude [] dc ats (ind + 4) true else id,
        setNewline (!dc.isEmpty || !ats.isEmpty), body, indent ind, w (chars! "}"), nl] st
      else seqF [w (k ++ chars! " {}"), nl] st)
    (st : FSt) : ∃ t, InlineBodyTexts k canon text dc ats l fb ind t ∧ (f st).out = st.out ++ (t ++ ['\n']) := by
  rw [hf]
  cases hm : (!([] : List Line).isEmpty || !dc.isEmpty || !ats.isEmpty || !l.isEmpty || fb.isSome)
  · obtain ⟨-, -, rfl, -⟩ := inline_empty (ne_true_of_eq_false hm)
    refine ⟨_, ⟨[], [], trivial, blank_nil, rfl⟩, ?_⟩
    simp only [hm, Bool.false_eq_true, ↓reduceIte, seqF_cons, seqF_nil, w_out, nl_out, List.append_assoc]
  · -- the prelude part is written with or without `prelude`, the text is the same
    have hpre : ∀ st', ((if (!dc.isEmpty || !ats.isEmpty) = true then prelude [] dc ats (ind + 4) true else id) st').out
        = st'.out ++ joined (inlinePreItems dc ats (ind + 4)) := by
      intro st'
      split
      · exact prelude_inline_out _ _ _ st'
      · have hd : dc = [] := by cases dc <;> simp_all
        have ha : ats = [] := by cases ats <;> simp_all
        simp [hd, ha, inlinePreItems]
    obtain ⟨wts, wfb, hrel, hwfb, hfo⟩ := bodyF_out K l fb (ind + 4) hbody (setNewline (!dc.isEmpty || !ats.isEmpty)
      ((if (!dc.isEmpty || !ats.isEmpty) = true then prelude [] dc ats (ind + 4) true else id) (nl (w (k ++ chars! " {") st))))
    refine ⟨_, ⟨wts, wfb, hrel, hwfb, rfl⟩, ?_⟩
    simp only [hm, ↓reduceIte, seqF_cons, seqF_nil, w_out, nl_out, indent_out, hfo, setNewline_out, hpre, List.append_assoc,
      List.cons_append, List.nil_append]

theorem inlineBodyP_text (k : Str) (dc : List Line) (ats : List Attribute) (l : List β) (fb : Option Fallback)
    (hv : ValidLines 3 dc ∧ (∀ a ∈ ats, ValidAttr a) ∧ (∀ x ∈ l, Valid x) ∧ (∀ f, fb = some f → ValidFallback f))
    (ind fuel : Nat)
    (hf : dc.length + ats.length + listMax (ats.map (·.options.length)) + l.length + listMax (l.map fuelOf) + fallbackFuel fb < fuel)
    (t : Str) (ht : InlineBodyTexts k canon text dc ats l fb ind t) (rest : Str) :
    ∃ pre r, inlineOpenP k fuel (t ++ rest) = some (pre, r) ∧ preDocs pre = dc.map canonDI ∧ preAttrs pre = ats ∧
      bodyP itemP fuel r = some ((l.map canon, fb.map canonFallback), rest) := by
  obtain ⟨hvd, hva, hv, hvfb⟩ := hv
  obtain ⟨wts, wfb, hrel, hwfb, rfl⟩ := ht
  have hb := bodyP_text K l wts fb wfb (List.replicate ind ' ') rest (ind + 4) fuel hrel hv hvfb (by omega) hwfb
    (blank_replicate _)
  cases hm : (!([] : List Line).isEmpty || !dc.isEmpty || !ats.isEmpty || !l.isEmpty || fb.isSome)
  · obtain ⟨rfl, rfl, rfl, rfl⟩ := inline_empty (ne_true_of_eq_false hm)
    cases blockRel_nil hrel
    have hopen := inlineOpenP_text k [] [] (ind + 4) fuel [] ('}' :: rest) nofun nofun blank_nil
      (by peg [inlinePreItemP_cons_none]) (by omega)
    peg [blockItems, fbPart, inlinePreItems, skipWs_indent, List.map_nil, joined_nil] at hb hopen
    exact ⟨[], '}' :: rest, by simpa only [Bool.false_eq_true, ↓reduceIte, List.append_assoc, List.cons_append, List.nil_append] using hopen,
      rfl, rfl, hb⟩
  · refine ⟨_, _, ?_, preDocs_inlinePreItems dc ats (ind + 4), preAttrs_inlinePreItems dc ats (ind + 4), hb⟩
    have hopen := inlineOpenP_text k dc ats (ind + 4) fuel ['\n']
      (joined (blockItems canon l wts) ++ (fbPart fb wfb (ind + 4) ++ (List.replicate ind ' ' ++ '}' :: rest)))
      hvd (attrs_valid_fuel hva (by omega)) blank_nl
      (inlinePre_none_at_body K l hv fb hvfb (ind + 4) ind fuel wts wfb rest hrel hwfb) (by omega)
    simpa only [↓reduceIte, List.append_assoc, List.cons_append, List.nil_append] using hopen

end InlineBody

def ValidInlineStruct (s : InlineStruct) : Prop :=
  ValidLines 3 s.doc ∧ (∀ a ∈ s.attrs, ValidAttr a) ∧ (∀ f ∈ s.fields, ValidField f) ∧
  (∀ fb, s.fallback = some fb → ValidFallback fb)

def canonInlineStruct (s : InlineStruct) : InlineStruct :=
  { doc := s.doc.map canonDI, attrs := s.attrs, fields := s.fields.map canonField, fallback := s.fallback.map canonFallback }

def inlineStructFuel (s : InlineStruct) : Nat :=
  s.doc.length + s.attrs.length + listMax (s.attrs.map (·.options.length)) +
  s.fields.length + listMax (s.fields.map fieldFuel) + fallbackFuel s.fallback + 1

/-- Text of an inline struct without the final line end. -/
def InlineStructTexts (s : InlineStruct) (ind : Nat) (t : Str) : Prop :=
  ∃ wts wfb, BlockRel (fun (f : StructField) t => t = fieldText f (ind + 4)) s.fields wts ∧ Blank wfb ∧
    t = chars! "struct" ++ (if isMultiStruct [] s.doc s.attrs s.fields s.fallback then
      ' ' :: '{' :: '\n' :: (joined (inlinePreItems s.doc s.attrs (ind + 4)) ++ (joined (blockItems canonField s.fields wts) ++
        (fbPart s.fallback wfb (ind + 4) ++ (List.replicate ind ' ' ++ ['}']))))
      else chars! " {}")

theorem inlineStructF_out (s : InlineStruct) (ind : Nat) (st : FSt) :
    ∃ t, InlineStructTexts s ind t ∧ (inlineStructF s ind st).out = st.out ++ (t ++ ['\n']) :=
  inlineF_out fieldItems (chars! "struct") s.doc s.attrs s.fields s.fallback ind (f := inlineStructF s ind)
    (body := fieldsF s.fields s.fallback (ind + 4)) (fun _ => by cases s.fallback <;> rfl)
    (fun _ => by unfold inlineStructF isMultiStruct; split <;> rfl) st

theorem inlineStructP_text (s : InlineStruct) (hv : ValidInlineStruct s) (ind fuel : Nat) (hf : inlineStructFuel s ≤ fuel)
    (t : Str) (ht : InlineStructTexts s ind t) (rest : Str) :
    inlineStructP fuel (t ++ rest) = some (canonInlineStruct s, rest) := by
  obtain ⟨pre, r, hopen, hd, ha, hb⟩ := inlineBodyP_text fieldItems (chars! "struct") s.doc s.attrs s.fields s.fallback
    hv ind fuel (by unfold inlineStructFuel at hf; omega) t ht rest
  simp only [inlineStructP, hopen, hb, hd, ha, canonInlineStruct]

def ValidInlineEnum (s : InlineEnum) : Prop :=
  ValidLines 3 s.doc ∧ (∀ a ∈ s.attrs, ValidAttr a) ∧ (∀ f ∈ s.variants, ValidVariant f) ∧
  (∀ fb, s.fallback = some fb → ValidFallback fb)

def canonInlineEnum (s : InlineEnum) : InlineEnum :=
  { doc := s.doc.map canonDI, attrs := s.attrs, variants := s.variants.map canonVariant, fallback := s.fallback.map canonFallback }

def inlineEnumFuel (s : InlineEnum) : Nat :=
  s.doc.length + s.attrs.length + listMax (s.attrs.map (·.options.length)) +
  s.variants.length + listMax (s.variants.map variantFuel) + fallbackFuel s.fallback + 1

def InlineEnumTexts (s : InlineEnum) (ind : Nat) (t : Str) : Prop :=
  ∃ wts wfb, BlockRel (fun (f : EnumVariant) t => t = variantText f (ind + 4)) s.variants wts ∧ Blank wfb ∧
    t = chars! "enum" ++ (if isMultiEnum [] s.doc s.attrs s.variants s.fallback then
      ' ' :: '{' :: '\n' :: (joined (inlinePreItems s.doc s.attrs (ind + 4)) ++ (joined (blockItems canonVariant s.variants wts) ++
        (fbPart s.fallback wfb (ind + 4) ++ (List.replicate ind ' ' ++ ['}']))))
      else chars! " {}")

theorem inlineEnumF_out (s : InlineEnum) (ind : Nat) (st : FSt) :
    ∃ t, InlineEnumTexts s ind t ∧ (inlineEnumF s ind st).out = st.out ++ (t ++ ['\n']) :=
  inlineF_out variantItems (chars! "enum") s.doc s.attrs s.variants s.fallback ind (f := inlineEnumF s ind)
    (body := variantsF s.variants s.fallback (ind + 4)) (fun _ => by cases s.fallback <;> rfl)
    (fun _ => by unfold inlineEnumF isMultiEnum; split <;> rfl) st

theorem inlineEnumP_text (s : InlineEnum) (hv : ValidInlineEnum s) (ind fuel : Nat) (hf : inlineEnumFuel s ≤ fuel)
    (t : Str) (ht : InlineEnumTexts s ind t) (rest : Str) :
    inlineEnumP fuel (t ++ rest) = some (canonInlineEnum s, rest) := by
  obtain ⟨pre, r, hopen, hd, ha, hb⟩ := inlineBodyP_text variantItems (chars! "enum") s.doc s.attrs s.variants s.fallback
    hv ind fuel (by unfold inlineEnumFuel at hf; omega) t ht rest
  simp only [inlineEnumP, hopen, hb, hd, ha, canonInlineEnum]

def ValidInline : TypeOrInline → Prop
  | .ty t => ValidType t
  | .struct s => ValidInlineStruct s
  | .enum e => ValidInlineEnum e

def canonInline : TypeOrInline → TypeOrInline
  | .ty t => .ty t
  | .struct s => .struct (canonInlineStruct s)
  | .enum e => .enum (canonInlineEnum e)

def InlineTexts (t : TypeOrInline) (ind : Nat) (txt : Str) : Prop :=
  match t with
  | .ty ty => txt = typeText ty ++ [';']
  | .struct s => InlineStructTexts s ind txt
  | .enum e => InlineEnumTexts e ind txt

def inlineFuel : TypeOrInline → Nat
  | .ty t => t.depth
  | .struct s => inlineStructFuel s
  | .enum e => inlineEnumFuel e

theorem inlineTail_out (t : TypeOrInline) (ind : Nat) (st : FSt) :
    ∃ txt, InlineTexts t ind txt ∧
      ((if isTypeName t then seqF [w (chars! ";"), nl] else id) (typeOrInlineF t ind st)).out = st.out ++ (txt ++ ['\n']) := by
  cases t with
  | ty ty => exact ⟨_, rfl, by simp [typeOrInlineF, isTypeName, seqF, nl, w]⟩
  | struct s => exact inlineStructF_out s ind st
  | enum e => exact inlineEnumF_out e ind st

theorem skipWs_inlineTxt (t : TypeOrInline) (hv : ValidInline t) (ind : Nat) (txt : Str) (ht : InlineTexts t ind txt)
    (rest : Str) : skipWs (txt ++ rest) = txt ++ rest := by
  cases t with
  | ty ty => cases ht; rw [List.append_assoc]; exact skipWs_typeText hv _
  | struct s => obtain ⟨_, _, _, _, rfl⟩ := ht; exact skipWs_cons_nws (by decide) _
  | enum e => obtain ⟨_, _, _, _, rfl⟩ := ht; exact skipWs_cons_nws (by decide) _

theorem notKwPrefixed_struct : NotKwPrefixed (chars! "struct") := by unfold NotKwPrefixed; decide
theorem notKwPrefixed_enum : NotKwPrefixed (chars! "enum") := by unfold NotKwPrefixed; decide

theorem typeTermP_kw_none (k : Str) (hk : ValidIdent k) (hnk : NotKwPrefixed k) (fuel : Nat) (more : Str) :
    typeTermP (fuel + 1) (k ++ (' ' :: '{' :: more)) = none := by
  have := typeNameP_ref (r := .intern k) hk hnk (typeFollow_space_cons (c := '{') more (by decide) (by decide) (by decide)) fuel
  peg [typeTermP, namedRefText] at this ⊢
  peg [this]

theorem typeOrInlineP_text (t : TypeOrInline) (hv : ValidInline t) (ind fuel : Nat) (hf : inlineFuel t < fuel)
    (txt : Str) (ht : InlineTexts t ind txt) (rest : Str) :
    typeOrInlineP fuel (txt ++ rest) = some (canonInline t, rest) := by
  obtain ⟨fuel, rfl⟩ : ∃ f, fuel = f + 1 := ⟨fuel - 1, by omega⟩
  cases t with
  | ty ty =>
    cases ht
    simp only [List.append_assoc, List.cons_append, List.nil_append, typeOrInlineP,
      typeTermP_text (show ValidType ty from hv) (fuel + 1) (Nat.le_of_lt hf) rest, canonInline]
  | struct s =>
    have hp := inlineStructP_text s hv ind (fuel + 1) (Nat.le_of_lt hf) txt ht rest
    obtain ⟨wts, wfb, _, _, rfl⟩ := ht
    have hnone := typeTermP_kw_none (chars! "struct") vi_struct notKwPrefixed_struct fuel
    cases hm : isMultiStruct [] s.doc s.attrs s.fields s.fallback <;>
      simp only [hm, Bool.false_eq_true, ↓reduceIte, List.append_assoc, List.cons_append, List.nil_append] at hp hnone ⊢ <;>
      simp only [typeOrInlineP, hnone, hp, canonInline]
  | enum e =>
    have hp := inlineEnumP_text e hv ind (fuel + 1) (Nat.le_of_lt hf) txt ht rest
    obtain ⟨wts, wfb, _, _, rfl⟩ := ht
    have hnone := typeTermP_kw_none (chars! "enum") vi_enum notKwPrefixed_enum fuel
    have hs : ∀ more, inlineStructP (fuel + 1) (chars! "enum" ++ more) = none := fun more => by
      peg [inlineStructP, inlineOpenP]
    cases hm : isMultiEnum [] e.doc e.attrs e.variants e.fallback <;>
      simp only [hm, Bool.false_eq_true, ↓reduceIte, List.append_assoc, List.cons_append, List.nil_append] at hp hnone hs ⊢ <;>
      simp only [typeOrInlineP, hnone, hs, hp, canonInline, Option.map_some]

end Aldrin.Schema
