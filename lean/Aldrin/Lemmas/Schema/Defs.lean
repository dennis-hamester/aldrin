/-
Bodies of structs and enums (items, an optional fallback entry, the closing brace), and the definitions at top
level: struct, enum, newtype, const. For each: the text written, and reading it back.
-/
import Aldrin.Lemmas.Schema.Items

namespace Aldrin.Schema

def fbPart (fb : Option Fallback) (wfb : Str) (ind : Nat) : Str :=
  match fb with
  | some f => wfb ++ (fallbackText f ind ++ ['\n'])
  | none => []

def listMax (l : List Nat) : Nat := l.foldr max 0

theorem le_listMax {l : List Nat} {n : Nat} (h : n ∈ l) : n ≤ listMax l := by
  induction l with
  | nil => cases h
  | cons a l ih =>
    simp only [listMax, List.foldr_cons]
    rcases List.mem_cons.1 h with rfl | h
    · omega
    · have := ih h; simp only [listMax] at this; omega

theorem le_listMax_map {α : Type} {l : List α} (g : α → Nat) {x : α} (h : x ∈ l) : g x ≤ listMax (l.map g) :=
  le_listMax (List.mem_map_of_mem h)

def fallbackFuel (fb : Option Fallback) : Nat := match fb with | some f => f.comment.length + f.doc.length + 1 | none => 0

/-- A body written as `{}` has no item and no fallback. -/
theorem body_empty {β : Type} {l : List β} {fb : Option Fallback} (h : ¬ (!l.isEmpty || fb.isSome) = true) :
    l = [] ∧ fb = none := by
  cases l <;> cases fb <;> simp_all

section Body
variable {β : Type} {canon : β → β} {text : β → Nat → Str} {Valid : β → Prop} {fuelOf : β → Nat} {itemP : Nat → P β}
  {itemF : β → Nat → F} (K : BodyItems canon text Valid fuelOf itemP itemF)
include K

/-- `body` is `fieldsF` or `variantsF`. -/
theorem bodyF_out (l : List β) (fb : Option Fallback) (ind : Nat) {body : F}
    (hbody : ∀ st, body st = (fb.elim id (fallbackEntryF · ind)) (forF l (fun x => itemF x ind) (setFirst true st)))
    (st : FSt) : ∃ wts wfb, BlockRel (fun x t => t = text x ind) l wts ∧ Blank wfb ∧
      (body st).out = st.out ++ (joined (blockItems canon l wts) ++ fbPart fb wfb ind) := by
  obtain ⟨wts, hrel, hout⟩ := forF_emits canon (fun x => itemF x ind) _ l (fun x _ => K.emits x ind) (setFirst true st)
  rw [hbody]
  cases fb with
  | none => exact ⟨wts, [], hrel, blank_nil, by simp only [Option.elim, id, hout, setFirst_out, fbPart, List.append_nil]⟩
  | some f =>
    obtain ⟨w, txt, hw, rfl, hout2⟩ := emits_fallbackEntryF f ind (forF l (fun x => itemF x ind) (setFirst true st))
    exact ⟨wts, w, hrel, hw, by simp only [Option.elim, hout2, hout, setFirst_out, fbPart, List.append_assoc]⟩

theorem bodyP_text (l : List β) (wts : List (Str × Str)) (fb : Option Fallback) (wfb wclose rest : Str) (ind fuel : Nat)
    (hrel : BlockRel (fun x t => t = text x ind) l wts) (hv : ∀ x ∈ l, Valid x) (hvfb : ∀ f, fb = some f → ValidFallback f)
    (hfuel : l.length + listMax (l.map fuelOf) + fallbackFuel fb < fuel) (hwfb : Blank wfb) (hwclose : Blank wclose) :
    bodyP itemP fuel (skipWs (joined (blockItems canon l wts) ++ (fbPart fb wfb ind ++ (wclose ++ '}' :: rest))))
      = some ((l.map canon, fb.map canonFallback), rest) := by
  have hitems : ∀ x ∈ l, ∀ txt, txt = text x ind → ∀ w tail, Blank w →
      itemP fuel (skipWs (w ++ (txt ++ tail))) = some (canon x, tail) := fun x hx txt ht =>
    ht ▸ K.reads x (hv x hx) ind fuel (by have := le_listMax_map fuelOf hx; omega)
  cases fb with
  | none =>
    obtain ⟨hm1, hm2⟩ := many_block canon _ (itemP fuel) l wts (wclose ++ '}' :: rest) fuel hrel hitems
      (by peg [skipWs_blank hwclose, K.close_none]) (by omega)
    peg [fbPart, bodyP, hm1, hm2, skipWs_blank hwclose, fallbackP_close_none]
  | some f =>
    have hff : f.comment.length + f.doc.length < fuel := by simp only [fallbackFuel] at hfuel; omega
    obtain ⟨hm1, hm2⟩ := many_block canon _ (itemP fuel) l wts (wfb ++ (fallbackText f ind ++ '\n' :: (wclose ++ '}' :: rest)))
      fuel hrel hitems (K.fallback_none f (hvfb f rfl) ind fuel hff wfb _ hwfb) (by omega)
    peg [fbPart, bodyP, hm1, hm2, fallbackP_text f (hvfb f rfl) ind fuel hff wfb ('\n' :: (wclose ++ '}' :: rest)) hwfb,
      skipWs_blank hwclose]

end Body

theorem vi_struct : ValidIdent (chars! "struct") := ⟨'s', chars! "truct", rfl, by decide, by decide⟩
theorem vi_enum : ValidIdent (chars! "enum") := ⟨'e', chars! "num", rfl, by decide, by decide⟩
theorem vi_service : ValidIdent (chars! "service") := ⟨'s', chars! "ervice", rfl, by decide, by decide⟩
theorem vi_const : ValidIdent (chars! "const") := ⟨'c', chars! "onst", rfl, by decide, by decide⟩
theorem vi_newtype : ValidIdent (chars! "newtype") := ⟨'n', chars! "ewtype", rfl, by decide, by decide⟩

theorem headerP_text (k : Str) {name : Str} (hn : ValidIdent name) (rest : Str) (hr : NoCont rest) :
    headerP k (k ++ (' ' :: (name ++ rest))) = some (name, rest) := by
  simp only [headerP, kwWs_blank, skipWs_space, skipWs_ident hn, identP_append hn hr]

theorem defOpenP_text (k : Str) {name : Str} (hn : ValidIdent name) (rest : Str) :
    defOpenP k (k ++ (' ' :: (name ++ (' ' :: '{' :: rest)))) = some (name, skipWs rest) := by
  peg [defOpenP, headerP_text k hn _ (noCont_cons (c := ' ') _ (by decide))]

theorem nameEqP_text (k : Str) {name : Str} (hn : ValidIdent name) (rest : Str) :
    nameEqP k (k ++ (' ' :: (name ++ (' ' :: '=' :: rest)))) = some (name, skipWs rest) := by
  peg [nameEqP, headerP_text k hn _ (noCont_cons (c := ' ') _ (by decide))]

theorem attrs_valid_fuel {ats : List Attribute} (hva : ∀ a ∈ ats, ValidAttr a) {fuel : Nat}
    (h : listMax (ats.map (·.options.length)) < fuel) : ∀ a ∈ ats, ValidAttr a ∧ a.options.length < fuel :=
  fun a ha => ⟨hva a ha, Nat.lt_of_le_of_lt (le_listMax_map (·.options.length) ha) h⟩

theorem preOK_def {cm dc : List Line} {ats : List Attribute} {fuel : Nat} (hvc : ValidLines 2 cm) (hvd : ValidLines 3 dc)
    (hva : ∀ a ∈ ats, ValidAttr a) (hf : cm.length + dc.length + ats.length + listMax (ats.map (·.options.length)) < fuel) :
    PreOK true true true fuel cm dc ats :=
  { comments := fun _ => rfl, docs := fun _ => rfl, attrs := fun _ => rfl, validComments := hvc, validDocs := hvd,
    validAttrs := attrs_valid_fuel hva (by omega), fuel_lt := by omega }

/-- Text of a struct or enum definition with keyword `k`, with the blank runs the formatter chose. `StructTexts d` and
`EnumTexts d` below unfold to instances of this predicate (hence `4 - 4`, as in `structBodyText` at `ind = 4`):
`emits_structDefF`, `structDefP_text` and their enum twins pass one for the other by definitional unfolding. -/
def BlockDefTexts {β : Type} (k : Str) (canon : β → β) (text : β → Nat → Str) (cm dc : List Line) (ats : List Attribute)
    (name : Str) (l : List β) (fb : Option Fallback) (t : Str) : Prop :=
  ∃ wts wfb, BlockRel (fun x t => t = text x 4) l wts ∧ Blank wfb ∧
    t = joined (preItems cm dc ats 0) ++ (k ++ (' ' :: (name ++ (if !l.isEmpty || fb.isSome then
      chars! " {\n" ++ (joined (blockItems canon l wts) ++ (fbPart fb wfb 4 ++ (List.replicate (4 - 4) ' ' ++ ['}'])))
      else chars! " {}"))))

section BlockDef
variable {β : Type} {canon : β → β} {text : β → Nat → Str} {Valid : β → Prop} {fuelOf : β → Nat} {itemP : Nat → P β}
  {itemF : β → Nat → F} (K : BodyItems canon text Valid fuelOf itemP itemF)
include K

/-- What `structDefF` / `enumDefF` write (`body` is `fieldsF` / `variantsF`). -/
theorem emits_blockDefF (k : Str) (kind : DefKind) (cm dc : List Line) (ats : List Attribute) (name : Str) (l : List β)
    (fb : Option Fallback) (multi : Bool) {body : F}
    (hbody : ∀ st, body st = (fb.elim id (fallbackEntryF · 4)) (forF l (fun x => itemF x 4) (setFirst true st))) :
    Emits (seqF [newlineDef kind multi, prelude cm dc ats 0 false,
      if !l.isEmpty || fb.isSome then seqF [w (k ++ [' ']), w name, w (chars! " {"), nl, body, w (chars! "}"), nl]
      else seqF [w (k ++ [' ']), w name, w (chars! " {}"), nl], setNewline multi])
      (BlockDefTexts k canon text cm dc ats name l fb) :=
  emits_line (newlineDef_out _ _) fun st => by
    cases hf : (!l.isEmpty || fb.isSome)
    · exact ⟨_, ⟨[], [], (body_empty (ne_true_of_eq_false hf)).1 ▸ trivial, blank_nil, rfl⟩, by
        simp only [hf, Bool.false_eq_true, ↓reduceIte, seqF_cons, seqF_nil, w_out, nl_out, prelude_out, setNewline_out,
          List.append_assoc, List.cons_append, List.nil_append]⟩
    · obtain ⟨wts, wfb, hrel, hwfb, hfo⟩ := bodyF_out K l fb 4 hbody
        (nl (w (chars! " {") (w name (w (k ++ [' ']) (prelude cm dc ats 0 false st)))))
      exact ⟨_, ⟨wts, wfb, hrel, hwfb, rfl⟩, by
        simp only [hf, ↓reduceIte, seqF_cons, seqF_nil, w_out, nl_out, hfo, prelude_out, setNewline_out, List.append_assoc,
          List.cons_append, List.nil_append, Nat.sub_self, List.replicate]⟩

theorem blockDefP_text (k : Str) (hk : ValidIdent k) {cm dc : List Line} {ats : List Attribute} {name : Str} {l : List β}
    {fb : Option Fallback} (hv : ValidLines 2 cm ∧ ValidLines 3 dc ∧ (∀ a ∈ ats, ValidAttr a) ∧ ValidIdent name ∧
      (∀ x ∈ l, Valid x) ∧ (∀ f, fb = some f → ValidFallback f)) (fuel : Nat)
    (hf : cm.length + dc.length + ats.length + listMax (ats.map (·.options.length)) + l.length + listMax (l.map fuelOf) +
      fallbackFuel fb < fuel)
    (t : Str) (ht : BlockDefTexts k canon text cm dc ats name l fb t) (w rest : Str) (hw : Blank w) :
    ∃ pre r1 r2, preludeP true true true fuel (skipWs (w ++ (t ++ rest))) = (pre, r1) ∧ preComments pre = cm.map canonC ∧
      preDocs pre = dc.map canonD ∧ preAttrs pre = ats ∧ defOpenP k r1 = some (name, r2) ∧
      bodyP itemP fuel r2 = some ((l.map canon, fb.map canonFallback), rest) := by
  obtain ⟨hvc, hvd, hva, hn, hv, hvfb⟩ := hv
  obtain ⟨wts, wfb, hrel, hwfb, rfl⟩ := ht
  have hb := bodyP_text K l wts fb wfb [] rest 4 fuel hrel hv hvfb (by omega) hwfb blank_nil
  have hpre := preludeP_item (preOK_def hvc hvd hva (fuel := fuel) (by omega)) hw 0 blank_nil (idHead_ident hk)
  cases hfl : (!l.isEmpty || fb.isSome)
  · -- no item, no fallback: `{}`
    obtain ⟨rfl, rfl⟩ := body_empty (ne_true_of_eq_false hfl)
    cases blockRel_nil hrel
    refine ⟨_, _, _, ?_, preComments_preItems cm dc ats 0, preDocs_preItems cm dc ats 0, preAttrs_preItems cm dc ats 0,
      defOpenP_text k hn ('}' :: rest), by simpa only [blockItems, joined_nil, fbPart, List.nil_append] using hb⟩
    simpa only [Bool.false_eq_true, ↓reduceIte, List.append_assoc, List.cons_append, List.nil_append] using hpre _
  · refine ⟨_, _, _, ?_, preComments_preItems cm dc ats 0, preDocs_preItems cm dc ats 0, preAttrs_preItems cm dc ats 0,
      defOpenP_text k hn ('\n' :: (joined (blockItems canon l wts) ++ (fbPart fb wfb 4 ++ '}' :: rest))),
      by simpa only [skipWs_newline, List.nil_append] using hb⟩
    simpa only [↓reduceIte, List.append_assoc, List.cons_append, List.nil_append, Nat.sub_self, List.replicate] using hpre _

end BlockDef

/-- `{ … }` of a struct with the blank runs the formatter chose. -/
def structBodyText (fs : List StructField) (fb : Option Fallback) (ind : Nat) (wts : List (Str × Str)) (wfb : Str) : Str :=
  chars! " {\n" ++ (joined (blockItems canonField fs wts) ++ (fbPart fb wfb ind ++ (List.replicate (ind - 4) ' ' ++ ['}'])))

def StructTexts (d : StructDef) (t : Str) : Prop :=
  ∃ wts wfb, BlockRel (fun (f : StructField) t => t = fieldText f 4) d.fields wts ∧ Blank wfb ∧
    t = joined (preItems d.comment d.doc d.attrs 0) ++ (chars! "struct " ++ (d.name ++
      (if !d.fields.isEmpty || d.fallback.isSome then structBodyText d.fields d.fallback 4 wts wfb else chars! " {}")))

theorem emits_structDefF (d : StructDef) : Emits (structDefF d) (StructTexts d) :=
  emits_blockDefF fieldItems (chars! "struct") .struct d.comment d.doc d.attrs d.name d.fields d.fallback _
    (body := fieldsF d.fields d.fallback 4) (fun _ => by cases d.fallback <;> rfl)

def ValidStruct (d : StructDef) : Prop :=
  ValidLines 2 d.comment ∧ ValidLines 3 d.doc ∧ (∀ a ∈ d.attrs, ValidAttr a) ∧ ValidIdent d.name ∧
  (∀ f ∈ d.fields, ValidField f) ∧ (∀ fb, d.fallback = some fb → ValidFallback fb)

def canonStruct (d : StructDef) : StructDef :=
  { d with comment := d.comment.map canonC, doc := d.doc.map canonD, fields := d.fields.map canonField,
           fallback := d.fallback.map canonFallback }

def structFuel (d : StructDef) : Nat :=
  d.comment.length + d.doc.length + d.attrs.length + listMax (d.attrs.map (·.options.length)) +
  d.fields.length + listMax (d.fields.map fieldFuel) + fallbackFuel d.fallback + 1

theorem structDefP_text (d : StructDef) (hv : ValidStruct d) (fuel : Nat) (hf : structFuel d ≤ fuel)
    (t : Str) (ht : StructTexts d t) (w rest : Str) (hw : Blank w) :
    structDefP fuel (skipWs (w ++ (t ++ rest))) = some (canonStruct d, rest) := by
  obtain ⟨pre, r1, r2, hpre, hc, hd, ha, hopen, hb⟩ := blockDefP_text fieldItems (chars! "struct") vi_struct
    hv fuel (by unfold structFuel at hf; omega) t ht w rest hw
  simp only [structDefP, hpre, hopen, hb, hc, hd, ha, canonStruct]

def enumBodyText (fs : List EnumVariant) (fb : Option Fallback) (ind : Nat) (wts : List (Str × Str)) (wfb : Str) : Str :=
  chars! " {\n" ++ (joined (blockItems canonVariant fs wts) ++ (fbPart fb wfb ind ++ (List.replicate (ind - 4) ' ' ++ ['}'])))

def EnumTexts (d : EnumDef) (t : Str) : Prop :=
  ∃ wts wfb, BlockRel (fun (f : EnumVariant) t => t = variantText f 4) d.variants wts ∧ Blank wfb ∧
    t = joined (preItems d.comment d.doc d.attrs 0) ++ (chars! "enum " ++ (d.name ++
      (if !d.variants.isEmpty || d.fallback.isSome then enumBodyText d.variants d.fallback 4 wts wfb else chars! " {}")))

theorem emits_enumDefF (d : EnumDef) : Emits (enumDefF d) (EnumTexts d) :=
  emits_blockDefF variantItems (chars! "enum") .enum d.comment d.doc d.attrs d.name d.variants d.fallback _
    (body := variantsF d.variants d.fallback 4) (fun _ => by cases d.fallback <;> rfl)

def ValidEnum (d : EnumDef) : Prop :=
  ValidLines 2 d.comment ∧ ValidLines 3 d.doc ∧ (∀ a ∈ d.attrs, ValidAttr a) ∧ ValidIdent d.name ∧
  (∀ f ∈ d.variants, ValidVariant f) ∧ (∀ fb, d.fallback = some fb → ValidFallback fb)

def canonEnum (d : EnumDef) : EnumDef :=
  { d with comment := d.comment.map canonC, doc := d.doc.map canonD, variants := d.variants.map canonVariant,
           fallback := d.fallback.map canonFallback }

def enumFuel (d : EnumDef) : Nat :=
  d.comment.length + d.doc.length + d.attrs.length + listMax (d.attrs.map (·.options.length)) +
  d.variants.length + listMax (d.variants.map variantFuel) + fallbackFuel d.fallback + 1

theorem enumDefP_text (d : EnumDef) (hv : ValidEnum d) (fuel : Nat) (hf : enumFuel d ≤ fuel)
    (t : Str) (ht : EnumTexts d t) (w rest : Str) (hw : Blank w) :
    enumDefP fuel (skipWs (w ++ (t ++ rest))) = some (canonEnum d, rest) := by
  obtain ⟨pre, r1, r2, hpre, hc, hd, ha, hopen, hb⟩ := blockDefP_text variantItems (chars! "enum") vi_enum
    hv fuel (by unfold enumFuel at hf; omega) t ht w rest hw
  simp only [enumDefP, hpre, hopen, hb, hc, hd, ha, canonEnum]

def ValidNewtype (d : NewtypeDef) : Prop :=
  ValidLines 2 d.comment ∧ ValidLines 3 d.doc ∧ (∀ a ∈ d.attrs, ValidAttr a) ∧ ValidIdent d.name ∧ ValidType d.target

def canonNewtype (d : NewtypeDef) : NewtypeDef := { d with comment := d.comment.map canonC, doc := d.doc.map canonD }

def newtypeText (d : NewtypeDef) : Str :=
  joined (preItems d.comment d.doc d.attrs 0) ++ (chars! "newtype " ++ (d.name ++ (chars! " = " ++ (typeText d.target ++ [';']))))

def newtypeFuel (d : NewtypeDef) : Nat :=
  d.comment.length + d.doc.length + d.attrs.length + listMax (d.attrs.map (·.options.length)) + d.target.depth + 1

theorem emits_newtypeF (d : NewtypeDef) : Emits (newtypeF d) (fun t => t = newtypeText d) :=
  emits_line (newlineDef_out _ _) fun st => ⟨_, rfl, by
    simp only [seqF, w_out, nl_out, prelude_out, setNewline_out, id, newtypeText, List.append_assoc]⟩

theorem typeTermP_text {t : TypeName} (ht : ValidType t) (fuel : Nat) (hd : t.depth ≤ fuel) (rest : Str) :
    typeTermP fuel (typeText t ++ (';' :: rest)) = some (t, rest) := by
  peg [typeTermP, typeNameP_typeText t ht fuel _ hd (typeFollow_semi rest)]

theorem newtypeDefP_text (d : NewtypeDef) (hv : ValidNewtype d) (fuel : Nat) (hf : newtypeFuel d ≤ fuel)
    (w rest : Str) (hw : Blank w) :
    newtypeDefP fuel (skipWs (w ++ (newtypeText d ++ rest))) = some (canonNewtype d, rest) := by
  obtain ⟨hvc, hvd, hva, hn, ht⟩ := hv
  unfold newtypeFuel at hf
  have hok := preOK_def hvc hvd hva (fuel := fuel) (by omega)
  have hopen := nameEqP_text (chars! "newtype") hn (' ' :: (typeText d.target ++ (';' :: rest)))
  peg [skipWs_typeText ht] at hopen
  peg [newtypeDefP, newtypeText, preludeP_text hok hw, preItemP_cons_none, hopen, typeTermP_text ht fuel (by omega) rest,
    preComments_preItems, preDocs_preItems, preAttrs_preItems, canonNewtype]

def ValidConst (d : ConstDef) : Prop :=
  ValidLines 2 d.comment ∧ ValidLines 3 d.doc ∧ ValidIdent d.name ∧
  ((d.kind ∈ constKinds ∧ ValidInt d.value) ∨ (d.kind = .string ∧ ValidLitString d.value) ∨ (d.kind = .uuid ∧ ValidUuid d.value))

def canonConst (d : ConstDef) : ConstDef := { d with comment := d.comment.map canonC, doc := d.doc.map canonD }

def constText (d : ConstDef) : Str :=
  joined (preItems d.comment d.doc [] 0) ++ (chars! "const " ++ (d.name ++ (chars! " = " ++ (d.kind.text ++ ('(' :: (d.value ++ chars! ");"))))))

theorem emits_constF (d : ConstDef) : Emits (constF d) (fun t => t = constText d) :=
  emits_line (newlineDef_out _ _) fun st => ⟨_, rfl, by
    simp only [seqF, w_out, nl_out, prelude_out, setNewline_out, id, constText, List.append_assoc, List.cons_append,
      List.nil_append]⟩

theorem parenP_text (p : P Str) (v rest : Str) (hsk : skipWs (v ++ (')' :: rest)) = v ++ (')' :: rest))
    (hlit : p (v ++ (')' :: rest)) = some (v, ')' :: rest)) : parenP p ('(' :: (v ++ (')' :: rest))) = some (v, rest) := by
  peg [parenP, hsk, hlit]

theorem constKinds_diverge : (constKinds.map Prim.kwText).Pairwise (fun a b => diverge a b = true) := by decide

theorem constValueP_text (d : ConstDef) (hv : ValidConst d) (rest : Str) :
    constValueP (d.kind.text ++ ('(' :: (d.value ++ (')' :: rest)))) = some ((d.kind, d.value), rest) := by
  obtain ⟨_, _, _, hk⟩ := hv
  rw [Prim.text_eq_kwText]
  rcases hk with ⟨hk, hi⟩ | ⟨hk, hs⟩ | ⟨hk, hu⟩
  · have hp := parenP_text litIntP d.value rest (skipWs_validInt hi _)
      (litIntP_append hi (noDigit_cons (c := ')') _ (by decide)))
    simp only [constValueP, constIntP, firstPrim_hit constKinds_diverge hk, hp]
  · have hp := parenP_text litStringP d.value rest
      (by obtain ⟨body, hb, _⟩ := hs; rw [hb]; exact skipWs_cons_nws (by decide) _) (litStringP_append hs)
    rw [hk]
    peg [constValueP, constIntP, constKwP, firstPrim, constKinds, Prim.kwText, hp]
  · have hp := parenP_text litUuidP d.value rest (skipWs_validUuid hu _) (litUuidP_append hu)
    rw [hk]
    peg [constValueP, constIntP, constKwP, firstPrim, constKinds, Prim.kwText, hp]

theorem constDefP_text (d : ConstDef) (hv : ValidConst d) (fuel : Nat) (hf : d.comment.length + d.doc.length < fuel)
    (w rest : Str) (hw : Blank w) :
    constDefP fuel (skipWs (w ++ (constText d ++ rest))) = some (canonConst d, rest) := by
  have hval := constValueP_text d hv (';' :: rest)
  obtain ⟨hvc, hvd, hn, hk⟩ := hv
  have hopen := nameEqP_text (chars! "const") hn (' ' :: (d.kind.text ++ ('(' :: (d.value ++ (chars! ");" ++ rest)))))
  have hksk : ∀ more, skipWs (d.kind.text ++ more) = d.kind.text ++ more := fun more => by
    cases d.kind <;> exact skipWs_cons_nws (by decide) _
  peg [hksk] at hopen hval
  peg [constDefP, constText, preludeP_text (preOK_lines hvc hvd hf false) hw, preItemP_cons_none, hopen, hval,
    preComments_preItems, preDocs_preItems, canonConst]

end Aldrin.Schema
