/-
The doc-link position arithmetic (`Model/Schema/Span.lean`) as a table lookup: a result other than `none` comes from
`atPart` at piece `k` of doc string `j`, where `line = lines before doc j + k + 1` and the piece starts at `offsetOf`
(`linecolFrom_spec`). Bounds (`atPart_spec`) and the order of two offsets (`span_ordered`) are read off that. That the
pieces `splitCR` cuts a value into lie inside it (`joinLen_splitCR`, `offsetOf_add_le`) stands for itself: nothing below
uses it.
-/
import Aldrin.Model.Schema.Span

namespace Aldrin.Schema.Span

/-- where piece `k` starts -/
def offsetOf : List Bytes → Nat → Nat
  | _, 0 => 0
  | [], _ + 1 => 0
  | p :: ps, k + 1 => p.length + 1 + offsetOf ps k

/-- length of the pieces joined by single separators -/
def joinLen : List Bytes → Nat
  | [] => 0
  | [p] => p.length
  | p :: q :: ps => p.length + 1 + joinLen (q :: ps)

theorem splitCR_ne_nil (v : Bytes) : splitCR v ≠ [] := by
  cases v with
  | nil => simp [splitCR]
  | cons b r =>
    unfold splitCR
    split
    · simp
    · split <;> simp

theorem joinLen_cons_cons (b : UInt8) (p : Bytes) (ps : List Bytes) :
    joinLen ((b :: p) :: ps) = joinLen (p :: ps) + 1 := by
  cases ps with
  | nil => rfl
  | cons q qs => simp only [joinLen, List.length_cons]; omega

theorem joinLen_splitCR (v : Bytes) : joinLen (splitCR v) = v.length := by
  induction v with
  | nil => rfl
  | cons b r ih =>
    unfold splitCR
    cases hs : splitCR r with
    | nil => exact absurd hs (splitCR_ne_nil r)
    | cons p ps =>
      rw [hs] at ih
      split
      · simp only [joinLen, ih, List.length_nil, List.length_cons]; omega
      · rw [joinLen_cons_cons, ih, List.length_cons]

theorem offsetOf_add_le (ps : List Bytes) (k : Nat) (hk : k < ps.length) :
    offsetOf ps k + (ps[k]'hk).length ≤ joinLen ps := by
  induction ps generalizing k with
  | nil => exact absurd hk (Nat.not_lt_zero _)
  | cons p ps ih =>
    cases k with
    | zero =>
      cases ps with
      | nil => exact Nat.le_of_eq (Nat.zero_add _)
      | cons q qs => simp only [offsetOf, joinLen, List.getElem_cons_zero]; omega
    | succ k =>
      cases ps with
      | nil => exact absurd (Nat.lt_of_succ_lt_succ hk) (Nat.not_lt_zero _)
      | cons q qs =>
        have := ih k (Nat.lt_of_succ_lt_succ hk)
        simp only [offsetOf, joinLen, List.getElem_cons_succ] at this ⊢
        omega

theorem offsetOf_mono (ps : List Bytes) (j k : Nat) (p : Bytes) (hj : ps[j]? = some p) (hjk : j < k) :
    offsetOf ps j + p.length + 1 ≤ offsetOf ps k := by
  induction ps generalizing j k with
  | nil => cases hj
  | cons q ps ih =>
    cases k with
    | zero => omega
    | succ k =>
      cases j with
      | zero => cases hj; simp [offsetOf]
      | succ j =>
        have := ih j k hj (by omega)
        simp only [offsetOf] at this ⊢
        omega

theorem offsetOf_add_mono (ps : List Bytes) {k1 k2 c1 c2 : Nat} {p : Bytes} (hp : ps[k1]? = some p)
    (hc1 : c1 ≤ p.length) (h : k1 < k2 ∨ (k1 = k2 ∧ c1 ≤ c2)) :
    offsetOf ps k1 + c1 ≤ offsetOf ps k2 + c2 := by
  rcases h with hlt | ⟨rfl, hc⟩
  · calc offsetOf ps k1 + c1
        ≤ offsetOf ps k1 + p.length + 1 := Nat.le_succ_of_le (Nat.add_le_add_left hc1 _)
      _ ≤ offsetOf ps k2 := offsetOf_mono ps k1 k2 p hp hlt
      _ ≤ offsetOf ps k2 + c2 := Nat.le_add_right _ _
  · exact Nat.add_le_add_left hc _

theorem inner_spec (d : DocLine) (t c : Nat) (e : Bool) (ps : List Bytes) (line off : Nat) :
    (∀ r, inner d t c e line off ps = .inl r →
      ∃ k part, ps[k]? = some part ∧ line + k + 1 = t ∧ atPart d c e (off + offsetOf ps k) part = r) ∧
    (∀ line', inner d t c e line off ps = .inr line' → line' = line + ps.length) := by
  induction ps generalizing line off with
  | nil => exact ⟨nofun, fun l hl => (Sum.inr.inj hl).symm⟩
  | cons p ps ih =>
    by_cases ht : line + 1 = t
    · rw [inner, if_pos ht]
      exact ⟨fun r hr => ⟨0, p, rfl, ht, Sum.inl.inj hr⟩, nofun⟩
    · rw [inner, if_neg ht]
      obtain ⟨ih1, ih2⟩ := ih (line + 1) (off + p.length + 1)
      constructor
      · intro r hr
        obtain ⟨k, part, hk, hkt, hrk⟩ := ih1 r hr
        refine ⟨k + 1, part, hk, by omega, ?_⟩
        rw [← hrk, offsetOf, Nat.add_assoc off, Nat.add_assoc off]
      · intro l hl
        rw [ih2 l hl, List.length_cons]
        omega

theorem isCharBoundary_le {v : Bytes} {idx : Nat} (h : isCharBoundary v idx = true) : idx ≤ v.length := by
  unfold isCharBoundary at h
  split at h
  · omega
  · split at h
    · simp at h; omega
    · rename_i b hb
      have := (List.getElem?_eq_some_iff.mp hb).1
      omega

theorem atPart_spec {d : DocLine} {c : Nat} {e : Bool} {off : Nat} {part : Bytes} {r : Res}
    (h : atPart d c e off part = r) :
    match r with
    | .underflow => off + c = 0
    | .some i => c ≤ part.length ∧ i + 1 = d.start + (off + c) + (if e then 1 else 0) ∧
        d.start ≤ i ∧ i ≤ d.start + d.value.length ∧ isCharBoundary d.value (i - d.start) = true
    | .none => True := by
  unfold atPart at h
  by_cases h1 : c > part.length
  · rw [if_pos h1] at h; subst h; trivial
  · by_cases h2 : off + c = 0
    · rw [if_neg h1, if_pos h2] at h; subst h; exact h2
    · rw [if_neg h1, if_neg h2] at h
      dsimp only at h
      by_cases h3 : isCharBoundary d.value (off + c - 1 + (if e then 1 else 0)) = true
      · rw [if_pos h3] at h
        subst h
        refine ⟨Nat.le_of_not_gt h1, by omega, Nat.le_add_right _ _, Nat.add_le_add_left (isCharBoundary_le h3) _, ?_⟩
        rw [Nat.add_sub_cancel_left]
        exact h3
      · rw [if_neg h3] at h; subst h; trivial

/-- number of lines of the docs before index `j` -/
def linesBefore : List DocLine → Nat → Nat
  | _, 0 => 0
  | [], _ + 1 => 0
  | d :: ds, j + 1 => (splitCR d.value).length + linesBefore ds j

theorem linesBefore_mono (docs : List DocLine) (i j : Nat) (d : DocLine) (hi : docs[i]? = some d) (hij : i < j) :
    linesBefore docs i + (splitCR d.value).length ≤ linesBefore docs j := by
  induction docs generalizing i j with
  | nil => cases hi
  | cons d' ds ih =>
    cases j with
    | zero => omega
    | succ j =>
      cases i with
      | zero => cases hi; simp [linesBefore]
      | succ i =>
        have := ih i j hi (by omega)
        simp only [linesBefore] at this ⊢
        omega

theorem linecolFrom_spec (t c : Nat) (e : Bool) (docs : List DocLine) (line : Nat) (r : Res)
    (h : linecolFrom t c e line docs = r) (hn : r ≠ .none) :
    ∃ j d k part, docs[j]? = some d ∧ (splitCR d.value)[k]? = some part ∧
      line + linesBefore docs j + k + 1 = t ∧ atPart d c e (offsetOf (splitCR d.value) k) part = r := by
  induction docs generalizing line with
  | nil => exact absurd h.symm hn
  | cons d ds ih =>
    unfold linecolFrom at h
    obtain ⟨s1, s2⟩ := inner_spec d t c e (splitCR d.value) line 0
    split at h
    · rename_i r' hr'
      subst h
      obtain ⟨k, part, hk, hkt, hrk⟩ := s1 _ hr'
      rw [Nat.zero_add] at hrk
      exact ⟨0, d, k, part, rfl, hk, hkt, hrk⟩
    · rename_i line' hl'
      obtain ⟨j, d', k, part, hj, hk, hkt, hrk⟩ := ih line' h
      refine ⟨j + 1, d', k, part, hj, hk, ?_, hrk⟩
      rw [s2 _ hl'] at hkt
      rw [linesBefore]
      omega

/-- the docs lie in the source one after the other -/
def Ordered (docs : List DocLine) : Prop :=
  ∀ i j (hi : i < docs.length) (hj : j < docs.length), i < j → (docs[i]).start + (docs[i]).value.length ≤ (docs[j]).start

/-- start of a link not after its end in the comment (`hle`) ⇒ start offset not after end offset in the source; the
columns need no lower bound, since an offset that is returned did not wrap -/
theorem span_ordered (docs : List DocLine) (ho : Ordered docs) {l1 c1 l2 c2 s t : Nat}
    (hle : l1 < l2 ∨ (l1 = l2 ∧ c1 ≤ c2))
    (hs : linecolToIndex docs l1 c1 false = .some s) (ht : linecolToIndex docs l2 c2 true = .some t) : s ≤ t := by
  have hl : l1 ≤ l2 := hle.elim Nat.le_of_lt fun h => Nat.le_of_eq h.1
  obtain ⟨j1, d1, k1, p1, hd1, hp1, rfl, hr1⟩ := linecolFrom_spec l1 c1 false docs 0 _ hs nofun
  obtain ⟨j2, d2, k2, p2, hd2, hp2, rfl, hr2⟩ := linecolFrom_spec l2 c2 true docs 0 _ ht nofun
  obtain ⟨hc1', hs', -, hend, -⟩ := atPart_spec hr1
  obtain ⟨-, ht', hstart, -⟩ := atPart_spec hr2
  rcases Nat.lt_trichotomy j1 j2 with hlt | rfl | hgt
  · -- an earlier doc string: it ends before the later one starts
    obtain ⟨hj1, rfl⟩ := List.getElem?_eq_some_iff.mp hd1
    obtain ⟨hj2, rfl⟩ := List.getElem?_eq_some_iff.mp hd2
    exact Nat.le_trans hend (Nat.le_trans (ho j1 j2 hj1 hj2 hlt) hstart)
  · -- the same doc string: the lines are ordered as the pieces are
    obtain rfl : d1 = d2 := Option.some.inj (hd1.symm.trans hd2)
    simp only [Nat.add_lt_add_iff_left, Nat.add_lt_add_iff_right, Nat.add_left_cancel_iff, Nat.add_right_cancel_iff] at hle
    simp only [Bool.false_eq_true, if_false, if_true] at hs' ht'
    calc s ≤ s + 1 := Nat.le_succ s
      _ = d1.start + (offsetOf (splitCR d1.value) k1 + c1) := hs'
      _ ≤ d1.start + (offsetOf (splitCR d1.value) k2 + c2) := Nat.add_le_add_left (offsetOf_add_mono _ hp1 hc1' hle) _
      _ = t := (Nat.succ.inj ht').symm
  · -- a later doc string holds later lines only
    have hk2 := (List.getElem?_eq_some_iff.mp hp2).1
    have := linesBefore_mono docs j2 j1 d2 hd2 hgt
    omega

end Aldrin.Schema.Span
