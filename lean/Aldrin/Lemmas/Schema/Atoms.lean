/-
Round trip of the smallest pieces of the schema syntax: white space, keywords, identifiers and literals. A lemma
`…_append` says: the parser, started on the printed token followed by anything that cannot extend it, returns the token
and leaves exactly that rest. The predicates these and all later files speak in (`Blank`, `ValidIdent`, `ValidInt`,
`NoCont`, …) and the tactic `peg` are defined here.
-/
import Aldrin.Model.Schema.Parse
import Aldrin.Model.Schema.Fmt

namespace Aldrin.Schema

theorem alpha_range {c : Char} (h : c.isAlpha = true) : 65 ≤ c.toNat ∧ c.toNat ≤ 122 := by
  simp only [Char.isAlpha, Char.isUpper, Char.isLower, Bool.or_eq_true, Bool.and_eq_true, decide_eq_true_eq] at h
  rcases h with ⟨h1, h2⟩ | ⟨h1, h2⟩
  · have a : 65 ≤ c.toNat := h1
    have b : c.toNat ≤ 90 := h2
    omega
  · have a : 97 ≤ c.toNat := h1
    have b : c.toNat ≤ 122 := h2
    omega

theorem digit_range {c : Char} (h : c.isDigit = true) : 48 ≤ c.toNat ∧ c.toNat ≤ 57 := by
  simp only [Char.isDigit, Bool.and_eq_true, decide_eq_true_eq] at h
  exact h

theorem not_ws_of_range {c : Char} (h1 : 33 ≤ c.toNat) (h2 : c.toNat ≤ 126) : isWhiteSpace c = false := by
  simp only [isWhiteSpace]
  simp
  omega

theorem idStart_range {c : Char} (h : isIdStart c = true) : 65 ≤ c.toNat ∧ c.toNat ≤ 122 := by
  simp only [isIdStart, Bool.or_eq_true, beq_iff_eq] at h
  rcases h with h | h
  · exact alpha_range h
  · subst h; decide

theorem idCont_range {c : Char} (h : isIdCont c = true) : 48 ≤ c.toNat ∧ c.toNat ≤ 122 := by
  simp only [isIdCont, Bool.or_eq_true, beq_iff_eq, Char.isAlphanum] at h
  rcases h with (h | h) | h
  · have := alpha_range h; omega
  · have := digit_range h; omega
  · subst h; decide

theorem idStart_idCont {c : Char} (h : isIdStart c = true) : isIdCont c = true := by
  simp only [isIdStart, Bool.or_eq_true] at h
  simp only [isIdCont, Char.isAlphanum, Bool.or_eq_true]
  exact h.imp_left Or.inl

theorem idStart_not_digit {c : Char} (h : isIdStart c = true) : c.isDigit = false := by
  cases hd : c.isDigit with
  | false => rfl
  | true => have := digit_range hd; have := idStart_range h; omega

theorem idCont_not_ws {c : Char} (h : isIdCont c = true) : isWhiteSpace c = false := by
  have := idCont_range h; exact not_ws_of_range (by omega) (by omega)

theorem idStart_not_ws {c : Char} (h : isIdStart c = true) : isWhiteSpace c = false :=
  idCont_not_ws (idStart_idCont h)

theorem digit_not_ws {c : Char} (h : c.isDigit = true) : isWhiteSpace c = false := by
  have := digit_range h; exact not_ws_of_range (by omega) (by omega)

theorem lit_append (s r : Str) : lit s (s ++ r) = some ((), r) := by
  simp [lit, List.prefix_append]

theorem kw_append (s : Str) (r : Str) : kw s (s ++ r) = some ((), r) := lit_append _ _

theorem lit_cons_ne {s : Str} {c d : Char} {r : Str} (h : c ≠ d) : lit (c :: s) (d :: r) = none := by
  simp [lit, h]

theorem kw_nil (r : Str) : kw [] r = some ((), r) := rfl

theorem kw_cons_self (c : Char) (s r : Str) : kw (c :: s) (c :: r) = kw s r := by
  simp [kw, lit]

theorem kw_cons_ne {c d : Char} (h : c ≠ d) (s r : Str) : kw (c :: s) (d :: r) = none := lit_cons_ne h

theorem kw_cons_nil (c : Char) (s : Str) : kw (c :: s) [] = none := rfl

theorem tok_eq (s cs : Str) : tok s cs = kw s (skipWs cs) := rfl

theorem kwWs_blank (k r : Str) : kwWs k (k ++ (' ' :: r)) = some ((), ' ' :: r) := by
  simp only [kwWs, kw_append, atWs, show isWhiteSpace ' ' = true by decide, Bool.true_or, ↓reduceIte]

theorem kwWs_none {k cs : Str} (h : kw k cs = none) : kwWs k cs = none := by
  simp only [kwWs, h]

theorem kwWs_cons_self (c : Char) (s r : Str) : kwWs (c :: s) (c :: r) = kwWs s r := by
  simp only [kwWs, kw_cons_self]

theorem kwWs_nil_blank (r : Str) : kwWs [] (' ' :: r) = some ((), ' ' :: r) := kwWs_blank [] r

theorem kwWs_cons_nil (c : Char) (s : Str) : kwWs (c :: s) [] = none := rfl

theorem skipWs_cons_ws {c : Char} (h : isWhiteSpace c = true) (r : Str) : skipWs (c :: r) = skipWs r := by
  simp [skipWs, List.dropWhile, h]

theorem skipWs_cons_nws {c : Char} (h : isWhiteSpace c = false) (r : Str) : skipWs (c :: r) = c :: r := by
  simp [skipWs, List.dropWhile, h]

@[simp] theorem skipWs_nil : skipWs [] = [] := rfl

@[simp] theorem skipWs_space (r : Str) : skipWs (' ' :: r) = skipWs r := skipWs_cons_ws (by decide) r
@[simp] theorem skipWs_newline (r : Str) : skipWs ('\n' :: r) = skipWs r := skipWs_cons_ws (by decide) r

/-- Visible ASCII (every literal character the formatter writes except blank and line end) stops `skipWs`. -/
theorem skipWs_visible {c : Char} (h1 : 33 ≤ c.toNat) (h2 : c.toNat ≤ 126) (r : Str) : skipWs (c :: r) = c :: r :=
  skipWs_cons_nws (not_ws_of_range h1 h2) r

theorem dropWhile_idem {α : Type} (p : α → Bool) (l : List α) : (l.dropWhile p).dropWhile p = l.dropWhile p := by
  induction l with
  | nil => rfl
  | cons a l ih =>
    cases h : p a
    · rw [List.dropWhile_cons_of_neg (by simp [h]), List.dropWhile_cons_of_neg (by simp [h])]
    · rw [List.dropWhile_cons_of_pos h, ih]

theorem skipWs_idem (r : Str) : skipWs (skipWs r) = skipWs r := dropWhile_idem isWhiteSpace r

/-- `peg [h₁, …]` evaluates the token parsers `tok`, `kw`, `kwWs`, `skipWs` on a text whose next characters are literal:
texts are brought into the form `c₁ :: c₂ :: … (t ++ rest)`, a keyword is compared with them character by
character, blanks are skipped and visible characters stop the skipping. The `hᵢ` say what the other parsers
return on the texts that follow. -/
macro "peg" "[" hs:Lean.Parser.Tactic.simpLemma,* "]" loc:(Lean.Parser.Tactic.location)? : tactic =>
  `(tactic| simp only [List.cons_append, List.nil_append, List.append_assoc, tok_eq, kw_nil, kw_cons_self, kw_cons_ne,
      kw_cons_nil, kwWs_cons_self, kwWs_cons_nil, kwWs_nil_blank, kwWs_none, skipWs_nil, skipWs_space, skipWs_newline, skipWs_visible, skipWs_idem,
      Char.reduceToNat, Nat.reduceLeDiff,
      ne_eq, Char.reduceEq, not_false_eq_true, Option.map_none, Option.map_some, $hs,*] $[$loc]?)

/-- A run of blanks and newlines, which is all the white space the formatter writes. -/
def Blank (w : Str) : Prop := ∀ c ∈ w, c = ' ' ∨ c = '\n'

theorem skipWs_blank {w : Str} (hw : Blank w) (r : Str) : skipWs (w ++ r) = skipWs r := by
  induction w with
  | nil => rfl
  | cons c w ih =>
    have : isWhiteSpace c = true := by rcases hw c List.mem_cons_self with rfl | rfl <;> decide
    rw [List.cons_append, skipWs_cons_ws this]
    exact ih (fun d hd => hw d (List.mem_cons_of_mem _ hd))

theorem blank_replicate (n : Nat) : Blank (List.replicate n ' ') :=
  fun _ hc => Or.inl (List.eq_of_mem_replicate hc)

theorem blank_append {a b : Str} (ha : Blank a) (hb : Blank b) : Blank (a ++ b) :=
  fun c hc => (List.mem_append.1 hc).elim (ha c) (hb c)

theorem blank_nil : Blank [] := fun _ hc => nomatch hc
theorem blank_nl : Blank ['\n'] := fun _ hc => Or.inr (List.mem_singleton.1 hc)

/-- What `ident` can match. -/
def ValidIdent (n : Str) : Prop :=
  ∃ c r, n = c :: r ∧ isIdStart c = true ∧ ∀ d ∈ r, isIdCont d = true

/-- The next character cannot extend an identifier or number. -/
def NoCont (rest : Str) : Prop := ∀ c r, rest = c :: r → isIdCont c = false

theorem noCont_cons {c : Char} (r : Str) (h : isIdCont c = false) : NoCont (c :: r) := by
  intro d r' he; cases he; exact h

theorem skipWs_ident {n : Str} (h : ValidIdent n) (rest : Str) : skipWs (n ++ rest) = n ++ rest := by
  obtain ⟨c, r, rfl, hc, _⟩ := h
  exact skipWs_cons_nws (idStart_not_ws hc) _

theorem takeWhile_append_stop {p : Char → Bool} {a rest : Str} (ha : ∀ d ∈ a, p d = true)
    (hr : ∀ c r, rest = c :: r → p c = false) : (a ++ rest).takeWhile p = a ∧ (a ++ rest).dropWhile p = rest := by
  induction a with
  | nil =>
    cases rest with
    | nil => simp
    | cons c r => simp [List.takeWhile, List.dropWhile, hr c r rfl]
  | cons d a ih =>
    have hd := ha d List.mem_cons_self
    have := ih (fun e he => ha e (List.mem_cons_of_mem _ he))
    simp [List.takeWhile, List.dropWhile, hd, this.1, this.2]

theorem identP_append {n rest : Str} (hn : ValidIdent n) (hr : NoCont rest) :
    identP (n ++ rest) = some (n, rest) := by
  obtain ⟨c, r, rfl, hc, hcont⟩ := hn
  have := takeWhile_append_stop hcont hr
  simp [identP, hc, this.1, this.2]

theorem identP_cons {n : Str} (hn : ValidIdent n) {c : Char} (hc : isIdCont c = false) (r : Str) :
    identP (n ++ c :: r) = some (n, c :: r) := identP_append hn (noCont_cons r hc)

def ValidInt (v : Str) : Prop :=
  ∃ ds : Str, ds ≠ [] ∧ (∀ d ∈ ds, d.isDigit = true) ∧ (v = ds ∨ v = '-' :: ds)

def NoDigit (rest : Str) : Prop := ∀ c r, rest = c :: r → c.isDigit = false

theorem noDigit_cons {c : Char} (r : Str) (h : c.isDigit = false) : NoDigit (c :: r) := by
  intro d r' he; cases he; exact h

theorem noDigit_of_noCont {rest : Str} (h : NoCont rest) : NoDigit rest := by
  intro c r hcr
  have := h c r hcr
  simp only [isIdCont, Char.isAlphanum, Bool.or_eq_false_iff] at this
  exact this.1.2

theorem skipWs_validInt {v : Str} (hv : ValidInt v) (rest : Str) : skipWs (v ++ rest) = v ++ rest := by
  obtain ⟨ds, hne, hd, hv⟩ := hv
  cases ds with
  | nil => exact absurd rfl hne
  | cons d ds =>
    rcases hv with rfl | rfl
    · exact skipWs_cons_nws (digit_not_ws (hd d List.mem_cons_self)) _
    · exact skipWs_cons_nws (by decide) _

theorem digitsP_append {ds rest : Str} (hne : ds ≠ []) (hd : ∀ d ∈ ds, d.isDigit = true) (hr : NoDigit rest) :
    digitsP (ds ++ rest) = some (ds, rest) := by
  have ht := takeWhile_append_stop hd hr
  have : ds.isEmpty = false := by cases ds <;> simp_all
  simp [digitsP, ht.1, ht.2, this]

theorem litIntP_append {v rest : Str} (hv : ValidInt v) (hr : NoDigit rest) :
    litIntP (v ++ rest) = some (v, rest) := by
  obtain ⟨ds, hne, hd, hv⟩ := hv
  have hdig := digitsP_append hne hd hr
  rcases hv with rfl | rfl
  · cases v with
    | nil => exact absurd rfl hne
    | cons d ds =>
      have hd0 : d ≠ '-' := by
        intro he; have := hd d List.mem_cons_self; rw [he] at this; cases this
      unfold litIntP
      split
      · next r heq => cases heq; exact absurd rfl hd0
      · exact hdig
  · simp [litIntP, hdig]

theorem litIntP_ident_none {c : Char} (hc : isIdStart c = true) (r : Str) : litIntP (c :: r) = none := by
  unfold litIntP
  split
  · next r' heq => cases heq; cases hc
  · simp [digitsP, List.takeWhile, idStart_not_digit hc]

theorem hexN_append : ∀ (n : Nat) (a rest : Str), a.length = n → (∀ c ∈ a, isHex c = true) →
    hexN n (a ++ rest) = some (a, rest)
  | 0, a, rest, hl, _ => by
    cases List.eq_nil_of_length_eq_zero hl; rfl
  | n + 1, [], rest, hl, _ => by simp at hl
  | n + 1, c :: a, rest, hl, hh => by
    have hc := hh c List.mem_cons_self
    have := hexN_append n a rest (by simpa using hl) (fun d hd => hh d (List.mem_cons_of_mem _ hd))
    simp [hexN, hc, this]

/-- The shape `lit_uuid` matches: 8-4-4-4-12 hex digits. -/
def ValidUuid (u : Str) : Prop :=
  ∃ a b c d e : Str, u = a ++ ['-'] ++ b ++ ['-'] ++ c ++ ['-'] ++ d ++ ['-'] ++ e ∧
    a.length = 8 ∧ b.length = 4 ∧ c.length = 4 ∧ d.length = 4 ∧ e.length = 12 ∧
    (∀ x ∈ a ++ b ++ c ++ d ++ e, isHex x = true)

theorem litUuidP_append {u rest : Str} (hu : ValidUuid u) : litUuidP (u ++ rest) = some (u, rest) := by
  obtain ⟨a, b, c, d, e, rfl, ha, hb, hc, hd, he, hx⟩ := hu
  simp only [List.mem_append] at hx
  have hxa := hexN_append 8 a (['-'] ++ (b ++ (['-'] ++ (c ++ (['-'] ++ (d ++ (['-'] ++ (e ++ rest)))))))) ha
    (fun x h => hx x (.inl (.inl (.inl (.inl h)))))
  have hxb := hexN_append 4 b (['-'] ++ (c ++ (['-'] ++ (d ++ (['-'] ++ (e ++ rest)))))) hb
    (fun x h => hx x (.inl (.inl (.inl (.inr h)))))
  have hxc := hexN_append 4 c (['-'] ++ (d ++ (['-'] ++ (e ++ rest)))) hc (fun x h => hx x (.inl (.inl (.inr h))))
  have hxd := hexN_append 4 d (['-'] ++ (e ++ rest)) hd (fun x h => hx x (.inl (.inr h)))
  have hxe := hexN_append 12 e rest he (fun x h => hx x (.inr h))
  simp only [litUuidP, List.append_assoc, hxa, hxb, hxc, hxd, hxe, kw_append, Option.bind_eq_bind, Option.bind_some,
    Option.pure_def]

theorem hex_not_ws {c : Char} (h : isHex c = true) : isWhiteSpace c = false := by
  simp only [isHex, Bool.or_eq_true, Bool.and_eq_true, decide_eq_true_eq] at h
  rcases h with (h | ⟨h1, h2⟩) | ⟨h1, h2⟩
  · exact digit_not_ws h
  · have a : 97 ≤ c.toNat := h1
    have b : c.toNat ≤ 102 := h2
    exact not_ws_of_range (by omega) (by omega)
  · have a : 65 ≤ c.toNat := h1
    have b : c.toNat ≤ 70 := h2
    exact not_ws_of_range (by omega) (by omega)

theorem skipWs_validUuid {u : Str} (hu : ValidUuid u) (rest : Str) : skipWs (u ++ rest) = u ++ rest := by
  obtain ⟨a, b, c, d, e, rfl, ha, _, _, _, _, hx⟩ := hu
  cases a with
  | nil => cases ha
  | cons x a =>
    simp only [List.append_assoc, List.cons_append]
    exact skipWs_cons_nws (hex_not_ws (hx x (by simp))) _

/-- What `lit_string_char* ~ "\""` consumes: string characters, then the closing quote. -/
inductive StrBody : Str → Prop
  | close : StrBody ['"']
  | step (cs : Str) (n : Nat) : strCharLen cs = n + 1 → StrBody (cs.drop (n + 1)) → StrBody cs

theorem StrBody.ne_nil {cs : Str} (h : StrBody cs) : cs ≠ [] := by
  cases h with
  | close => simp
  | step cs n hn _ => intro he; subst he; simp [strCharLen] at hn

theorem strCharLen_le_two (cs : Str) : strCharLen cs ≤ 2 := by
  unfold strCharLen; split <;> omega

theorem strCharLen_cons_cons (c d : Char) (t : Str) : strCharLen (c :: d :: t) =
    if c = '\\' then (if d = '\\' ∨ d = '"' then 2 else 1)
    else if c = '"' ∨ c = '\n' ∨ (c = '\r' ∧ d = '\n') then 0 else 1 := by
  unfold strCharLen
  split
  case h_6 h1 h2 h3 h4 h5 heq =>
    -- the last pattern: none of the earlier ones matched
    cases heq
    have e1 := fun h => h1 t h
    have e2 := fun h => h2 t h
    have e5 := fun h => h5 t h
    simp only [List.cons.injEq, and_true] at e1 e2 e5
    split <;> split <;> simp_all
  all_goals simp_all

theorem strCharLen_append (a rest : Str) (h : 2 ≤ a.length) : strCharLen (a ++ rest) = strCharLen a := by
  match a, h with
  | c :: d :: t, _ => simp only [List.cons_append, strCharLen_cons_cons]

/-- A string literal as `lit_string` matches it. -/
def ValidLitString (v : Str) : Prop := ∃ body, v = '"' :: body ∧ StrBody body

theorem strBody_drop_length {cs : Str} {n : Nat} (hn : strCharLen cs = n + 1) (hb : StrBody (cs.drop (n + 1))) :
    n + 2 ≤ cs.length := by
  have := hb.ne_nil
  have hl : (cs.drop (n + 1)).length ≠ 0 := fun h => this (List.eq_nil_of_length_eq_zero h)
  simp at hl; omega

theorem litStringTail_append {body : Str} (hb : StrBody body) : ∀ (fuel : Nat) (rest : Str), body.length < fuel →
    litStringTail fuel (body ++ rest) = some (body, rest) := by
  induction hb with
  | close =>
    intro fuel rest hf
    cases fuel with
    | zero => simp at hf
    | succ f => simp [litStringTail, strCharLen]
  | step cs n hn hb ih =>
    intro fuel rest hf
    have hlen := strBody_drop_length hn hb
    cases fuel with
    | zero => simp at hf
    | succ f =>
      have h2 : strCharLen (cs ++ rest) = n + 1 := by rw [strCharLen_append cs rest (by omega), hn]
      have hd : (cs ++ rest).drop (n + 1) = cs.drop (n + 1) ++ rest := by
        rw [List.drop_append_of_le_length (by omega)]
      have ht : (cs ++ rest).take (n + 1) = cs.take (n + 1) := by
        rw [List.take_append_of_le_length (by omega)]
      unfold litStringTail
      simp only [h2, hd, ht]
      rw [ih f rest (by simp; omega)]
      simp [List.take_append_drop]

theorem litStringTail_valid : ∀ (fuel : Nat) (cs a b : Str), litStringTail fuel cs = some (a, b) → cs = a ++ b ∧ StrBody a := by
  intro fuel
  induction fuel with
  | zero => intro cs a b h; simp [litStringTail] at h
  | succ f ih =>
    intro cs a b h
    unfold litStringTail at h
    split at h
    · split at h
      · cases h; exact ⟨rfl, .close⟩
      · cases h
    · next n hn =>
      simp only [Option.map_eq_some_iff] at h
      obtain ⟨⟨a', b'⟩, hr, he⟩ := h
      cases he
      obtain ⟨hsp, hb⟩ := ih _ _ _ hr
      have hcs : cs = cs.take (n + 1) ++ a' ++ b' := by
        rw [List.append_assoc, ← hsp, List.take_append_drop]
      refine ⟨hcs, ?_⟩
      have ha' : a'.length ≠ 0 := fun h0 => hb.ne_nil (List.eq_nil_of_length_eq_zero h0)
      have hle := strCharLen_le_two cs
      -- the take is full: the rest of the input is not empty
      have hlen : n + 1 < cs.length := by
        have := congrArg List.length hsp
        simp only [List.length_drop, List.length_append] at this
        omega
      have htl : (cs.take (n + 1)).length = n + 1 := by simp; omega
      have hwin : strCharLen (cs.take (n + 1) ++ a') = n + 1 := by
        have := strCharLen_append (cs.take (n + 1) ++ a') b' (by simp only [List.length_append, htl]; omega)
        rw [← hcs, hn] at this; exact this.symm
      refine .step _ n hwin ?_
      rw [List.drop_append_of_le_length (by omega), List.drop_of_length_le (by omega)]
      exact hb

theorem litStringP_valid {cs a b : Str} (h : litStringP cs = some (a, b)) : ValidLitString a := by
  unfold litStringP at h
  split at h
  · simp only [Option.map_eq_some_iff] at h
    obtain ⟨⟨a', b'⟩, hr, he⟩ := h
    cases he
    exact ⟨a', rfl, (litStringTail_valid _ _ _ _ hr).2⟩
  · cases h

theorem litStringP_append {v rest : Str} (hv : ValidLitString v) : litStringP (v ++ rest) = some (v, rest) := by
  obtain ⟨body, rfl, hb⟩ := hv
  simp only [litStringP, List.cons_append]
  rw [litStringTail_append hb _ rest (by simp; omega)]
  rfl

end Aldrin.Schema
