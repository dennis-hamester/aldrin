import Aldrin.Lemmas.Fuel
namespace Aldrin
open Generated

/-! Skipping vs. decoding: `skip` is the decoder without the UTF-8 check (`DecCfg.lax`) with the value forgotten, and the
decoder with the check accepts a subset of that with the same result. Errors are compared up to the class {eoi, invalid}:
a too-long `Bytes` chunk is `InvalidSerialization` when decoding and `UnexpectedEoi` when skipping. -/

/-- Error classes: `eoi` and `invalid` are merged. -/
def cls : DeErr → DeErr
  | .eoi => .invalid
  | e => e

/-- Forget the error detail. -/
def norm {α : Type} : Except DeErr α → Except DeErr α
  | .ok a => .ok a
  | .error e => .error (cls e)

/-- Forget the decoded value, keep the rest of the input. -/
def restOf {α : Type} : Except DeErr (α × Bytes) → Except DeErr Bytes
  | .ok (_, r) => .ok r
  | .error e => .error e

@[simp] theorem norm_ok {α : Type} (a : α) : norm (.ok a : Except DeErr α) = .ok a := rfl
@[simp] theorem norm_err {α : Type} (e : DeErr) : norm (.error e : Except DeErr α) = .error (cls e) := rfl
@[simp] theorem restOf_ok {α : Type} (a : α) (r : Bytes) : restOf (.ok (a, r) : Except DeErr (α × Bytes)) = .ok r := rfl
@[simp] theorem restOf_err {α : Type} (e : DeErr) : restOf (.error e : Except DeErr (α × Bytes)) = .error e := rfl

theorem norm_eq_ok {α : Type} {x : Except DeErr α} {a : α} : norm x = .ok a ↔ x = .ok a := by
  cases x <;> simp [norm]

theorem norm_eq_err {α : Type} {x : Except DeErr α} {e : DeErr} :
    norm x = .error e ↔ ∃ e', x = .error e' ∧ cls e' = e := by
  cases x <;> simp [norm]

theorem norm_view {α β : Type} {x : Except DeErr α} {y : Except DeErr β} (view : Except DeErr β → Except DeErr α)
    (hv : ∀ e, view (.error e) = .error e) (hok : ∀ b, y = .ok b → x = view (.ok b))
    (herr : ∀ e, y = .error e → norm x = .error (cls e)) : norm x = norm (view y) := by
  cases y with
  | error e => rw [herr e rfl, hv, norm_err]
  | ok b => rw [hok b rfl]

@[simp] theorem cls_eoi : cls .eoi = .invalid := rfl
@[simp] theorem cls_invalid : cls .invalid = .invalid := rfl
@[simp] theorem cls_tooDeep : cls .tooDeep = .tooDeep := rfl
@[simp] theorem cls_fuel : cls .fuel = .fuel := rfl
theorem cls_eq_fuel {e : DeErr} : cls e = .fuel ↔ e = .fuel := by cases e <;> simp [cls]
theorem cls_eq_tooDeep {e : DeErr} : cls e = .tooDeep ↔ e = .tooDeep := by cases e <;> simp [cls]

theorem norm_eq_fuel {α : Type} {x : Except DeErr α} : norm x = .error .fuel ↔ x = .error .fuel := by
  cases x <;> simp [cls_eq_fuel]
theorem norm_eq_tooDeep {α : Type} {x : Except DeErr α} : norm x = .error .tooDeep ↔ x = .error .tooDeep := by
  cases x <;> simp [cls_eq_tooDeep]

theorem restOf_eq_ok {α : Type} {x : Except DeErr (α × Bytes)} {r : Bytes} :
    restOf x = .ok r ↔ ∃ a, x = .ok (a, r) := by
  rcases x with _ | ⟨a, r'⟩ <;> simp
theorem restOf_eq_err {α : Type} {x : Except DeErr (α × Bytes)} {e : DeErr} :
    restOf x = .error e ↔ x = .error e := by
  rcases x with _ | ⟨a, r'⟩ <;> simp

theorem decKey_lax {utf8 : Bool} {kt : KeyTy} {bs : Bytes} {k : Key} {r : Bytes}
    (h : decKey utf8 kt bs = .ok (k, r)) : decKey false kt bs = .ok (k, r) := by
  cases kt <;> simp only [decKey] at h ⊢ <;> (repeat' split at h) <;> cases h <;>
    simp only [*, Bool.false_and, Bool.false_eq_true, reduceIte]

theorem decKeys1_lax {utf8 : Bool} {kt : KeyTy} {f n : Nat} {bs : Bytes} {ks : List Key} {r : Bytes} :
    decKeys1 utf8 kt f n bs = .ok (ks, r) → decKeys1 false kt f n bs = .ok (ks, r) := by
  fun_induction decKeys1 utf8 kt f n bs generalizing ks r <;> intro h <;> cases h
  · simp only [decKeys1, reduceIte]
  · rename_i hn _ _ hk _ _ hr ih
    simp only [decKeys1, hn, reduceIte, decKey_lax hk, ih hr]

theorem decKeys2_lax {utf8 : Bool} {kt : KeyTy} {f : Nat} {bs : Bytes} {ks : List Key} {r : Bytes} :
    decKeys2 utf8 kt f bs = .ok (ks, r) → decKeys2 false kt f bs = .ok (ks, r) := by
  fun_induction decKeys2 utf8 kt f bs generalizing ks r <;> intro h <;> cases h
  · simp only [decKeys2, reduceIte]
  · rename_i hk _ _ hr hm ih
    simp only [decKeys2, hm, reduceIte, decKey_lax hk, ih hr]

theorem classifyC_utf8 (cfg : DecCfg) (u : Bool) (b : UInt8) : classifyC ⟨u, cfg.v2⟩ b = classifyC cfg b := rfl

theorem dec_lax_all (cfg : DecCfg) (f : Nat) : DecOk cfg f
    (fun f bs d v r => dec ⟨false, cfg.v2⟩ f bs d = .ok (v, r))
    (fun kt f bs d es r => decEntries2 ⟨false, cfg.v2⟩ kt f bs d = .ok (es, r))
    (fun f bs d vs r => decElems2 ⟨false, cfg.v2⟩ f bs d = .ok (vs, r))
    (fun kt f n bs d es r => decEntries1 ⟨false, cfg.v2⟩ kt f n bs d = .ok (es, r))
    (fun f n bs d vs r => decElems1 ⟨false, cfg.v2⟩ f n bs d = .ok (vs, r)) := by
  apply dec_ok_induct cfg
  constructor
  all_goals intros
  case set1 hk => have := decKeys1_lax hk; simp only [dec, classifyC_utf8, reduceIte, *]
  case set2 hk => have := decKeys2_lax hk; simp only [dec, classifyC_utf8, reduceIte, *]
  case entries2_cons hk _ _ _ _ =>
    have := decKey_lax hk; simp only [decEntries2, some_ne_none_b, reduceIte, *]
  case entries1_cons hk _ _ _ _ => have := decKey_lax hk; simp only [decEntries1, reduceIte, *]
  all_goals simp only [dec, decElems1, decElems2, decEntries1, decEntries2, classifyC_utf8,
    some_ne_none_b, Bool.false_and, Bool.false_eq_true, reduceIte, *]

theorem dec_std_lax {f : Nat} {bs : Bytes} {d : Nat} {v : Value} {r : Bytes}
    (h : dec .std f bs d = .ok (v, r)) : dec .lax f bs d = .ok (v, r) :=
  (dec_lax_all .std f).value h

theorem decodeTop_std_lax {bs : Bytes} {v : Value} (h : decodeTop .std bs = .ok v) : decodeTop .lax bs = .ok v :=
  decodeTop_eq_ok.mpr (dec_std_lax (decodeTop_eq_ok.mp h))

/-! Leaves: the generated skip tables against the decoder's readers. These are the obligations on
`core/src/deserializer.rs::skip` and `KeyTagImpl::skip` (widths and modes). -/

theorem skipVarint_restOf (N : Nat) (bs : Bytes) : skipVarint N bs = restOf (getVarint N bs) := by
  rw [skipVarint_eq_getVarint]
  cases getVarint N bs with
  | error e => rfl
  | ok p => cases p; rfl

theorem skipBy_fixed (n : Nat) (bs : Bytes) : skipBy (.fixed, n) bs = restOf (takeN n bs) := by
  simp only [skipBy]
  cases takeN n bs with
  | error e => rfl
  | ok p => cases p; rfl

theorem skipBy_varint (n : Nat) (bs : Bytes) : skipBy (.varint, n) bs = restOf (getVarint n bs) := by
  simp only [skipBy, skipVarint_restOf]

theorem skip_int_leaf (t : IntTy) (bs : Bytes) : skipBy (intSkipSpec t) bs = restOf (decInt t bs) := by
  rcases t.byte_or_wide with rfl | rfl | hw
  iterate 2 cases bs <;> simp [intSkipSpec, skipU8, skipI8, skipBy_fixed, decInt, takeN]
  have : intSkipSpec t = (.varint, t.bytes) := by cases t <;> first | rfl | exact absurd hw (by decide)
  rw [this, skipBy_varint, decInt_wide hw]
  cases getVarint t.bytes bs with
  | error e => rfl
  | ok p => cases p; rfl

theorem skip_fixed_leaf (k : FixedKind) (bs : Bytes) : skipBy (fixedSkipSpec k) bs = restOf (takeN k.len bs) := by
  cases k <;> simp only [fixedSkipSpec, skipF32, skipF64, skipUuid, skipObjectId, skipServiceId,
    skipSender, skipReceiver, skipBy_fixed, FixedKind.len]

theorem skip_bool_leaf (bs : Bytes) :
    skipBy skipBool bs = match bs with | [] => .error .eoi | _ :: r => .ok r := by
  cases bs <;> simp [skipBool, skipBy_fixed, takeN]

/-- `KeyTagImpl::skip` agrees with `KeyTagImpl::deserialize_key` (UTF-8 aside) for every key type:
same success, same rest. This is the obligation the C07 defect violated (skip width 0). -/
theorem skipKey_restOf (kt : KeyTy) (bs : Bytes) : skipKey kt bs = restOf (decKey false kt bs) := by
  cases kt with
  | int t =>
    -- on the integer keys `KeyTagImpl::skip` and `Deserializer::skip` have the same table
    have : keySkipSpec (.int t) = intSkipSpec t := by cases t <;> rfl
    simp only [skipKey, this, skip_int_leaf, decKey]
    cases decInt t bs with
    | error e => rfl
    | ok p => cases p; rfl
  | string =>
    simp only [skipKey, keySkipSpec, keyStringSkip, skipBy, decKey]
    cases getVarint 4 bs with
    | error e => rfl
    | ok p =>
      obtain ⟨n, r⟩ := p
      simp only
      cases takeN n r with
      | error e => rfl
      | ok q => cases q; simp
  | uuid =>
    simp only [skipKey, keySkipSpec, keyUuidSkip, skipBy_fixed, decKey]
    cases takeN 16 bs with
    | error e => rfl
    | ok q => cases q; rfl
  | field =>
    simp only [skipKey, keySkipSpec, skipBy_varint, decKey]
    cases getVarint 4 bs with
    | error e => rfl
    | ok q => cases q; rfl

theorem skipKeys1_eq (kt : KeyTy) (f n : Nat) (bs : Bytes) :
    skipKeys1 kt f n bs = restOf (decKeys1 false kt f n bs) := by
  fun_induction decKeys1 false kt f n bs <;> simp_all [skipKeys1, skipKey_restOf]

theorem skipKeys2_eq (kt : KeyTy) (f : Nat) (bs : Bytes) :
    skipKeys2 kt f bs = restOf (decKeys2 false kt f bs) := by
  fun_induction decKeys2 false kt f bs <;> simp_all [skipKeys2, skipKey_restOf]

theorem skipChunks_eq (f : Nat) (bs : Bytes) :
    norm (skipChunks f bs) = norm (restOf (decChunks f bs)) := by
  fun_induction decChunks f bs <;>
    simp only [skipChunks, Bool.false_eq_true, reduceIte, restOf_ok, restOf_err, norm_ok, norm_err, cls_eoi, cls_invalid, *]

theorem norm_if {α : Type} (c : Prop) [Decidable c] (x y : Except DeErr α) :
    norm (if c then x else y) = if c then norm x else norm y := by
  split <;> rfl

theorem norm_cases {α : Type} (x : Except DeErr α) :
    (∃ a, x = .ok a) ∨ (∃ e, x = .error e) := by
  cases x <;> simp

/-- One rule per path of the decoder (`dec_induct`): along it the rules' hypotheses give the callees' results for `skip`,
and with these `skip` evaluates. -/
theorem skip_dec_fuel (f : Nat) :
    DecOk .lax f
      (fun f bs d _ r => skip f bs d = .ok r)
      (fun kt f bs d _ r => skipEntries2 kt f bs d = .ok r)
      (fun f bs d _ r => skipElems2 f bs d = .ok r)
      (fun kt f n bs d _ r => skipEntries1 kt f n bs d = .ok r)
      (fun f n bs d _ r => skipElems1 f n bs d = .ok r) ∧
    DecErr .lax f
      (fun f bs d e => norm (skip f bs d) = .error (cls e))
      (fun kt f bs d e => norm (skipEntries2 kt f bs d) = .error (cls e))
      (fun f bs d e => norm (skipElems2 f bs d) = .error (cls e))
      (fun kt f n bs d e => norm (skipEntries1 kt f n bs d) = .error (cls e))
      (fun f n bs d e => norm (skipElems1 f n bs d) = .error (cls e)) := by
  apply dec_induct .lax <;> constructor
  all_goals intros
  case string_utf8 => exact absurd ‹(DecCfg.lax.utf8 && !validUtf8 _) = true› (by simp)
  -- Where a callee fails, `skip`'s fails with an error of the same class.
  case' some_err | vec1_err | map1_err | enum_err | vec2_err | map2_err | entries2_value | entries2_rest | elems2_value |
      elems2_rest | entries1_value | entries1_rest | elems1_value | elems1_rest =>
    obtain ⟨e', he, hc⟩ := norm_eq_err.mp ‹norm _ = _›
  -- the readers of keys take the decoder's UTF-8 flag
  case' set1 | set1_err | set2 | set2_err | entries1_key | entries1_value | entries1_rest | entries1_cons | entries2_key |
      entries2_value | entries2_rest | entries2_cons => simp only [lax_utf8] at *
  -- `skipChunks` agrees with `decChunks` up to the class only
  case' bytes2 => rw [← norm_eq_ok]
  all_goals (simp only [skip, skipElems1, skipElems2, skipEntries1, skipEntries2, skip_int_leaf, skip_fixed_leaf,
    skip_bool_leaf, skipKey_restOf, skipKeys1_eq, skipKeys2_eq, skipChunks_eq, some_ne_none_b, ← classifyC_lax,
    Bool.false_eq_true, reduceIte, restOf_ok, restOf_err, norm_ok, norm_err, cls_eoi, cls_invalid, *])

theorem skip_dec (f : Nat) (bs : Bytes) (d : Nat) : norm (skip f bs d) = norm (restOf (dec .lax f bs d)) :=
  norm_view restOf (fun _ => rfl) (fun _ h => (skip_dec_fuel f).1.value h) fun _ h => (skip_dec_fuel f).2.value h

end Aldrin
