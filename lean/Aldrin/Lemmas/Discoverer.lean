/-
Discoverer entries converge to the bus state (C19). The specification side stands here too: the bus as a fold of its
events (`Bus`, `Bus.okEv`), what the state of an entry has to be (`Rel`) and what it reports (`Entry.reports`).

An object-with-services entry is the view `At` at its object (`RelWith.at`) and an any-object entry is `At` at every
object (`RelAny.at`): what bus events do to the view at one object is proved once, about `At`, and `with_step` and
`any_step` read it off. The bare entry records no services and is proved directly (`bare_step`).
-/
import Aldrin.Model.Discoverer
import Aldrin.Lemmas.Broker.AL
import Aldrin.Lemmas.Lists

namespace Aldrin.Disc
open Aldrin.Broker

/-- the bus as a fold of its events: live objects (uuid ↦ cookie) and live services
((object uuid, service uuid) ↦ (object cookie, service cookie)) -/
structure Bus where
  objs : List (Uuid × Cookie) := []
  svcs : List ((Uuid × Uuid) × (Cookie × Cookie)) := []
  deriving Repr

def Bus.apply (b : Bus) : BusEv → Bus
  | .objCreated id => { b with objs := AL.insert id.uuid id.cookie b.objs }
  | .objDestroyed id => { b with objs := AL.erase id.uuid b.objs }
  | .svcCreated sid => { b with svcs := AL.insert (sid.obj.uuid, sid.uuid) (sid.obj.cookie, sid.cookie) b.svcs }
  | .svcDestroyed sid => { b with svcs := AL.erase (sid.obj.uuid, sid.uuid) b.svcs }

/-- what the broker guarantees about the order of bus events (C03 / C10): creations of things that do not
exist, destructions of things that exist, services inside their object's lifetime -/
def Bus.okEv (b : Bus) : BusEv → Prop
  | .objCreated id => AL.find? id.uuid b.objs = none
  | .objDestroyed id => AL.find? id.uuid b.objs = some id.cookie ∧ ∀ su, AL.find? (id.uuid, su) b.svcs = none
  | .svcCreated sid => AL.find? sid.obj.uuid b.objs = some sid.obj.cookie ∧ AL.find? (sid.obj.uuid, sid.uuid) b.svcs = none
  | .svcDestroyed sid => AL.find? (sid.obj.uuid, sid.uuid) b.svcs = some (sid.obj.cookie, sid.cookie)

/-- every live service belongs to the live object with that cookie -/
def Bus.Inv (b : Bus) : Prop := ∀ ou su oc sc, AL.find? (ou, su) b.svcs = some (oc, sc) → AL.find? ou b.objs = some oc

/-- `b'` is `b` with the service `s` of object `o` set to `v`: what a service event does to the bus -/
structure Bus.SvcSet (b b' : Bus) (o s : Uuid) (v : Option (Cookie × Cookie)) : Prop where
  objs : b'.objs = b.objs
  svcs : ∀ ou su, AL.find? (ou, su) b'.svcs = if o = ou ∧ s = su then v else AL.find? (ou, su) b.svcs

theorem Bus.apply_svcCreated (b : Bus) (sid : SvcId) :
    b.SvcSet (b.apply (.svcCreated sid)) sid.obj.uuid sid.uuid (some (sid.obj.cookie, sid.cookie)) :=
  ⟨rfl, fun ou su => (AL.find?_insert ..).trans (by simp only [Prod.mk.injEq])⟩

theorem Bus.apply_svcDestroyed (b : Bus) (sid : SvcId) :
    b.SvcSet (b.apply (.svcDestroyed sid)) sid.obj.uuid sid.uuid none :=
  ⟨rfl, fun ou su => (AL.find?_erase ..).trans (by simp only [Prod.mk.injEq])⟩

section SvcSet
variable {b b' : Bus} {o s ou su : Uuid} {v : Option (Cookie × Cookie)}

theorem Bus.SvcSet.self (hb : b.SvcSet b' o s v) : AL.find? (o, s) b'.svcs = v := by
  rw [hb.svcs, if_pos ⟨rfl, rfl⟩]

theorem Bus.SvcSet.other (hb : b.SvcSet b' o s v) (h : o ≠ ou ∨ s ≠ su) :
    AL.find? (ou, su) b'.svcs = AL.find? (ou, su) b.svcs := by
  rw [hb.svcs, if_neg fun he => h.elim (· he.1) (· he.2)]

theorem Bus.SvcSet.inv (hb : b.SvcSet b' o s v) (h : b.Inv) (hv : ∀ oc sc, v = some (oc, sc) → AL.find? o b.objs = some oc) :
    b'.Inv := by
  intro ou su oc sc hf
  rw [hb.objs]
  rw [hb.svcs] at hf
  split at hf
  · rw [← (‹o = ou ∧ s = su›).1]; exact hv oc sc hf
  · exact h _ _ _ _ hf

end SvcSet

theorem Bus.find?_objs_apply {b : Bus} {e : BusEv} {ou su : Uuid} {v : Cookie × Cookie} (h : b.Inv) (ho : b.okEv e)
    (hsvc : AL.find? (ou, su) b.svcs = some v) : AL.find? ou (b.apply e).objs = AL.find? ou b.objs := by
  cases e with
  | objCreated id =>
    refine AL.find?_insert_ne _ _ fun he => ?_
    -- the new object did not exist, so it had no services
    have hobj := h ou su v.1 v.2 hsvc
    rw [← he, (ho : AL.find? id.uuid b.objs = none)] at hobj
    cases hobj
  | objDestroyed id =>
    refine AL.find?_erase_ne _ fun he => ?_
    rw [← he, ho.2 su] at hsvc
    cases hsvc
  | svcCreated _ | svcDestroyed _ => rfl

theorem Bus.inv_apply {b : Bus} {e : BusEv} (h : b.Inv) (ho : b.okEv e) : (b.apply e).Inv := by
  cases e with
  | objCreated id | objDestroyed id =>
    exact fun ou su oc sc hf => (Bus.find?_objs_apply h ho hf).trans (h ou su oc sc hf)
  | svcCreated sid =>
    exact (Bus.apply_svcCreated b sid).inv h fun oc sc hv => by cases hv; exact ho.1
  | svcDestroyed sid => exact (Bus.apply_svcDestroyed b sid).inv h nofun

/-- what a transition of the found-set at `ou` looks like as a discoverer event -/
def transition (k : Nat) (ou : Uuid) (before after : Option Cookie) : Option DEvent :=
  match before, after with
  | none, some c => some ⟨k, .created, ⟨ou, c⟩⟩
  | some c, none => some ⟨k, .destroyed, ⟨ou, c⟩⟩
  | _, _ => none

theorem transition_self (k : Nat) (ou : Uuid) (c : Option Cookie) : transition k ou c c = none := by
  cases c <;> rfl

def RelBare (o : Uuid) (cookie : Option Cookie) (b : Bus) : Prop := cookie = AL.find? o b.objs

theorem bare_step {k : Nat} {o : Uuid} {cookie : Option Cookie} {b : Bus} {e : BusEv}
    (hr : RelBare o cookie b) (ho : b.okEv e) :
    ∃ cookie' dev, (Entry.bare k o cookie).handle e = .ok (.bare k o cookie', dev) ∧ RelBare o cookie' (b.apply e) ∧
      dev = transition k o cookie cookie' := by
  cases e with
  | objCreated id =>
    by_cases hu : id.uuid = o
    · subst hu
      have hc : cookie = none := hr.trans ho
      subst hc
      exact ⟨some id.cookie, some ⟨k, .created, id⟩, if_neg fun h => h rfl, (AL.find?_insert_self ..).symm, rfl⟩
    · exact ⟨cookie, none, if_pos hu, hr.trans (AL.find?_insert_ne _ _ hu).symm, (transition_self ..).symm⟩
  | objDestroyed id =>
    by_cases hu : id.uuid = o
    · subst hu
      have hc : cookie = some id.cookie := hr.trans ho.1
      subst hc
      exact ⟨none, some ⟨k, .destroyed, id⟩, (if_neg fun h => h rfl).trans (if_neg fun h => h rfl), (AL.find?_erase_self ..).symm, rfl⟩
    · exact ⟨cookie, none, if_pos hu, hr.trans (AL.find?_erase_ne _ hu).symm, (transition_self ..).symm⟩
  | svcCreated sid => exact ⟨cookie, none, rfl, hr, (transition_self ..).symm⟩
  | svcDestroyed sid => exact ⟨cookie, none, rfl, hr, (transition_self ..).symm⟩

theorem all_iff_find' {K V : Type} [DecidableEq K] {m : List (K × V)} (P : K × V → Bool) (hn : AL.NodupKeys m) :
    m.all P = true ↔ ∀ k v, AL.find? k m = some v → P (k, v) = true := by
  rw [List.all_eq_true]
  constructor
  · intro h k v hf; exact h (k, v) (AL.find?_some_mem hf)
  · intro h p hp; exact h p.1 p.2 (AL.find?_of_mem hn hp)

theorem insert_ne_nil {K V : Type} [DecidableEq K] (k : K) (v : V) (m : List (K × V)) : AL.insert k v m ≠ [] := by
  cases m with
  | nil => simp [AL.insert]
  | cons p m => simp only [AL.insert]; split <;> simp

structure RelWith (o : Uuid) (cookie : Option Cookie) (svcs : List (Uuid × Option Cookie)) (b : Bus) : Prop where
  nodup : AL.NodupKeys svcs
  nonempty : svcs ≠ []
  each : ∀ s c, AL.find? s svcs = some c → c = (AL.find? (o, s) b.svcs).map (·.2)
  cookie : cookie = if svcs.all (fun p => p.2.isSome) then AL.find? o b.objs else none

theorem eq_of_some_eq_ite {p : Prop} [Decidable p] {x : Option Cookie} {c c' : Cookie}
    (h : some c = if p then x else none) (hx : x = some c') : c = c' := by
  subst hx
  split at h
  · exact Option.some.inj h
  · cases h

/-- object `ou` has every required service live on `b` -/
def hasAll (svcs : List (Uuid × List (Uuid × Cookie))) (b : Bus) (ou : Uuid) : Bool :=
  svcs.all (fun p => (AL.find? (ou, p.1) b.svcs).isSome)

structure RelAny (svcs : List (Uuid × List (Uuid × Cookie))) (created : List (Uuid × Cookie)) (b : Bus) : Prop where
  nodup : AL.NodupKeys svcs
  each : ∀ s m, AL.find? s svcs = some m → ∀ ou, AL.find? ou m = (AL.find? (ou, s) b.svcs).map (·.2)
  created : ∀ ou, AL.find? ou created = if hasAll svcs b ou then AL.find? ou b.objs else none

theorem all_congr_mem {α : Type} (f g : α → Bool) : ∀ (l : List α), (∀ p ∈ l, f p = g p) → l.all f = l.all g
  | [], _ => rfl
  | a :: l, h => by
    simp only [List.all_cons, h a (List.mem_cons_self)]
    rw [all_congr_mem f g l (fun p hp => h p (List.mem_cons_of_mem _ hp))]

def evObj : BusEv → Uuid
  | .objCreated id | .objDestroyed id => id.uuid
  | .svcCreated sid | .svcDestroyed sid => sid.obj.uuid

/-- object `ou` has every service of `svcs` live on `b`, whatever the entry stores under a service -/
def has {V : Type} (svcs : List (Uuid × V)) (b : Bus) (ou : Uuid) : Bool :=
  svcs.all (fun p => (AL.find? (ou, p.1) b.svcs).isSome)

theorem hasAll_eq_has (svcs : List (Uuid × List (Uuid × Cookie))) (b : Bus) (ou : Uuid) : hasAll svcs b ou = has svcs b ou :=
  rfl

/-- at object `ou` the entry's service record `svcs`, read through `get`, and its report `r` are the view of the bus `b` -/
structure At {V : Type} (get : V → Option Cookie) (svcs : List (Uuid × V)) (r : Option Cookie) (b : Bus) (ou : Uuid) :
    Prop where
  each : ∀ s v, AL.find? s svcs = some v → get v = (AL.find? (ou, s) b.svcs).map (·.2)
  rep : r = if has svcs b ou then AL.find? ou b.objs else none

section At
variable {V : Type} {get : V → Option Cookie} {svcs : List (Uuid × V)} {r : Option Cookie} {b b' : Bus} {o ou s : Uuid}
  {v : Option (Cookie × Cookie)} {vold v' : V}

/-- the entry's own test "every required service present" is the bus-level condition -/
theorem test_eq_has (hn : AL.NodupKeys svcs)
    (he : ∀ s v, AL.find? s svcs = some v → get v = (AL.find? (ou, s) b.svcs).map (·.2)) :
    svcs.all (fun p => (get p.2).isSome) = has svcs b ou :=
  all_congr_mem _ _ _ fun p hp => by
    rw [he p.1 p.2 (AL.find?_of_mem hn hp)]; cases AL.find? (ou, p.1) b.svcs <;> rfl

theorem has_insert (hs : AL.find? s svcs = some vold) : has (AL.insert s v' svcs) b ou = has svcs b ou := by
  have key (l : List (Uuid × V)) : has l b ou = (l.map Prod.fst).all (fun s => (AL.find? (ou, s) b.svcs).isSome) :=
    (List.all_map (f := Prod.fst) (p := fun s => (AL.find? (ou, s) b.svcs).isSome)).symm
  rw [key, key, AL.keys_insert_of_some hs]

theorem has_false (hs : AL.find? s svcs = some vold) (hmiss : AL.find? (ou, s) b.svcs = none) : has svcs b ou = false :=
  List.all_eq_false.mpr ⟨(s, vold), AL.find?_some_mem hs, by rw [hmiss]; exact Bool.false_ne_true⟩

theorem has_live (hne : svcs ≠ []) (hall : has svcs b ou = true) : ∃ s v, AL.find? (ou, s) b.svcs = some v := by
  cases svcs with
  | nil => exact absurd rfl hne
  | cons p r =>
    simp only [has, List.all_cons, Bool.and_eq_true] at hall
    exact ⟨p.1, Option.isSome_iff_exists.mp hall.1⟩

theorem At.congr (h : At get svcs r b ou)
    (hs : ∀ s, s ∈ svcs.map Prod.fst → AL.find? (ou, s) b'.svcs = AL.find? (ou, s) b.svcs)
    (ho : has svcs b ou = true → AL.find? ou b'.objs = AL.find? ou b.objs) : At get svcs r b' ou := by
  have hall : has svcs b' ou = has svcs b ou :=
    all_congr_mem _ _ _ fun p hp => by rw [hs p.1 (List.mem_map.mpr ⟨p, hp, rfl⟩)]
  refine ⟨fun s v hf => ?_, ?_⟩
  · rw [hs s (List.mem_map.mpr ⟨(s, v), AL.find?_some_mem hf, rfl⟩)]; exact h.each s v hf
  · rw [hall, h.rep]; split
    · rw [ho ‹_›]
    · rfl

/-- an object event, when a service is required: an object that is created or destroyed has no services -/
theorem At.obj (h : At get svcs r b ou) (hne : svcs ≠ []) (hi : b.Inv) {e : BusEv} (ho : b.okEv e)
    (he : (b.apply e).svcs = b.svcs) : At get svcs r (b.apply e) ou :=
  h.congr (fun _ _ => by rw [he]) fun hall =>
    have ⟨_, _, hsvc⟩ := has_live hne hall
    Bus.find?_objs_apply hi ho hsvc

theorem At.ignore (h : At get svcs r b ou) (hb : b.SvcSet b' o s v) (hne : o ≠ ou ∨ AL.find? s svcs = none) :
    At get svcs r b' ou :=
  h.congr (fun _ hs' => hb.other (hne.imp_right fun hn he => AL.find?_none_iff.mp hn (he ▸ hs'))) fun _ => congrArg _ hb.objs

theorem At.set (h : At get svcs r b ou) (hb : b.SvcSet b' o s v) (hs : AL.find? s svcs = some vold)
    (hv : get v' = if o = ou then v.map (·.2) else get vold) :
    At get (AL.insert s v' svcs) (if has (AL.insert s v' svcs) b' ou then AL.find? ou b.objs else none) b' ou := by
  refine ⟨fun s' w hs' => ?_, by rw [hb.objs]⟩
  rw [AL.find?_insert] at hs'
  split at hs'
  · subst ‹s = s'›; cases hs'; rw [hv, hb.svcs]
    by_cases he : o = ou
    · rw [if_pos he, if_pos ⟨he, rfl⟩]
    · rw [if_neg he, if_neg fun h' => he h'.1]; exact h.each _ _ hs
  · rw [hb.other (.inr ‹_›)]; exact h.each s' w hs'

theorem At.set_ne (h : At get svcs r b ou) (hb : b.SvcSet b' o s v) (hs : AL.find? s svcs = some vold)
    (hne : o ≠ ou) (hv : get v' = get vold) : At get (AL.insert s v' svcs) r b' ou := by
  have hall : has svcs b' ou = has svcs b ou := congrArg (List.all svcs) (funext fun p => by rw [hb.other (.inl hne)])
  have := h.set hb hs (v' := v') (by rw [if_neg hne]; exact hv)
  rwa [has_insert hs, hall, ← h.rep] at this

theorem At.svcCreated {sid : SvcId} (h : At get svcs r b sid.obj.uuid) (hn : AL.NodupKeys svcs)
    (ho : b.okEv (.svcCreated sid)) (hs : AL.find? sid.uuid svcs = some vold) (hv : get v' = some sid.cookie) :
    get vold = none ∧ r = none ∧
    At get (AL.insert sid.uuid v' svcs)
      (if (AL.insert sid.uuid v' svcs).all (fun p => (get p.2).isSome) then some sid.obj.cookie else none)
      (b.apply (.svcCreated sid)) sid.obj.uuid := by
  have hset := h.set (Bus.apply_svcCreated b sid) hs (v' := v') (by rw [if_pos rfl]; exact hv)
  rw [← test_eq_has (AL.nodupKeys_insert hn) hset.each, ho.1] at hset
  exact ⟨(h.each _ _ hs).trans (by rw [ho.2]; rfl), h.rep.trans (by rw [has_false hs ho.2]; rfl), hset⟩

theorem At.svcDestroyed {sid : SvcId} (h : At get svcs r b sid.obj.uuid) (hi : b.Inv)
    (ho : b.okEv (.svcDestroyed sid)) (hs : AL.find? sid.uuid svcs = some vold) (hv : get v' = none) :
    get vold = some sid.cookie ∧ (∀ c, r = some c → c = sid.obj.cookie) ∧
    At get (AL.insert sid.uuid v' svcs) none (b.apply (.svcDestroyed sid)) sid.obj.uuid := by
  have hb := Bus.apply_svcDestroyed b sid
  have hset := h.set hb hs (v' := v') (by rw [if_pos rfl]; exact hv)
  rw [has_false (AL.find?_insert_self ..) hb.self, if_neg Bool.false_ne_true] at hset
  exact ⟨(h.each _ _ hs).trans (by rw [(ho : AL.find? _ b.svcs = _)]; rfl),
    fun c hc => eq_of_some_eq_ite (hc.symm.trans h.rep) (hi _ _ _ _ ho), hset⟩

theorem At.nil : At get [] r b ou ↔ r = AL.find? ou b.objs := ⟨fun h => h.rep, fun h => ⟨nofun, h⟩⟩

end At

theorem RelWith.at {o : Uuid} {c : Option Cookie} {svcs : List (Uuid × Option Cookie)} {b : Bus} :
    RelWith o c svcs b ↔ AL.NodupKeys svcs ∧ svcs ≠ [] ∧ At id svcs c b o :=
  have test (hn : AL.NodupKeys svcs) (he) : svcs.all (fun p => p.2.isSome) = has svcs b o := test_eq_has (get := id) hn he
  ⟨fun h => ⟨h.nodup, h.nonempty, h.each, h.cookie.trans (by rw [test h.nodup h.each])⟩,
   fun ⟨hn, hne, ha⟩ => ⟨hn, hne, ha.each, ha.rep.trans (by rw [test hn ha.each])⟩⟩

theorem RelAny.at {svcs : List (Uuid × List (Uuid × Cookie))} {created : List (Uuid × Cookie)} {b : Bus} :
    RelAny svcs created b ↔ AL.NodupKeys svcs ∧ ∀ ou, At (AL.find? ou) svcs (AL.find? ou created) b ou :=
  ⟨fun h => ⟨h.nodup, fun ou => ⟨fun s m hs => h.each s m hs ou, hasAll_eq_has svcs b ou ▸ h.created ou⟩⟩,
   fun ⟨hn, ha⟩ => ⟨hn, fun s m hs ou => (ha ou).each s m hs, fun ou => hasAll_eq_has svcs b ou ▸ (ha ou).rep⟩⟩

theorem RelAny.of_at {svcs : List (Uuid × List (Uuid × Cookie))} {created created' : List (Uuid × Cookie)} {b : Bus} {o : Uuid}
    (hn : AL.NodupKeys svcs) (ho : At (AL.find? o) svcs (AL.find? o created') b o)
    (hoth : ∀ ou, ou ≠ o → At (AL.find? ou) svcs (AL.find? ou created) b ou)
    (hc : ∀ ou, ou ≠ o → AL.find? ou created' = AL.find? ou created) : RelAny svcs created' b :=
  RelAny.at.mpr ⟨hn, fun ou => if h : ou = o then h ▸ ho else hc ou h ▸ hoth ou h⟩

theorem transition_of {k : Nat} {ou : Uuid} {x y x' y' : Option Cookie} (hx : x = x') (hy : y = y') :
    transition k ou x' y' = transition k ou x y := by rw [hx, hy]

theorem with_step {k : Nat} {o : Uuid} {cookie : Option Cookie} {svcs : List (Uuid × Option Cookie)} {b : Bus} {e : BusEv}
    (hr : RelWith o cookie svcs b) (hi : b.Inv) (ho : b.okEv e) :
    ∃ cookie' svcs' dev, (Entry.withSvcs k o cookie svcs).handle e = .ok (.withSvcs k o cookie' svcs', dev) ∧
      RelWith o cookie' svcs' (b.apply e) ∧
      dev = transition k o cookie cookie' := by
  obtain ⟨hn, hne, ha⟩ := RelWith.at.mp hr
  -- the entry does nothing, and its view is that of the new bus
  have keep (hd : (Entry.withSvcs k o cookie svcs).handle e = .ok (.withSvcs k o cookie svcs, none))
      (h : At id svcs cookie (b.apply e) o) : ∃ cookie' svcs' dev, (Entry.withSvcs k o cookie svcs).handle e =
        .ok (.withSvcs k o cookie' svcs', dev) ∧ RelWith o cookie' svcs' (b.apply e) ∧ dev = transition k o cookie cookie' :=
    ⟨cookie, svcs, none, hd, RelWith.at.mpr ⟨hn, hne, h⟩, (transition_self ..).symm⟩
  -- the entry records a change of one of its services
  have set {s : Uuid} {c : Option Cookie} {cookie' dev} (h : At id (AL.insert s c svcs) cookie' (b.apply e) o)
      (hd : (Entry.withSvcs k o cookie svcs).handle e = .ok (.withSvcs k o cookie' (AL.insert s c svcs), dev))
      (ht : dev = transition k o cookie cookie') : ∃ cookie' svcs' dev, (Entry.withSvcs k o cookie svcs).handle e =
        .ok (.withSvcs k o cookie' svcs', dev) ∧ RelWith o cookie' svcs' (b.apply e) ∧ dev = transition k o cookie cookie' :=
    ⟨_, _, _, hd, RelWith.at.mpr ⟨AL.nodupKeys_insert hn, insert_ne_nil _ _ _, h⟩, ht⟩
  cases e with
  | objCreated id => exact keep rfl (ha.obj hne hi ho rfl)
  | objDestroyed id => exact keep rfl (ha.obj hne hi ho rfl)
  | svcCreated sid =>
    have hb := Bus.apply_svcCreated b sid
    by_cases hu : sid.obj.uuid = o
    · subst hu
      cases hf : AL.find? sid.uuid svcs with
      | none =>
        exact keep (by simp only [Entry.handle, hf, ne_eq, not_true_eq_false, ↓reduceIte]) (ha.ignore hb (.inr hf))
      | some cur =>
        obtain ⟨hcur, hold, hset⟩ := ha.svcCreated hn ho hf (v' := some sid.cookie) rfl
        have hcur : cur = none := hcur
        subst hcur hold
        simp only [id_eq] at hset
        split at hset
        next hall =>
          exact set (dev := some ⟨k, .created, sid.obj⟩) hset (by simp only [Entry.handle, hf, hall, ne_eq,
            not_true_eq_false, Option.isSome_none, Bool.false_eq_true, ↓reduceIte]) rfl
        next hall =>
          exact set (dev := none) hset (by simp only [Entry.handle, hf, hall, ne_eq, not_true_eq_false,
            Option.isSome_none, Bool.false_eq_true, ↓reduceIte]) rfl
    · exact keep (if_pos hu) (ha.ignore hb (.inl hu))
  | svcDestroyed sid =>
    have hb := Bus.apply_svcDestroyed b sid
    by_cases hu : sid.obj.uuid = o
    · subst hu
      cases hf : AL.find? sid.uuid svcs with
      | none =>
        exact keep (by simp only [Entry.handle, hf, ne_eq, not_true_eq_false, ↓reduceIte]) (ha.ignore hb (.inr hf))
      | some cur =>
        obtain ⟨hcur, hold, hset⟩ := ha.svcDestroyed hi ho hf (v' := none) rfl
        have hcur : cur = some sid.cookie := hcur
        subst hcur
        cases cookie with
        | none =>
          exact set (dev := none) hset (by simp only [Entry.handle, hf, ne_eq, not_true_eq_false, ↓reduceIte,
            Option.isSome_none, Bool.false_eq_true]) rfl
        | some c =>
          cases hold c rfl
          exact set (dev := some ⟨k, .destroyed, sid.obj⟩) hset (by simp only [Entry.handle, hf, ne_eq, not_true_eq_false,
            ↓reduceIte, Option.isSome_some]) rfl
    · exact keep (if_pos hu) (ha.ignore hb (.inl hu))

theorem any_step {k : Nat} {svcs : List (Uuid × List (Uuid × Cookie))} {created : List (Uuid × Cookie)} {b : Bus} {e : BusEv}
    (hr : RelAny svcs created b) (hi : b.Inv) (ho : b.okEv e) :
    ∃ svcs' created' dev, (Entry.any k svcs created).handle e = .ok (.any k svcs' created', dev) ∧
      RelAny svcs' created' (b.apply e) ∧
      dev = transition k (evObj e) (AL.find? (evObj e) created) (AL.find? (evObj e) created') ∧
      (∀ ou, ou ≠ evObj e → AL.find? ou created' = AL.find? ou created) := by
  obtain ⟨hn, ha⟩ := RelAny.at.mp hr
  cases e with
  | objCreated id =>
    cases svcs with
    | nil =>
      -- no service required: the entry reports every object
      have hnone : AL.find? id.uuid created = none := (At.nil.mp (ha _)).trans ho
      exact ⟨[], AL.insert id.uuid id.cookie created, some ⟨k, .created, id⟩,
        by simp only [Entry.handle, List.isEmpty_nil, ↓reduceIte, hnone, Option.isSome_none, Bool.false_eq_true],
        RelAny.at.mpr ⟨hn, fun ou => At.nil.mpr (by
          show _ = AL.find? ou (AL.insert id.uuid id.cookie b.objs)
          rw [AL.find?_insert, AL.find?_insert, At.nil.mp (ha ou)])⟩,
        transition_of hnone (AL.find?_insert_self ..),
        fun ou hne => AL.find?_insert_ne _ _ (Ne.symm hne)⟩
    | cons p r =>
      exact ⟨_, created, none, rfl, RelAny.at.mpr ⟨hn, fun ou => (ha ou).obj (List.cons_ne_nil p r) hi ho rfl⟩,
        (transition_self ..).symm, fun _ _ => rfl⟩
  | objDestroyed id =>
    cases hf : AL.find? id.uuid created with
    | none =>
      -- the object lives, yet the entry did not report it: it lacks a required service
      have hlacks : has svcs b id.uuid ≠ true := fun hall => by
        have hrep := (ha id.uuid).rep
        rw [hf, if_pos hall, ho.1] at hrep
        cases hrep
      have hkeep (ou : Uuid) : At (AL.find? ou) svcs (AL.find? ou created) (b.apply (.objDestroyed id)) ou :=
        (ha ou).congr (fun _ _ => rfl) fun hall => AL.find?_erase_ne _ fun hu => hlacks (hu ▸ hall)
      exact ⟨svcs, created, none, by simp only [Entry.handle, hf], RelAny.at.mpr ⟨hn, hkeep⟩, (transition_self ..).symm,
        fun _ _ => rfl⟩
    | some c =>
      cases eq_of_some_eq_ite (hf.symm.trans (ha _).rep) ho.1
      refine ⟨svcs, AL.erase id.uuid created, some ⟨k, .destroyed, id⟩,
        by simp only [Entry.handle, hf, ne_eq, not_true_eq_false, ↓reduceIte],
        RelAny.at.mpr ⟨hn, fun ou => ⟨(ha ou).each, ?_⟩⟩,
        transition_of hf (AL.find?_erase_self ..),
        fun ou hne => AL.find?_erase_ne _ (Ne.symm hne)⟩
      show _ = if has svcs b ou then AL.find? ou (AL.erase id.uuid b.objs) else none
      rw [AL.find?_erase, AL.find?_erase]; split
      · split <;> rfl
      · exact (ha ou).rep
  | svcCreated sid =>
    have hb := Bus.apply_svcCreated b sid
    cases hf : AL.find? sid.uuid svcs with
    | none =>
      exact ⟨svcs, created, none, by simp only [Entry.handle, hf],
        RelAny.at.mpr ⟨hn, fun ou => (ha ou).ignore hb (.inr hf)⟩, (transition_self ..).symm, fun _ _ => rfl⟩
    | some objs =>
      obtain ⟨hnew, hbefore, hset⟩ := (ha _).svcCreated hn ho hf (v' := AL.insert sid.obj.uuid sid.cookie objs)
        (AL.find?_insert_self ..)
      have hn' := AL.nodupKeys_insert (k := sid.uuid) (v := AL.insert sid.obj.uuid sid.cookie objs) hn
      have hoth := fun ou (hne : ou ≠ sid.obj.uuid) => (ha ou).set_ne hb hf (v' := AL.insert sid.obj.uuid sid.cookie objs)
        (Ne.symm hne) (AL.find?_insert_ne _ _ (Ne.symm hne))
      split at hset
      next hall =>
        exact ⟨_, AL.insert sid.obj.uuid sid.obj.cookie created, some ⟨k, .created, sid.obj⟩,
          by simp only [Entry.handle, hf, hnew, hall, hbefore, Option.isSome_none, Bool.false_eq_true, ↓reduceIte],
          RelAny.of_at hn' (by rwa [AL.find?_insert_self]) hoth fun ou hne => AL.find?_insert_ne _ _ (Ne.symm hne),
          transition_of hbefore (AL.find?_insert_self ..),
          fun ou hne => AL.find?_insert_ne _ _ (Ne.symm hne)⟩
      next hall =>
        exact ⟨_, created, none,
          by simp only [Entry.handle, hf, hnew, hall, Option.isSome_none, Bool.false_eq_true, ↓reduceIte],
          RelAny.of_at hn' (by rwa [hbefore]) hoth fun _ _ => rfl, (transition_self ..).symm, fun _ _ => rfl⟩
  | svcDestroyed sid =>
    have hb := Bus.apply_svcDestroyed b sid
    cases hf : AL.find? sid.uuid svcs with
    | none =>
      exact ⟨svcs, created, none, by simp only [Entry.handle, hf],
        RelAny.at.mpr ⟨hn, fun ou => (ha ou).ignore hb (.inr hf)⟩, (transition_self ..).symm, fun _ _ => rfl⟩
    | some objs =>
      obtain ⟨hthere, hwas, hset⟩ := (ha _).svcDestroyed hi ho hf (v' := AL.erase sid.obj.uuid objs)
        (AL.find?_erase_self ..)
      have hn' := AL.nodupKeys_insert (k := sid.uuid) (v := AL.erase sid.obj.uuid objs) hn
      have hoth := fun ou (hne : ou ≠ sid.obj.uuid) => (ha ou).set_ne hb hf (v' := AL.erase sid.obj.uuid objs)
        (Ne.symm hne) (AL.find?_erase_ne _ (Ne.symm hne))
      cases hc : AL.find? sid.obj.uuid created with
      | none =>
        exact ⟨_, created, none, by simp only [Entry.handle, hf, hthere, hc, ne_eq, not_true_eq_false, ↓reduceIte],
          RelAny.of_at hn' (by rwa [hc]) hoth fun _ _ => rfl, (transition_self ..).symm, fun _ _ => rfl⟩
      | some c =>
        cases hwas c hc
        exact ⟨_, AL.erase sid.obj.uuid created, some ⟨k, .destroyed, sid.obj⟩,
          by simp only [Entry.handle, hf, hthere, hc, ne_eq, not_true_eq_false, ↓reduceIte],
          RelAny.of_at hn' (by rwa [AL.find?_erase_self]) hoth fun ou hne => AL.find?_erase_ne _ (Ne.symm hne),
          transition_of hc (AL.find?_erase_self ..),
          fun ou hne => AL.find?_erase_ne _ (Ne.symm hne)⟩

/-- the entry's state is the view of the bus it is meant to be -/
def Rel : Entry → Bus → Prop
  | .any _ svcs created, b => RelAny svcs created b
  | .withSvcs _ o cookie svcs, b => RelWith o cookie svcs b
  | .bare _ o cookie, b => RelBare o cookie b

/-- the cookie under which the entry currently reports object `ou`, if it does -/
def Entry.reports : Entry → Uuid → Option Cookie
  | .any _ _ created, ou => AL.find? ou created
  | .withSvcs _ o cookie _, ou => if ou = o then cookie else none
  | .bare _ o cookie, ou => if ou = o then cookie else none

/-- a history the broker can produce from bus state `b` -/
def okHist : Bus → List BusEv → Prop
  | _, [] => True
  | b, e :: es => b.okEv e ∧ okHist (b.apply e) es

def Bus.run (b : Bus) (es : List BusEv) : Bus := es.foldl Bus.apply b

def Entry.run : Entry → List BusEv → Except DAssert (Entry × List DEvent)
  | en, [] => .ok (en, [])
  | en, e :: es =>
    match en.handle e with
    | .error a => .error a
    | .ok (en', dev) =>
      match Entry.run en' es with
      | .error a => .error a
      | .ok (en'', devs) => .ok (en'', (match dev with | some d => [d] | none => []) ++ devs)

/-- the record that `Entry.mkAny` and `Entry.mkSpecific` build is the view of the empty bus -/
theorem At.init {V : Type} {get : V → Option Cookie} {v : V} (l : List Uuid) (h0 : get v = none) (ou : Uuid) :
    At get (l.map (fun s => (s, v))) none {} ou :=
  ⟨fun s w hs => by
    obtain ⟨x, _, hx⟩ := List.mem_map.mp (AL.find?_some_mem hs)
    rw [← (Prod.mk.inj hx).2]; exact h0,
   by split <;> rfl⟩

theorem nodupKeys_map_const {V : Type} (v : V) {l : List Uuid} (hn : l.Nodup) : AL.NodupKeys (l.map (fun s => (s, v))) := by
  have hkeys : (l.map (fun s => (s, v))).map Prod.fst = l := (List.map_map ..).trans (List.map_id' l)
  rw [AL.NodupKeys, hkeys]; exact hn

end Aldrin.Disc
