import Aldrin.Lemmas.SkipDec
namespace Aldrin
open Generated

/-! Conversion to the legacy epoch = decode (without UTF-8 validation), then write the value in the legacy encoding:
for inputs of at most `u32Max` bytes, and up to `norm` (errors are compared by their class). -/

/-! What `conv` and its loops return, read off a result of the decoder: the value(s) written in the legacy encoding,
together with their number where `conv` counts them (`*2`: the count is not on the wire), and the rest of the input. -/

def view1 : Except DeErr (Value × Bytes) → Except DeErr (Bytes × Bytes)
  | .ok (v, r) => .ok (encRaw .v1 v, r)
  | .error e => .error e
def viewL1 : Except DeErr (List Value × Bytes) → Except DeErr (Bytes × Bytes)
  | .ok (vs, r) => .ok (encElemsRaw .v1 vs, r)
  | .error e => .error e
def viewL2 : Except DeErr (List Value × Bytes) → Except DeErr (Nat × Bytes × Bytes)
  | .ok (vs, r) => .ok (vs.length, encElemsRaw .v1 vs, r)
  | .error e => .error e
def viewE1 (kt : KeyTy) : Except DeErr (List (Key × Value) × Bytes) → Except DeErr (Bytes × Bytes)
  | .ok (es, r) => .ok (encEntriesRaw .v1 kt es, r)
  | .error e => .error e
def viewE2 (kt : KeyTy) : Except DeErr (List (Key × Value) × Bytes) → Except DeErr (Nat × Bytes × Bytes)
  | .ok (es, r) => .ok (es.length, encEntriesRaw .v1 kt es, r)
  | .error e => .error e
def viewK1 (kt : KeyTy) : Except DeErr (List Key × Bytes) → Except DeErr (Bytes × Bytes)
  | .ok (ks, r) => .ok (encKeys .v1 kt ks, r)
  | .error e => .error e
def viewK2 (kt : KeyTy) : Except DeErr (List Key × Bytes) → Except DeErr (Nat × Bytes × Bytes)
  | .ok (ks, r) => .ok (ks.length, encKeys .v1 kt ks, r)
  | .error e => .error e

@[simp] theorem view1_ok (v r) : view1 (.ok (v, r)) = .ok (encRaw .v1 v, r) := rfl
@[simp] theorem view1_err (e) : view1 (.error e) = .error e := rfl
theorem view1_eq_err {x : Except DeErr (Value × Bytes)} {e : DeErr} : view1 x = .error e ↔ x = .error e := by
  rcases x with _ | ⟨v, r⟩ <;> simp
@[simp] theorem viewL1_ok (v r) : viewL1 (.ok (v, r)) = .ok (encElemsRaw .v1 v, r) := rfl
@[simp] theorem viewL1_err (e) : viewL1 (.error e) = .error e := rfl
@[simp] theorem viewL2_ok (v r) : viewL2 (.ok (v, r)) = .ok (v.length, encElemsRaw .v1 v, r) := rfl
@[simp] theorem viewL2_err (e) : viewL2 (.error e) = .error e := rfl
@[simp] theorem viewE1_ok (kt v r) : viewE1 kt (.ok (v, r)) = .ok (encEntriesRaw .v1 kt v, r) := rfl
@[simp] theorem viewE1_err (kt e) : viewE1 kt (.error e) = .error e := rfl
@[simp] theorem viewE2_ok (kt v r) : viewE2 kt (.ok (v, r)) = .ok (v.length, encEntriesRaw .v1 kt v, r) := rfl
@[simp] theorem viewE2_err (kt e) : viewE2 kt (.error e) = .error e := rfl
@[simp] theorem viewK1_ok (kt v r) : viewK1 kt (.ok (v, r)) = .ok (encKeys .v1 kt v, r) := rfl
@[simp] theorem viewK1_err (kt e) : viewK1 kt (.error e) = .error e := rfl
@[simp] theorem viewK2_ok (kt v r) : viewK2 kt (.ok (v, r)) = .ok (v.length, encKeys .v1 kt v, r) := rfl
@[simp] theorem viewK2_err (kt e) : viewK2 kt (.error e) = .error e := rfl

theorem convKeys1_eq (kt : KeyTy) (f n : Nat) (bs : Bytes) :
    convKeys1 kt f n bs = viewK1 kt (decKeys1 false kt f n bs) := by
  fun_induction decKeys1 false kt f n bs <;> simp_all [convKeys1, convKey, encKeys]

theorem convKeys2_eq (kt : KeyTy) (f : Nat) (bs : Bytes) :
    convKeys2 kt f bs = viewK2 kt (decKeys2 false kt f bs) := by
  fun_induction decKeys2 false kt f bs <;> simp_all [convKeys2, convKey, encKeys]

theorem convChunks_eq (f : Nat) (bs : Bytes) : convChunks f bs = decChunks f bs := by
  fun_induction decChunks f bs <;> simp_all [convChunks] <;> omega

theorem le_u32_not_gt {n : Nat} (h : n ≤ u32Max) {α : Type} (x y : α) : (if n > u32Max then x else y) = y := by
  rw [if_neg (by omega)]

/-- One rule per path of the decoder (`dec_induct`): along it the rules' hypotheses give the callees' results for `conv`,
and with these `conv` evaluates. -/
theorem conv_dec_fuel (f : Nat) :
    DecOk .lax f
      (fun f bs d v r => bs.length ≤ u32Max → conv f bs d = .ok (encRaw .v1 v, r))
      (fun kt f bs d es r => bs.length ≤ u32Max → convEntries2 kt f bs d = .ok (es.length, encEntriesRaw .v1 kt es, r))
      (fun f bs d vs r => bs.length ≤ u32Max → convElems2 f bs d = .ok (vs.length, encElemsRaw .v1 vs, r))
      (fun kt f n bs d es r => bs.length ≤ u32Max → convEntries1 kt f n bs d = .ok (encEntriesRaw .v1 kt es, r))
      (fun f n bs d vs r => bs.length ≤ u32Max → convElems1 f n bs d = .ok (encElemsRaw .v1 vs, r)) ∧
    DecErr .lax f
      (fun f bs d e => bs.length ≤ u32Max → norm (conv f bs d) = .error (cls e))
      (fun kt f bs d e => bs.length ≤ u32Max → norm (convEntries2 kt f bs d) = .error (cls e))
      (fun f bs d e => bs.length ≤ u32Max → norm (convElems2 f bs d) = .error (cls e))
      (fun kt f n bs d e => bs.length ≤ u32Max → norm (convEntries1 kt f n bs d) = .error (cls e))
      (fun f n bs d e => bs.length ≤ u32Max → norm (convElems1 f n bs d) = .error (cls e)) := by
  apply dec_induct .lax <;> constructor
  all_goals (intros; rename_i hl; try simp only [List.length_cons] at hl)
  case string_utf8 => exact absurd ‹(DecCfg.lax.utf8 && !validUtf8 _) = true› (by simp)
  -- The reads before a callee only shorten the input, so that what is known of the callee applies.
  case' vec1 | vec1_err | map1 | map1_err | enum | enum_err => have := getVarint_shrink ‹getVarint _ _ = .ok _›
  case' entries1_value | entries1_rest | entries1_cons | entries2_value | entries2_rest | entries2_cons =>
    have := decKey_shrink ‹decKey _ _ _ = .ok _›
  case' elems1_rest | elems1_cons | entries1_rest | entries1_cons | elems2_rest | elems2_cons | entries2_rest |
      entries2_cons => have := dec_shrink ‹dec _ _ _ _ = .ok _›
  -- Where a callee fails, `conv`'s fails with an error of the same class.
  case' some_err | vec1_err | map1_err | enum_err | vec2_err | map2_err | entries2_value | entries2_rest | elems2_value |
      elems2_rest | entries1_value | entries1_rest | elems1_value | elems1_rest =>
    obtain ⟨e', he, hc⟩ := norm_eq_err.mp (‹_ → norm _ = _› (by omega))
  -- the counts that `conv` writes or checks
  case' string => have := (takeN_ok ‹takeN _ _ = .ok _›).2.1
  case' vec1 => have := decElems1_length ‹decElems1 _ _ _ _ _ = .ok _›
  case' bytes1 => have := List.length_take_of_le (Nat.not_lt.mp (by simpa using ‹¬ short _ _ = true›))
  case' map1 => have := decEntries1_length ‹decEntries1 _ _ _ _ _ _ = .ok _›
  case' set1 => have := decKeys1_length ‹decKeys1 _ _ _ _ _ = .ok _›
  case' vec2 => have := decElems2_count ‹decElems2 _ _ _ _ = .ok _›
  case' bytes2 => have := decChunks_size ‹decChunks _ _ = .ok _›
  case' map2 => have := decEntries2_count ‹decEntries2 _ _ _ _ _ = .ok _›
  case' set2 => have := decKeys2_count ‹decKeys2 _ _ _ _ = .ok _›
  -- the readers of keys take the decoder's UTF-8 flag
  case' set1 | set1_err | set2 | set2_err | entries1_key | entries1_value | entries1_rest | entries1_cons | entries2_key |
      entries2_value | entries2_rest | entries2_cons => simp only [lax_utf8] at *
  -- A callee's result for `conv` rewrites where the input is short enough (`omega`).
  all_goals (simp (disch := omega) only [conv, convElems1, convElems2, convEntries1, convEntries2, convKey,
    convKeys1_eq, convKeys2_eq, convChunks_eq, viewK1_ok, viewK2_ok, viewK1_err, viewK2_err, encRaw, encElemsRaw,
    encEntriesRaw, some_ne_none_b, le_u32_not_gt, List.length_nil, List.length_cons, List.append_assoc,
    Bool.false_eq_true, ← classifyC_lax, reduceIte, norm_err, cls_eoi, cls_invalid, *])

/-- For inputs shorter than 4 GiB: beyond that, `convert` may report `Overflow` for an element count ≥ 2³². -/
theorem conv_dec_all :
    (∀ (f : Nat) (bs : Bytes) (d : Nat), bs.length ≤ u32Max → norm (conv f bs d) = norm (view1 (dec .lax f bs d))) ∧
    (∀ kt (f : Nat) (bs : Bytes) (d : Nat), bs.length ≤ u32Max → norm (convEntries2 kt f bs d) = norm (viewE2 kt (decEntries2 .lax kt f bs d))) ∧
    (∀ (f : Nat) (bs : Bytes) (d : Nat), bs.length ≤ u32Max → norm (convElems2 f bs d) = norm (viewL2 (decElems2 .lax f bs d))) ∧
    (∀ kt (f n : Nat) (bs : Bytes) (d : Nat), bs.length ≤ u32Max → norm (convEntries1 kt f n bs d) = norm (viewE1 kt (decEntries1 .lax kt f n bs d))) ∧
    (∀ (f n : Nat) (bs : Bytes) (d : Nat), bs.length ≤ u32Max → norm (convElems1 f n bs d) = norm (viewL1 (decElems1 .lax f n bs d))) := by
  refine ⟨fun f _ _ hl => ?_, fun kt f _ _ hl => ?_, fun f _ _ hl => ?_, fun kt f _ _ _ hl => ?_, fun f _ _ _ hl => ?_⟩
  all_goals obtain ⟨ok, err⟩ := conv_dec_fuel f
  · exact norm_view _ view1_err (fun _ h => ok.value h hl) fun _ h => err.value h hl
  · exact norm_view _ (viewE2_err kt) (fun _ h => ok.entries2 h hl) fun _ h => err.entries2 h hl
  · exact norm_view _ viewL2_err (fun _ h => ok.elems2 h hl) fun _ h => err.elems2 h hl
  · exact norm_view _ (viewE1_err kt) (fun _ h => ok.entries1 h hl) fun _ h => err.entries1 h hl
  · exact norm_view _ viewL1_err (fun _ h => ok.elems1 h hl) fun _ h => err.elems1 h hl

end Aldrin
