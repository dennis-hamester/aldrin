/-
The system at rest (`Sys`, `step`) is the system with messages in flight (`ASys`, `astep`) under the schedule that
delivers everything after each operation (`expand`): same observation, same resulting state, nothing left in flight.
The correspondence runs tie `step` to the real clients; by `run_refines` they tie `astep` under those schedules as well.
-/
import Aldrin.Lemmas.ClientChanAsync

namespace Aldrin.ClientChan
open Aldrin.Broker Generated

/-- the invariant at rest comes back from the one that holds with messages in flight (`arun_inv`) -/
theorem step_sim {s : Sys} (h : Inv s) (op : Op) :
    ∃ s' o os, step s op = .ok (s', o) ∧ Inv s' ∧ o ≠ .cutOff ∧
      arun (ASys.ofSys s) (expand op) = .ok (ASys.ofSys s', .app o :: os) ∧
      ∀ x, x ∈ os → x = .moved ∨ x = .idle := by
  suffices ∃ s' o os, step s op = .ok (s', o) ∧ o ≠ .cutOff ∧
      arun (ASys.ofSys s) (expand op) = .ok (ASys.ofSys s', .app o :: os) ∧ ∀ x, x ∈ os → x = .moved ∨ x = .idle by
    obtain ⟨s', o, os, h1, ho, h2, h3⟩ := this
    obtain ⟨a, _, h4, ha, _⟩ := arun_inv (AInv.ofSys h) (expand op)
    cases h2.symm.trans h4
    exact ⟨s', o, os, h1, Inv.ofASys ha, ho, h2, h3⟩
  obtain ⟨⟨sc, rc, hc, hs, hr, hcr⟩, hpos, hcur, hmax⟩ := h
  obtain ⟨⟨cap, q⟩, chan, ⟨max, cur, items⟩⟩ := s
  dsimp only at hc hs hr hpos hcur hmax
  subst hc
  cases op with
  | ready => exact ⟨_, _, [], rfl, by dsimp only; split <;> simp, rfl, by simp⟩
  | pollClosed => exact ⟨_, _, [], rfl, by simp, rfl, by simp⟩
  | send =>
    by_cases h0 : sc = 0
    · simp only [step, drain_capacity, hs, h0, ↓reduceIte]
      exact ⟨_, _, [.idle, .idle, .idle], rfl, by simp, by simp [expand, arun, astep, ASys.ofSys, hs, h0], by simp⟩
    · obtain ⟨sc', add, hsend, -, -⟩ := sendItem_credit (s := sid) (r := rid) hcr h0
      simp only [step, drain_capacity, hs, h0, ↓reduceIte, hsend]
      cases add with
      | none =>
        exact ⟨_, _, [.moved, .moved, .idle], rfl, by simp, by simp [expand, arun, astep, ASys.ofSys, hs, h0, hsend], by simp⟩
      | some a =>
        exact ⟨_, _, [.moved, .moved, .moved], rfl, by simp, by simp [expand, arun, astep, ASys.ofSys, hs, h0, hsend], by simp⟩
  | take =>
    cases items with
    | zero =>
      have hcur0 : cur ≠ 0 := by omega
      have hngt : ¬ cur > max := by omega
      simp only [step, hcur0, hngt, ↓reduceIte]
      exact ⟨_, _, [.idle, .idle], rfl, by simp, by simp [expand, arun, astep, ASys.ofSys, hcur0, hngt], by simp⟩
    | succ items =>
      cases cur with
      | zero => cases hpos
      | succ cur =>
        have hngt : ¬ cur + 1 > max := by omega
        simp only [step, Nat.add_one_ne_zero, hngt, ↓reduceIte, Nat.add_sub_cancel]
        by_cases hl : cur ≤ clientLowCapacity
        · generalize hg : max - cur = g
          have hg' : cur + g = max := by omega
          have hdiff : ¬ g < 1 := by omega
          have hafter : ¬ (cur + g = 0 ∨ cur + g > max) := by omega
          obtain ⟨sc', fwd, hadd, -, -⟩ := addCapacity_credit (s := sid) (r := rid) (g := g) hcr (by omega)
          simp only [hl, ↓reduceIte, hdiff, hadd, hafter]
          cases fwd with
          | none =>
            refine ⟨_, _, [.moved, .idle], rfl, by simp, ?_, by simp⟩
            simp only [expand, arun, astep, ASys.ofSys, Nat.add_one_ne_zero, hngt, ↓reduceIte, Nat.add_sub_cancel, hl,
              hg, hdiff, hafter, List.nil_append, hadd, Option.map_none, Option.toList_none, List.append_nil]
          | some a =>
            refine ⟨_, _, [.moved, .moved], rfl, by simp, ?_, by simp⟩
            simp only [expand, arun, astep, ASys.ofSys, Nat.add_one_ne_zero, hngt, ↓reduceIte, Nat.add_sub_cancel, hl,
              hg, hdiff, hafter, List.nil_append, hadd, Option.map_some, Option.toList_some]
        · have hafter : ¬ (cur = 0 ∨ cur > max) := by omega
          simp only [hl, ↓reduceIte, hafter]
          exact ⟨_, _, [.idle, .idle], rfl, by simp, by simp [expand, arun, astep, ASys.ofSys, hngt, hl, hafter], by simp⟩

theorem step_refines {s : Sys} (h : Inv s) (op : Op) :
    ∃ s' o os, step s op = .ok (s', o) ∧ arun (ASys.ofSys s) (expand op) = .ok (ASys.ofSys s', .app o :: os) ∧
      ∀ x, x ∈ os → x = .moved ∨ x = .idle :=
  let ⟨s', o, os, h1, _, _, h2, h3⟩ := step_sim h op
  ⟨s', o, os, h1, h2, h3⟩

theorem step_inv {s : Sys} (h : Inv s) (op : Op) : ∃ s' o, step s op = .ok (s', o) ∧ Inv s' ∧ o ≠ .cutOff :=
  let ⟨s', o, _, h1, hi, ho, _⟩ := step_sim h op
  ⟨s', o, h1, hi, ho⟩

theorem run_inv {s : Sys} (h : Inv s) (ops : List Op) : ∃ s' os, run s ops = .ok (s', os) ∧ Inv s' ∧ .cutOff ∉ os := by
  induction ops generalizing s with
  | nil => exact ⟨s, [], rfl, h, by simp⟩
  | cons op ops ih =>
    obtain ⟨s1, o, h1, hi1, ho⟩ := step_inv h op
    obtain ⟨s2, os, h2, hi2, hos⟩ := ih hi1
    refine ⟨s2, o :: os, by simp [run, h1, h2], hi2, ?_⟩
    simp only [List.mem_cons, not_or]
    exact ⟨fun e => ho e.symm, hos⟩

theorem arun_append {a b c : ASys} {l1 l2 : List AOp} {x y : List AObs} (h1 : arun a l1 = .ok (b, x))
    (h2 : arun b l2 = .ok (c, y)) : arun a (l1 ++ l2) = .ok (c, x ++ y) := by
  induction l1 generalizing a x with
  | nil => cases h1; exact h2
  | cons q l1 ih =>
    simp only [arun] at h1
    split at h1
    · cases h1
    · rename_i a1 o1 ha1
      split at h1 <;> cases h1
      simp [arun, ha1, ih ‹_›]

theorem run_refines : ∀ (ops : List Op) (s : Sys), Inv s →
    ∃ s' os aos, run s ops = .ok (s', os) ∧ arun (ASys.ofSys s) (ops.flatMap expand) = .ok (ASys.ofSys s', aos) ∧
      AObs.cutOff ∉ aos ∧ aos.filterMap (fun o => match o with | .app x => some x | _ => none) = os := by
  intro ops
  induction ops with
  | nil => intro s _; exact ⟨s, [], [], rfl, rfl, by simp, rfl⟩
  | cons op ops ih =>
    intro s h
    obtain ⟨s1, o, os1, h1, i1, _, h2, h3⟩ := step_sim h op
    obtain ⟨s2, os2, aos2, g1, g2, g3, g4⟩ := ih s1 i1
    have hos1 : AObs.cutOff ∉ os1 ∧ os1.filterMap (fun o => match o with | .app x => some x | _ => none) = [] := by
      clear h2
      induction os1 with
      | nil => exact ⟨by simp, rfl⟩
      | cons a l ihl =>
        obtain ⟨ha, hl⟩ := List.forall_mem_cons.1 h3
        rcases ha with rfl | rfl <;> simpa [List.filterMap_cons] using ihl hl
    refine ⟨s2, o :: os2, (.app o :: os1) ++ aos2, by simp [run, h1, g1], arun_append h2 g2, ?_, ?_⟩
    · simpa [g3] using hos1.1
    · simp [List.filterMap_append, hos1.2, g4]

end Aldrin.ClientChan
