/-
The channel part of the client's book-keeping as a machine of its own: the two maps of channel ends, the three
channel requests that are on their way, which channel messages of the broker are accepted, and that this is all that
decides their acceptance.
-/
import Aldrin.Lemmas.Client.ListenerView
import Aldrin.Lemmas.Broker.ChanOut

namespace Aldrin.Client
open Aldrin.Broker

structure CV where
  senders : List (Cookie × EndSt) := []
  receivers : List (Cookie × EndSt) := []
  create : List (Nat × ChanEnd) := []
  close : List (Nat × CloseReq) := []
  claim : List (Nat × (ChanEnd × Cookie)) := []
  deriving DecidableEq, Repr

def cview (s : CSt) : CV := ⟨s.senders, s.receivers, s.createChannel, s.closeChannelEnd, s.claimChannelEnd⟩

def CV.ends (v : CV) : ChanEnd → List (Cookie × EndSt)
  | .sender => v.senders
  | .receiver => v.receivers

def CV.setEnds (v : CV) (e : ChanEnd) (m : List (Cookie × EndSt)) : CV :=
  match e with
  | .sender => { v with senders := m }
  | .receiver => { v with receivers := m }

/-- the `claimed` flag of a close request, fixed when the request is made -/
def closeFlag (s : CSt) (ck : Cookie) (e : ChanEnd) : Bool :=
  AL.contains ck (ends s e) || s.claimChannelEnd.any (fun p => p.2 = (e, ck))

/-- a request is sent; `fl` is the `claimed` flag a close request is given -/
def cSend (v : CV) (fl : Bool) : Req → CV
  | .createChannel n e _ => { v with create := AL.insert n e v.create }
  | .closeChannelEnd n ck e => { v with close := AL.insert n ⟨ck, e, fl⟩ v.close }
  | .claimChannelEnd n ck e _ => { v with claim := AL.insert n (e, ck) v.claim }
  | _ => v

/-- the flag the client computes for the request (irrelevant for all but close requests) -/
def flagOf (s : CSt) : Req → Bool
  | .closeChannelEnd _ ck e => closeFlag s ck e
  | _ => false

/-- `none`: refused (`UnexpectedMessageReceived`). The consistency `assert!`s (a new cookie is not yet in the map, a closed
one is) are not refusals and are not looked at here. -/
def cRecv (v : CV) : Rsp → Option CV
  | .createChannelReply n ck =>
    match takeAL n v.create with
    | none => none
    | some (e, m) => some (({ v with create := m }).setEnds e (AL.insert ck .pending (v.ends e)))
  | .closeChannelEndReply n _ =>
    match takeAL n v.close with
    | none => none
    | some (req, m) =>
      if req.claimed then some (({ v with close := m }).setEnds req.e (AL.erase req.cookie (v.ends req.e)))
      else some { v with close := m }
  | .claimChannelEndReply n r =>
    match takeAL n v.claim with
    | none => none
    | some ((e, ck), m) =>
      match e, r with
      | .sender, .senderClaimed _ | .receiver, .receiverClaimed =>
        some (({ v with claim := m }).setEnds e (AL.insert ck .established (v.ends e)))
      | .sender, .receiverClaimed | .receiver, .senderClaimed _ => none
      | _, .invalidChannel | _, .alreadyClaimed => some { v with claim := m }
  | .channelEndClosed ck e =>
    match AL.find? ck (v.ends (peerEnd e)) with
    | some .pending | some .established => some (v.setEnds (peerEnd e) (AL.insert ck .peerClosed (v.ends (peerEnd e))))
    | _ => none
  | .channelEndClaimed ck e _ =>
    match AL.find? ck (v.ends (peerEnd e)) with
    | some .pending => some (v.setEnds (peerEnd e) (AL.insert ck .established (v.ends (peerEnd e))))
    | _ => none
  | .itemReceived ck _ => if AL.find? ck v.receivers = some .established then some v else none
  | .addChannelCapacity ck _ => if AL.find? ck v.senders = some .established then some v else none
  | _ => some v

def cDrain : CV → List Rsp → Option CV := drain cRecv

theorem cDrain_append (v : CV) (a b : List Rsp) : cDrain v (a ++ b) = (cDrain v a).bind (fun v' => cDrain v' b) :=
  drain_append ..

theorem cRecv_not_isC {v : CV} {m : Rsp} (h : isC m = false) : cRecv v m = some v := by
  cases m <;> simp only [isC, reduceCtorEq] at h <;> rfl

theorem cview_ends (s : CSt) (e : ChanEnd) : (cview s).ends e = ends s e := by cases e <;> rfl

theorem cview_setEnds (s : CSt) (e : ChanEnd) (m) : cview (setEnds s e m) = (cview s).setEnds e m := by
  cases e <;> rfl

theorem cview_onSend (s : CSt) (r : Req) : cview (onSend s r) = cSend (cview s) (flagOf s r) r := by
  cases r with
  | subscribeEvent o _ _ => cases o <;> rfl
  | subscribeAllEvents o _ => cases o <;> rfl
  | unsubscribeAllEvents o _ => cases o <;> rfl
  | _ => rfl

theorem cRecv_accepts {s : CSt} {m : Rsp} {t : CV} (hc : isC m = true) (h : cRecv (cview s) m = some t) :
    onRecv s m ≠ .unexpected := by
  cases m
  case createChannelReply | closeChannelEndReply | claimChannelEndReply | channelEndClosed | channelEndClaimed | itemReceived
      | addChannelCapacity =>
    -- `onRecv` looks up what `cRecv` looks up; what is left once the lookups are known are the `assert!`s
    simp only [cRecv, cview_ends] at h
    simp only [onRecv, channelEndClosed, channelEndClaimed]
    repeat' split at h
    all_goals cases h
    all_goals try simp only [cview] at *
    all_goals simp only [*, ↓reduceIte]
    all_goals repeat' split
    all_goals exact nofun
  all_goals cases hc

theorem CV.setEnds_create (v : CV) (e : ChanEnd) (m) : (v.setEnds e m).create = v.create := by cases e <;> rfl
theorem CV.setEnds_close (v : CV) (e : ChanEnd) (m) : (v.setEnds e m).close = v.close := by cases e <;> rfl
theorem CV.setEnds_claim (v : CV) (e : ChanEnd) (m) : (v.setEnds e m).claim = v.claim := by cases e <;> rfl

theorem cSend_ends (v : CV) (fl : Bool) (r : Req) (e : ChanEnd) : (cSend v fl r).ends e = v.ends e := by
  cases r <;> cases e <;> rfl

theorem cSend_setEnds (v : CV) (fl : Bool) (r : Req) (e : ChanEnd) (m) : cSend (v.setEnds e m) fl r = (cSend v fl r).setEnds e m := by
  cases r <;> cases e <;> rfl

theorem cSend_cases (fl : Bool) (r : Req) :
    (∀ v, cSend v fl r = v) ∨ (∃ n e c, r = .createChannel n e c) ∨ (∃ n ck e, r = .closeChannelEnd n ck e) ∨
      (∃ n ck e c, r = .claimChannelEnd n ck e c) := by
  cases r
  case createChannel n e c => exact .inr (.inl ⟨n, e, c, rfl⟩)
  case closeChannelEnd n ck e => exact .inr (.inr (.inl ⟨n, ck, e, rfl⟩))
  case claimChannelEnd n ck e c => exact .inr (.inr (.inr ⟨n, ck, e, c, rfl⟩))
  all_goals exact .inl fun _ => rfl

theorem cRecv_cSend_comm (v : CV) (fl : Bool) (r : Req) (m : Rsp) (h : ∀ k n, reqKeyS r = some (k, n) → strictKey m ≠ some (k, n)) :
    cRecv (cSend v fl r) m = (cRecv v m).map (cSend · fl r) := by
  cases m
  case createChannelReply n' _ | closeChannelEndReply n' _ | claimChannelEndReply n' _ =>
    rcases cSend_cases fl r with hid | ⟨n, e, c, rfl⟩ | ⟨n, ck, e, rfl⟩ | ⟨n, ck, e, c, rfl⟩
    · simp only [hid, Option.map_id']
    all_goals first
      | -- the reply to a request of the same kind: it carries another serial, so looking it up and entering `n` commute
        (have hne : n ≠ n' := fun e => h _ _ rfl (e ▸ rfl)
         simp only [cRecv, cSend, takeAL_insert_ne _ _ hne]
         symm
         split <;> simp only [*, Option.map_none, Option.map_some] <;> (repeat' split) <;>
           first | rfl | (cases ‹ChanEnd› <;> rfl) | (generalize CloseReq.e _ = e'; cases e' <;> rfl))
      | -- a reply of another kind reads and writes other maps than the one `n` is entered in
        (simp only [cRecv, cSend]; (repeat' split) <;>
           first | rfl | (cases ‹ChanEnd› <;> rfl) | (generalize CloseReq.e _ = e'; cases e' <;> rfl))
  case channelEndClosed | channelEndClaimed =>
    simp only [cRecv, cSend_ends]
    split <;> simp [cSend_setEnds]
  case itemReceived =>
    have : (cSend v fl r).receivers = v.receivers := by cases r <;> rfl
    simp only [cRecv, this]; split <;> rfl
  case addChannelCapacity =>
    have : (cSend v fl r).senders = v.senders := by cases r <;> rfl
    simp only [cRecv, this]; split <;> rfl
  all_goals rfl

theorem cDrain_cSend_comm (fl : Bool) (r : Req) (ms : List Rsp) (v : CV)
    (h : ∀ m ∈ ms, ∀ k n, reqKeyS r = some (k, n) → strictKey m ≠ some (k, n)) :
    cDrain (cSend v fl r) ms = (cDrain v ms).map (cSend · fl r) :=
  drain_comm ms v fun m hm a => cRecv_cSend_comm a fl r m (h m hm)

end Aldrin.Client
