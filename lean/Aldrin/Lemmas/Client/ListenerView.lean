/-
The bus-listener part of the client's book-keeping as a machine of its own: what the client remembers about its
listeners and the four listener requests, which of the broker's listener messages it accepts, and that this is
all that decides their acceptance (`lview` commutes with `onSend` here, with `onRecv` in `Recv.lean`).

Also here, for this part and the channel part alike: a queue of messages through a machine with partial steps (`drain`, on
which `Drained` of `Agreement.lean` rests), and what entering one serial into a map does to looking up another
(`takeAL_insert_ne`, `take_sinsert_ne`) or the same one (`AL_insert_eq_self_iff`, `sinsert_eq_self_iff`).
-/
import Aldrin.Lemmas.Client.Serial
import Aldrin.Lemmas.Broker.Replies

namespace Aldrin.Client
open Aldrin.Broker

structure LSt where
  listeners : List (Cookie × Lsn) := []
  create : List Nat := []
  destroy : List (Nat × Cookie) := []
  start : List (Nat × (Cookie × Scope)) := []
  stop : List (Nat × Cookie) := []
  deriving DecidableEq, Repr

def lview (s : CSt) : LSt :=
  ⟨s.listeners, s.createBusListener, s.destroyBusListener, s.startBusListener, s.stopBusListener⟩

def lSend (l : LSt) : Req → LSt
  | .createBusListener n => { l with create := sinsert n l.create }
  | .destroyBusListener n ck => { l with destroy := AL.insert n ck l.destroy }
  | .startBusListener n ck sc => { l with start := AL.insert n (ck, sc) l.start }
  | .stopBusListener n ck => { l with stop := AL.insert n ck l.stop }
  | _ => l

/-- the messages whose acceptance depends on the listener book-keeping -/
def isL : Rsp → Bool
  | .createBusListenerReply .. | .destroyBusListenerReply .. | .startBusListenerReply .. | .stopBusListenerReply ..
  | .emitBusEvent (some _) _ | .busListenerCurrentFinished _ => true
  | _ => false

/-- `none`: refused (`UnexpectedMessageReceived`). The two consistency `assert!`s of the real code (a new cookie is
not yet in the map, a destroyed one is) are not refusals and are not looked at here. -/
def lRecv (l : LSt) : Rsp → Option LSt
  | .createBusListenerReply n ck =>
    match take n l.create with
    | none => none
    | some m => some { l with create := m, listeners := AL.insert ck {} l.listeners }
  | .destroyBusListenerReply n r =>
    match takeAL n l.destroy with
    | none => none
    | some (ck, m) =>
      if r = .ok then some { l with destroy := m, listeners := AL.erase ck l.listeners } else some { l with destroy := m }
  | .startBusListenerReply n r =>
    match takeAL n l.start with
    | none => none
    | some ((ck, sc), m) =>
      if r = .ok then
        match AL.find? ck l.listeners with
        | none => none
        | some x =>
          if x.scope.isNone then
            some { l with start := m, listeners := AL.insert ck { scope := some sc, currentFinished := !sc.includesCurrent } l.listeners }
          else none
      else some { l with start := m }
  | .stopBusListenerReply n r =>
    match takeAL n l.stop with
    | none => none
    | some (ck, m) =>
      if r = .ok then
        match AL.find? ck l.listeners with
        | none => none
        | some x =>
          if x.scope.isSome then some { l with stop := m, listeners := AL.insert ck { x with scope := none } l.listeners }
          else none
      else some { l with stop := m }
  | .emitBusEvent (some ck) _ =>
    match AL.find? ck l.listeners with
    | none => none
    | some x => if (x.scope.map Scope.includesCurrent).getD false && !x.currentFinished then some l else none
  | .busListenerCurrentFinished ck =>
    match AL.find? ck l.listeners with
    | none => none
    | some x =>
      if !x.currentFinished then some { l with listeners := AL.insert ck { x with currentFinished := true } l.listeners }
      else none
  | _ => some l

/-- all messages of a queue, oldest first -/
def lDrain : LSt → List Rsp → Option LSt
  | l, [] => some l
  | l, m :: ms => match lRecv l m with
    | some l' => lDrain l' ms
    | none => none

/-- all messages of a queue through a machine with partial steps, oldest first (`lDrain` is `drain lRecv`) -/
def drain {σ : Type} (recv : σ → Rsp → Option σ) : σ → List Rsp → Option σ
  | a, [] => some a
  | a, m :: ms => match recv a m with
    | some a' => drain recv a' ms
    | none => none

theorem drain_append {σ : Type} (recv : σ → Rsp → Option σ) (a : σ) (x y : List Rsp) :
    drain recv a (x ++ y) = (drain recv a x).bind (fun a' => drain recv a' y) := by
  induction x generalizing a with
  | nil => rfl
  | cons m x ih =>
    simp only [List.cons_append, drain]
    cases recv a m with
    | none => rfl
    | some a' => exact ih a'

theorem drain_comm {σ : Type} {recv : σ → Rsp → Option σ} {f : σ → σ} : ∀ (ms : List Rsp) (a : σ),
    (∀ m ∈ ms, ∀ a, recv (f a) m = (recv a m).map f) → drain recv (f a) ms = (drain recv a ms).map f
  | [], _, _ => rfl
  | m :: ms, a, h => by
    simp only [drain, h m List.mem_cons_self]
    cases recv a m with
    | none => rfl
    | some a' => exact drain_comm ms a' (fun m' hm' => h m' (List.mem_cons_of_mem _ hm'))

theorem drain_filter {σ : Type} {recv : σ → Rsp → Option σ} {p : Rsp → Bool}
    (h : ∀ a m, p m = false → recv a m = some a) : ∀ (ms : List Rsp) (a : σ), drain recv a (ms.filter p) = drain recv a ms
  | [], _ => rfl
  | m :: ms, a => by
    cases hp : p m
    · rw [List.filter_cons_of_neg (by simp [hp]), drain, h a m hp]; exact drain_filter h ms a
    · rw [List.filter_cons_of_pos hp, drain, drain]
      cases recv a m with
      | none => rfl
      | some a' => exact drain_filter h ms a'

theorem drain_fixed {σ : Type} {recv : σ → Rsp → Option σ} {a : σ} :
    ∀ {ms : List Rsp}, (∀ m ∈ ms, recv a m = some a) → drain recv a ms = some a
  | [], _ => rfl
  | m :: ms, h => by rw [drain, h m List.mem_cons_self]; exact drain_fixed fun m' hm' => h m' (List.mem_cons_of_mem _ hm')

theorem lDrain_eq_drain : lDrain = drain lRecv := by
  funext l ms
  induction ms generalizing l with
  | nil => rfl
  | cons m ms ih => simp only [lDrain, drain, ih]; cases lRecv l m <;> rfl

theorem lDrain_append (l : LSt) (a b : List Rsp) : lDrain l (a ++ b) = (lDrain l a).bind (fun l' => lDrain l' b) := by
  rw [lDrain_eq_drain]; exact drain_append ..

theorem lRecv_not_isL {l : LSt} {m : Rsp} (h : isL m = false) : lRecv l m = some l := by
  cases m <;> simp only [isL, reduceCtorEq] at h <;> (try rfl)
  case emitBusEvent o _ => cases o <;> simp_all [isL, lRecv]

theorem lview_onSend (s : CSt) (r : Req) : lview (onSend s r) = lSend (lview s) r := by
  cases r with
  | subscribeEvent o _ _ => cases o <;> rfl
  | subscribeAllEvents o _ => cases o <;> rfl
  | unsubscribeAllEvents o _ => cases o <;> rfl
  | _ => rfl

theorem lview_setEnds (s : CSt) (e : ChanEnd) (m) : lview (setEnds s e m) = lview s := by
  cases e <;> rfl

theorem lRecv_accepts {s : CSt} {m : Rsp} {t : LSt} (hl : isL m = true) (h : lRecv (lview s) m = some t) :
    onRecv s m ≠ .unexpected := by
  cases m
  case emitBusEvent o _ =>
    cases o
    · exact nofun
    · simp only [lRecv, lview] at h
      simp only [onRecv]
      repeat' split at h
      all_goals cases h
      all_goals simp only [*, ↓reduceIte]; exact nofun
  case createBusListenerReply | destroyBusListenerReply | startBusListenerReply | stopBusListenerReply
      | busListenerCurrentFinished =>
    -- `onRecv` looks up what `lRecv` looks up; what is left once the lookups are known are the `assert!`s
    simp only [lRecv, lview] at h
    simp only [onRecv]
    repeat' split at h
    all_goals cases h
    all_goals simp only [*, ↓reduceIte]
    all_goals repeat' split
    all_goals exact nofun
  all_goals cases hl

theorem AL_insert_erase_comm {V : Type} {n n' : Nat} (v : V) (m : List (Nat × V)) (h : n ≠ n') :
    AL.insert n v (AL.erase n' m) = AL.erase n' (AL.insert n v m) := by
  induction m with
  | nil => simp [AL.insert, AL.erase, h]
  | cons p m ih =>
    obtain ⟨k, x⟩ := p
    by_cases hk : k = n'
    · subst hk
      have hkn : ¬ k = n := fun e => h e.symm
      simp only [AL.erase, AL.insert, hkn, ↓reduceIte, List.filter_cons, ne_eq, not_true_eq_false, decide_false,
        Bool.false_eq_true] at ih ⊢
      exact ih
    · by_cases hkn : k = n
      · subst hkn
        simp [AL.erase, AL.insert, List.filter_cons, hk]
      · simp only [AL.erase, AL.insert, hkn, ↓reduceIte, List.filter_cons, ne_eq, hk, not_false_eq_true, decide_true] at ih ⊢
        rw [ih]

theorem takeAL_insert_ne {V : Type} {n n' : Nat} (v : V) (m : List (Nat × V)) (h : n ≠ n') :
    takeAL n' (AL.insert n v m) = (takeAL n' m).map (fun p => (p.1, AL.insert n v p.2)) := by
  unfold takeAL
  rw [AL.find?_insert_ne v m h]
  cases AL.find? n' m <;> simp [AL_insert_erase_comm v m h]

theorem take_sinsert_ne {n n' : Nat} (m : List Nat) (h : n ≠ n') :
    take n' (sinsert n m) = (take n' m).map (sinsert n) := by
  unfold take sinsert sremove
  have hn : ¬ n' = n := fun e => h e.symm
  by_cases hc : m.contains n <;> by_cases hc' : m.contains n'
  all_goals simp_all [List.filter_append, List.filter_cons]

theorem AL_insert_eq_self_iff {V : Type} {k : Nat} {v : V} {m : List (Nat × V)} : AL.insert k v m = m ↔ AL.find? k m = some v := by
  constructor
  · intro h; rw [← h]; exact AL.find?_insert_self k v m
  · intro h
    induction m with
    | nil => cases h
    | cons p m ih =>
      obtain ⟨k', v'⟩ := p
      by_cases hk : k' = k
      · simp_all [AL.insert]
      · simp only [AL.find?_cons, hk, ↓reduceIte] at h
        simp [AL.insert, hk, ih h]

theorem sinsert_eq_self_iff {a : Nat} {l : List Nat} : sinsert a l = l ↔ a ∈ l := by
  unfold sinsert
  by_cases h : l.contains a
  · simp only [h, ↓reduceIte, true_iff]; simpa using h
  · simp only [h]
    have : ¬ a ∈ l := by simpa using h
    simp [this]

theorem lSend_cases (r : Req) :
    (∀ l, lSend l r = l) ∨ (∃ n, r = .createBusListener n) ∨ (∃ n ck, r = .destroyBusListener n ck) ∨
      (∃ n ck sc, r = .startBusListener n ck sc) ∨ (∃ n ck, r = .stopBusListener n ck) := by
  cases r
  case createBusListener n => exact .inr (.inl ⟨n, rfl⟩)
  case destroyBusListener n ck => exact .inr (.inr (.inl ⟨n, ck, rfl⟩))
  case startBusListener n ck sc => exact .inr (.inr (.inr (.inl ⟨n, ck, sc, rfl⟩)))
  case stopBusListener n ck => exact .inr (.inr (.inr (.inr ⟨n, ck, rfl⟩)))
  all_goals exact .inl fun _ => rfl

theorem lRecv_lSend_comm (l : LSt) (r : Req) (m : Rsp) (h : ∀ k n, reqKeyS r = some (k, n) → strictKey m ≠ some (k, n)) :
    lRecv (lSend l r) m = (lRecv l m).map (lSend · r) := by
  cases m
  case createBusListenerReply n' _ | destroyBusListenerReply n' _ | startBusListenerReply n' _ | stopBusListenerReply n' _ =>
    rcases lSend_cases r with hid | ⟨n, rfl⟩ | ⟨n, ck, rfl⟩ | ⟨n, ck, sc, rfl⟩ | ⟨n, ck, rfl⟩
    · simp only [hid, Option.map_id']
    all_goals first
      | -- the reply to a request of the same kind: it carries another serial, so looking it up and entering `n` commute
        (have hne : n ≠ n' := fun e => h _ _ rfl (e ▸ rfl)
         simp only [lRecv, lSend, take_sinsert_ne _ hne, takeAL_insert_ne _ _ hne]
         symm
         split <;> simp only [*, Option.map_none, Option.map_some] <;> (repeat' split) <;> rfl)
      | -- a reply of another kind reads and writes other maps than the one `n` is entered in
        (simp only [lRecv, lSend]; repeat' split
         all_goals rfl)
  case emitBusEvent o _ =>
    cases o
    · rfl
    · rcases lSend_cases r with hid | ⟨n, rfl⟩ | ⟨n, ck, rfl⟩ | ⟨n, ck, sc, rfl⟩ | ⟨n, ck, rfl⟩
      · simp only [hid, Option.map_id']
      all_goals (simp only [lRecv, lSend]; split <;> (try split) <;> rfl)
  case busListenerCurrentFinished =>
    rcases lSend_cases r with hid | ⟨n, rfl⟩ | ⟨n, ck, rfl⟩ | ⟨n, ck, sc, rfl⟩ | ⟨n, ck, rfl⟩
    · simp only [hid, Option.map_id']
    all_goals (simp only [lRecv, lSend]; split <;> (try split) <;> rfl)
  all_goals rfl

theorem lDrain_lSend_comm (r : Req) (ms : List Rsp) (l : LSt)
    (h : ∀ m ∈ ms, ∀ k n, reqKeyS r = some (k, n) → strictKey m ≠ some (k, n)) :
    lDrain (lSend l r) ms = (lDrain l ms).map (lSend · r) := by
  rw [lDrain_eq_drain]; exact drain_comm ms l fun m hm a => lRecv_lSend_comm a r m (h m hm)

end Aldrin.Client
