/-
Bus-listener agreement in the composed system: what the broker puts into a client's queue about its listeners
(replies to the four listener requests, tagged created-events, the end-of-current marker) is accepted by the
client when it gets there, in every interleaving.
-/
import Aldrin.Lemmas.Client.Owners

namespace Aldrin.System
open Aldrin.Broker Aldrin.Client

/-- the client's listener book-keeping once it has handled everything that is on its way to it, against the
broker's listener table, and against the listener requests that are on their way to the broker -/
structure LRel (b : St) (c : ConnId) (F : LSt) (up : List Req) : Prop where
  tbl : ∀ ck l, AL.find? ck b.b.listeners = some l → l.conn = c →
    ∃ fl, AL.find? ck F.listeners = some fl ∧ fl.scope.isSome = l.scope.isSome
  create : ∀ n, Req.createBusListener n ∈ up → n ∈ F.create
  destroy : ∀ n ck, Req.destroyBusListener n ck ∈ up → AL.find? n F.destroy = some ck
  start : ∀ n ck sc, Req.startBusListener n ck sc ∈ up → AL.find? n F.start = some (ck, sc)
  stop : ∀ n ck, Req.stopBusListener n ck ∈ up → AL.find? n F.stop = some ck

def LLinkInv (b : St) (c : ConnId) (l : Link) : Prop :=
  ∃ F, lDrain (lview l.mon) l.down = some F ∧ (aliveB b c = true → LRel b c F l.up)

structure LSysInv (s : Sys) : Prop where
  links : ∀ c l, s.links c = some l → LLinkInv (stOf s) c l ∧ c ∈ s.used
  owners : ∀ ck l, AL.find? ck s.b.listeners = some l → l.conn ∈ s.used

/-- the broker's listener table against the client's listeners: `LRel.tbl` under a name -/
def LTbl (b : St) (c : ConnId) (F : LSt) : Prop :=
  ∀ ck l, AL.find? ck b.b.listeners = some l → l.conn = c →
    ∃ fl, AL.find? ck F.listeners = some fl ∧ fl.scope.isSome = l.scope.isSome

theorem LTbl.shrink {b b' : St} {c : ConnId} {F : LSt} (hsh : LShrink b b') (h : LTbl b c F) : LTbl b' c F :=
  fun ck li hli hc => h ck li (hsh ck li hli) hc

theorem LTbl.set {b b' : St} {c : ConnId} {F F' : LSt} {ck : Cookie} {l' : Listener} {x : Lsn}
    (hb : b'.b.listeners = AL.insert ck l' b.b.listeners)
    (hF : ∀ k, AL.find? k F'.listeners = if ck = k then some x else AL.find? k F.listeners)
    (hx : x.scope.isSome = l'.scope.isSome) (h : LTbl b c F) : LTbl b' c F' := by
  intro k li hli hc
  rw [hb, AL.find?_insert] at hli
  rw [hF]
  by_cases e : ck = k
  · simp only [e, ↓reduceIte, Option.some.injEq] at hli ⊢; subst hli; exact ⟨x, rfl, hx⟩
  · simp only [e, ↓reduceIte] at hli ⊢; exact h k li hli hc

theorem LTbl.erase {b b' : St} {c : ConnId} {F F' : LSt} {ck : Cookie} (hsh : LShrink b b')
    (hg : AL.find? ck b'.b.listeners = none) (hF : F'.listeners = AL.erase ck F.listeners) (h : LTbl b c F) : LTbl b' c F' := by
  intro k li hli hc
  have hne : ck ≠ k := by intro e; subst e; rw [hg] at hli; cases hli
  rw [hF, AL.find?_erase_ne _ hne]
  exact h k li (hsh k li hli) hc

theorem isL_strict {m : Rsp} (h : isL m = true) : ((strictKey m).isSome || (tagOf m).isSome) = true := by
  cases m <;> simp only [isL, Bool.false_eq_true] at h <;> (try rfl)
  case emitBusEvent o _ => cases o <;> simp_all [isL]

theorem lDrain_delivered_sf (F : LSt) (out : List Out) (c : ConnId) :
    lDrain F (delivered out c) = lDrain F (delivered (sf out) c) := by
  rw [delivered_sf, lDrain_eq_drain, drain_filter fun _ m hm =>
    lRecv_not_isL (Bool.eq_false_iff.mpr fun hl => by rw [isL_strict hl] at hm; cases hm)]

/-- the agreement of one link once its queue is handled; it is asked of connections the broker still serves -/
def LAgree (b : St) (c : ConnId) (F : LSt) (up : List Req) : Prop := aliveB b c = true → LRel b c F up

theorem lViewOf : ViewOf lview lRecv (fun _ r F => lSend F r) :=
  ⟨lview_onRecv, lview_onSend, fun _ r m v h => lRecv_lSend_comm v r m h⟩

theorem LLinkInv_iff {b : St} {c : ConnId} {l : Link} : LLinkInv b c l ↔ Drained lview lRecv LAgree b c l := by
  simp only [LLinkInv, Drained, lDrain_eq_drain, LAgree]

/-- the entry the client has for a listener request that is on its way -/
def LPend (F : LSt) : Req → Prop
  | .createBusListener n => n ∈ F.create
  | .destroyBusListener n ck => AL.find? n F.destroy = some ck
  | .startBusListener n ck sc => AL.find? n F.start = some (ck, sc)
  | .stopBusListener n ck => AL.find? n F.stop = some ck
  | _ => True

theorem LRel.pend {b : St} {c : ConnId} {F : LSt} {up : List Req} (h : LRel b c F up) {r : Req} (hr : r ∈ up) : LPend F r := by
  cases r
  case createBusListener n => exact h.create n hr
  case destroyBusListener n ck => exact h.destroy n ck hr
  case startBusListener n ck sc => exact h.start n ck sc hr
  case stopBusListener n ck => exact h.stop n ck hr
  all_goals trivial

theorem LRel.of_pend {b : St} {c : ConnId} {F : LSt} {up : List Req} (tbl : LTbl b c F) (hp : ∀ r ∈ up, LPend F r) :
    LRel b c F up :=
  ⟨tbl, fun _ h => hp _ h, fun _ _ h => hp _ h, fun _ _ _ h => hp _ h, fun _ _ h => hp _ h⟩

theorem LAgree.frame {b b' : St} {x : ConnId} {F : LSt} {up : List Req} (h : LAgree b x F up)
    (ha : aliveB b' x = true → aliveB b x = true)
    (ht : ∀ ck li, AL.find? ck b'.b.listeners = some li → li.conn = x → AL.find? ck b.b.listeners = some li) : LAgree b' x F up :=
  fun hal =>
    have r := h (ha hal)
    .of_pend (fun ck li hl hc => r.tbl ck li (ht ck li hl hc) hc) fun _ => r.pend

theorem lSend_eq_self_iff {F : LSt} {r : Req} : lSend F r = F ↔ LPend F r := by
  obtain ⟨ls, cr, ds, st, sp⟩ := F
  cases r
  case createBusListener | destroyBusListener | startBusListener | stopBusListener =>
    simp [lSend, LPend, AL_insert_eq_self_iff, sinsert_eq_self_iff]
  all_goals exact iff_of_true rfl trivial

/-- entering the request and handling messages that do not answer it commute -/
theorem lDrain_keeps_pend {r : Req} {ms : List Rsp} {F F' : LSt} (h : lDrain F ms = some F') (hp : LPend F r)
    (hk : ∀ m ∈ ms, ∀ k n, reqKeyS r = some (k, n) → strictKey m ≠ some (k, n)) : LPend F' r := by
  have := lDrain_lSend_comm r ms F hk
  rw [lSend_eq_self_iff.mpr hp, h] at this
  exact lSend_eq_self_iff.mp (Option.some.inj this).symm

theorem lSend_listeners (F : LSt) (r : Req) : (lSend F r).listeners = F.listeners := by
  cases r <;> rfl

theorem lSend_pend_self (F : LSt) (r : Req) : LPend (lSend F r) r := by
  cases r
  case createBusListener => exact (mem_sinsert ..).mpr (.inl rfl)
  case destroyBusListener | startBusListener | stopBusListener => exact AL.find?_insert_self ..
  all_goals trivial

theorem lSend_pend_other {F : LSt} {r r' : Req} (hp : LPend F r')
    (hne : ∀ k n n', reqKeyS r' = some (k, n') → reqKeyS r = some (k, n) → n ≠ n') : LPend (lSend F r) r' := by
  cases r'
  case createBusListener | destroyBusListener | startBusListener | stopBusListener =>
    rcases lSend_cases r with hid | ⟨n, rfl⟩ | ⟨n, ck, rfl⟩ | ⟨n, ck, sc, rfl⟩ | ⟨n, ck, rfl⟩
    · rw [hid]; exact hp
    all_goals first
      | exact hp
      | exact (mem_sinsert ..).mpr (.inr hp)
      | exact (AL.find?_insert_ne _ _ (hne _ _ _ rfl rfl)).trans hp
  all_goals trivial

/-- The requester's link after the turn that has handled its oldest request `r`: whatever has been sent to it answers
`r` and no other of its requests, so their entries are kept. What remains to be shown is that the client accepts what has
been sent (`hdr`) and that the listener table agrees with its listeners afterwards (`htbl`). -/
theorem LAgree.answered {b b' : St} {c : ConnId} {l : Link} {r : Req} {rest : List Req} {out : List Out} {F F' : LSt}
    (hu : l.up = r :: rest)
    (hk : ∀ r' ∈ rest, ∀ m ∈ delivered out c, ∀ k n, reqKeyS r' = some (k, n) → strictKey m ≠ some (k, n))
    (hal0 : aliveB b' c = true → aliveB b c = true) (hr : LAgree b c F l.up)
    (hdr : lDrain F (delivered out c) = some F')
    (htbl : aliveB b c = true → LRel b c F l.up → LTbl b' c F') :
    ∃ F', lDrain F (delivered out c) = some F' ∧ LAgree b' c F' rest := by
  refine ⟨F', hdr, fun ha => ?_⟩
  have r0 := hr (hal0 ha)
  exact .of_pend (htbl (hal0 ha) r0) fun r' hr' =>
    lDrain_keeps_pend hdr (r0.pend (by rw [hu]; exact List.mem_cons_of_mem _ hr')) (hk r' hr')

def isListenerKind : SKind → Bool
  | .createBusListener | .destroyBusListener | .startBusListener | .stopBusListener => true
  | _ => false

theorem isL_kind {m : Rsp} {k : SKind} {n : Nat} (h : isL m = true) (hk : strictKey m = some (k, n)) : isListenerKind k = true := by
  cases m <;> simp only [isL, Bool.false_eq_true] at h <;> simp [strictKey, rspKey] at hk <;>
    (try (obtain ⟨rfl, _⟩ := hk; rfl))

theorem listenerReq_of_kind {r : Req} {k : SKind} {n : Nat} (hk : reqKeyS r = some (k, n)) (h : isListenerKind k = true) :
    r.isListenerReq = true := by
  cases r with
  | subscribeEvent o _ _ => cases o <;> cases hk <;> cases h
  | subscribeAllEvents o _ => cases o <;> cases hk <;> cases h
  | unsubscribeAllEvents o _ => cases o <;> cases hk <;> cases h
  | _ => first | rfl | cases hk <;> cases h

theorem lDrain_current {F : LSt} {ck : Cookie} {x : Lsn} {cur : List Rsp} (hx : AL.find? ck F.listeners = some x)
    (ha : ((x.scope.map Scope.includesCurrent).getD false && !x.currentFinished) = true)
    (hc : ∀ m ∈ cur, ∃ e, m = Rsp.emitBusEvent (some ck) e) : lDrain F cur = some F := by
  rw [lDrain_eq_drain]
  refine drain_fixed fun m hm => ?_
  obtain ⟨e, rfl⟩ := hc m hm
  simp only [lRecv, hx, ha, ↓reduceIte]

theorem includesCurrent_of_ne_new {sc : Scope} (h : sc ≠ .new) : sc.includesCurrent = true := by
  cases sc <;> simp_all [Scope.includesCurrent]

theorem sent_to {b s1 : St} {c : ConnId} (msgs : List Rsp) (hb0 : b.out = [])
    (ho : sf s1.out = sf b.out ++ msgs.map (fun m => (⟨c, m, none⟩ : Out))) : delivered (sf s1.out) c = msgs := by
  rw [ho, hb0, sf_nil, List.nil_append, delivered_to]

theorem handle_lview {b s1 : St} {ok : Bool} {c : ConnId} {r : Req} {F : LSt}
    (hm : handleMessage b c r = .ok (s1, ok)) (hb0 : b.out = [])
    (hr : aliveB b c = true → LPend F r ∧ LTbl b c F) :
    ∃ F', lDrain F (delivered (sf s1.out) c) = some F' ∧ (aliveB b c = true → LTbl s1 c F') := by
  -- nothing for `c` that is checked, table as it was
  have silent : sf s1.out = sf b.out → (s1.b.listeners = b.b.listeners ∨ aliveB b c = false) →
      ∃ F', lDrain F (delivered (sf s1.out) c) = some F' ∧ (aliveB b c = true → LTbl s1 c F') := by
    intro ho hl
    refine ⟨F, by rw [ho, hb0]; rfl, fun ha => ?_⟩
    rcases hl with hl | hd
    · exact (hr ha).2.shrink (.of_eq hl)
    · rw [ha] at hd; cases hd
  -- one reply that leaves the client's listeners alone, table as it was
  have refused : ∀ (m : Rsp) (F' : LSt), sf s1.out = sf b.out ++ [⟨c, m, none⟩] → s1.b.listeners = b.b.listeners →
      lRecv F m = some F' → F'.listeners = F.listeners →
      ∃ F', lDrain F (delivered (sf s1.out) c) = some F' ∧ (aliveB b c = true → LTbl s1 c F') := by
    intro m F' ho hl hrecv hF
    refine ⟨F', by rw [sent_to [m] hb0 ho]; simp [lDrain, hrecv], fun ha => ?_⟩
    intro k li hli hc
    rw [hF]
    exact (hr ha).2 k li (hl ▸ hli) hc
  by_cases hnl : r.isListenerReq = false
  · -- not about listeners: at most one reply, not a listener message
    have hone := handleMessage_rep_one (by intro n ck sc e; subst e; simp [Req.isListenerReq] at hnl) hm
    have heq := handleMessage_listeners_eq hnl hm
    refine ⟨F, ?_, fun ha => (hr ha).2.shrink (.of_eq heq)⟩
    rcases hone with h0 | ⟨o, h1, hto, hk, hsome⟩
    · rw [h0, hb0]; rfl
    · rw [h1, hb0]
      simp only [sf_nil, List.nil_append, delivered, List.filter_cons, hto, decide_true, ↓reduceIte, List.filter_nil,
        List.map_cons, List.map_nil, lDrain]
      have : isL o.msg = false := by
        cases hl : isL o.msg with
        | false => rfl
        | true =>
          obtain ⟨⟨k, n⟩, hkk⟩ := Option.isSome_iff_exists.mp hsome
          have := listenerReq_of_kind hkk (isL_kind hl (hkk ▸ hk))
          rw [hnl] at this; simp at this
      rw [lRecv_not_isL this]
  · cases r <;> simp only [Req.isListenerReq, not_true_eq_false, not_false_eq_true] at hnl <;> simp only [handleMessage] at hm
    case createBusListener n =>
      rcases createBusListener_spec hm with ⟨ho, hl⟩ | ⟨ho, hl, hlive⟩
      · exact silent ho (.inl hl)
      · obtain ⟨hn, ht⟩ := hr hlive
        have hn : n ∈ F.create := hn
        refine ⟨{ F with create := sremove n F.create, listeners := AL.insert b.b.nextCookie {} F.listeners }, ?_,
          fun _ => ht.set hl (fun k => AL.find?_insert ..) rfl⟩
        rw [sent_to [_] hb0 ho]; simp [lDrain, lRecv, take, hn]
    case destroyBusListener n ck =>
      rcases destroyBusListener_spec hm with ⟨ho, hl⟩ | ⟨ho, hl, hlive⟩ | ⟨ho, -, hshr, hgone, hlive⟩
      · exact silent ho (.inl hl)
      · have hn : AL.find? n F.destroy = some ck := (hr hlive).1
        exact refused _ { F with destroy := AL.erase n F.destroy } ho hl (by simp [lRecv, takeAL, hn]) rfl
      · obtain ⟨hn, ht⟩ := hr hlive
        have hn : AL.find? n F.destroy = some ck := hn
        refine ⟨{ F with destroy := AL.erase n F.destroy, listeners := AL.erase ck F.listeners }, ?_,
          fun _ => ht.erase hshr hgone rfl⟩
        rw [sent_to [_] hb0 ho]; simp [lDrain, lRecv, takeAL, hn]
    case stopBusListener n ck =>
      rcases stopBusListener_spec hm with ⟨ho, hl⟩ | ⟨rr, hrr, ho, hl, hlive⟩ | ⟨l0, hl0, hc0, hs0, hl, ho, hlive⟩
      · exact silent ho hl
      · have hn : AL.find? n F.stop = some ck := (hr hlive).1
        exact refused _ { F with stop := AL.erase n F.stop } ho hl (by simp [lRecv, takeAL, hn, hrr]) rfl
      · obtain ⟨hn, ht⟩ := hr hlive
        have hn : AL.find? n F.stop = some ck := hn
        obtain ⟨fl, hfl, hfs⟩ := ht ck l0 hl0 hc0
        have hfs' : fl.scope.isSome = true := by rw [hfs]; exact hs0
        refine ⟨{ F with stop := AL.erase n F.stop, listeners := AL.insert ck { fl with scope := none } F.listeners }, ?_,
          fun _ => ht.set hl (fun k => AL.find?_insert ..) rfl⟩
        rw [sent_to [_] hb0 ho]; simp [lDrain, lRecv, takeAL, hn, hfl, hfs']
    case startBusListener n ck sc =>
      rcases startBusListener_spec hm with ⟨ho, hl⟩ | ⟨rr, hrr, ho, hl, hlive⟩ | ⟨l0, hl0, hc0, hs0, hlive, hl, cur, hcur, ho⟩
      · exact silent ho hl
      · have hn : AL.find? n F.start = some (ck, sc) := (hr hlive).1
        exact refused _ { F with start := AL.erase n F.start } ho hl (by simp [lRecv, takeAL, hn, hrr]) rfl
      · obtain ⟨hn, ht⟩ := hr hlive
        have hn : AL.find? n F.start = some (ck, sc) := hn
        obtain ⟨fl, hfl, hfs⟩ := ht ck l0 hl0 hc0
        have hfs' : fl.scope.isNone = true := by
          have : fl.scope.isSome = false := by rw [hfs, hs0]; rfl
          cases hsc : fl.scope <;> simp_all
        let x1 : Lsn := { scope := some sc, currentFinished := !sc.includesCurrent }
        let F1 : LSt := { F with start := AL.erase n F.start, listeners := AL.insert ck x1 F.listeners }
        have h1 : lRecv F (.startBusListenerReply n .ok) = some F1 := by
          simp [lRecv, takeAL, hn, hfl, hfs', F1, x1]
        by_cases hnew : sc = .new
        · refine ⟨F1, ?_, fun _ => ht.set hl (fun k => AL.find?_insert ..) rfl⟩
          rw [if_pos hnew] at ho
          rw [sent_to [_] hb0 ho]; simp only [lDrain, h1]
        · have hinc := includesCurrent_of_ne_new hnew
          let x2 : Lsn := { scope := some sc, currentFinished := true }
          refine ⟨{ F1 with listeners := AL.insert ck x2 F1.listeners }, ?_, fun _ => ht.set (x := x2) hl (fun k => ?_) rfl⟩
          · rw [if_neg hnew] at ho
            rw [sent_to (_ :: (cur ++ [_])) hb0 ho]
            have hx1 : AL.find? ck F1.listeners = some x1 := by simp [F1]
            simp only [lDrain, h1]
            rw [lDrain_append, lDrain_current hx1 (by simp [x1, hinc]) hcur]
            simp [lDrain, lRecv, hx1, hinc, x1, x2]
          · simp only [F1, AL.find?_insert]
            split <;> rfl
    case addFilter ck f | removeFilter ck f | clearFilters ck =>
      obtain ⟨ho, hl⟩ := updListener_spec hm
      rcases hl with hl | ⟨l0, hl0, hc0, hl⟩
      · exact silent (by rw [ho]) (.inl hl)
      · refine ⟨F, by rw [ho, hb0]; rfl, fun ha => ?_⟩
        obtain ⟨fl, hfl, hfs⟩ := (hr ha).2 ck l0 hl0 hc0
        refine (hr ha).2.set (x := fl) hl (fun k => ?_) (by rw [hfs]; rfl)
        split
        · rename_i e; subst e; exact hfl
        · rfl

theorem LAgree_handle {b s1 b' : St} {ok : Bool} {c : ConnId} {l : Link} {r : Req} {rest : List Req} {out : List Out}
    (hu : l.up = r :: rest)
    (hk : ∀ r' ∈ rest, ∀ m ∈ delivered out c, ∀ k n, reqKeyS r' = some (k, n) → strictKey m ≠ some (k, n))
    (hm : handleMessage b c r = .ok (s1, ok)) (hb0 : b.out = [])
    (hsh : LShrink s1 b') (hal : AliveLe s1 b') (hout : sf out = sf s1.out)
    {F : LSt} (hr : LAgree b c F l.up) : ∃ F', lDrain F (delivered out c) = some F' ∧ LAgree b' c F' rest := by
  obtain ⟨F', hd, ht⟩ := handle_lview hm hb0 (fun ha => ⟨(hr ha).pend (hu ▸ List.mem_cons_self ..), (hr ha).tbl⟩)
  exact LAgree.answered hu hk (fun ha => handleMessage_alive hm c (hal c ha)) hr
    (by rw [lDrain_delivered_sf, hout]; exact hd) (fun ha _ => (ht ha).shrink hsh)

theorem step_listeners_of {b b' : Broker} {w w' : Work} {e : Event} {out : List Out} {x : ConnId}
    (hst : step b w e = .ok (b', w', out)) (he : ∀ r, e ≠ .msg x r) {ck : Cookie} {li : Listener}
    (hli : AL.find? ck b'.listeners = some li) (hc : li.conn = x) : AL.find? ck b.listeners = some li := by
  cases e
  case msg c r =>
    obtain ⟨s1, ok, hm, hsh, _, _⟩ := step_msg_parts hst
    rcases handleMessage_lsub hm ck li (hsh ck li hli) with h1 | h1
    · exact absurd (hc ▸ h1 : x = c) (fun e => he r (e ▸ rfl))
    · exact h1
  case newConn => exact (step_newConn_parts hst).1 ck li hli
  all_goals exact (step_other_parts (fun _ _ => Event.noConfusion) (fun _ _ => Event.noConfusion) hst).1 ck li hli

theorem LAgree.send {b : St} {c : ConnId} {l : Link} {r : Req} {F : LSt} (hser : LinkInv l) (hf : freshSerial l.mon r = true)
    (h : LAgree b c F l.up) : LAgree b c (lSend F r) (l.up ++ [r]) := by
  refine fun ha => .of_pend (fun ck li hl hc => lSend_listeners F r ▸ (h ha).tbl ck li hl hc) (fun r' hr' => ?_)
  rcases List.mem_append.mp hr' with hr' | hr'
  · refine lSend_pend_other ((h ha).pend hr') ?_
    intro k n n' hk' hk e
    subst e
    exact fresh_not_pending hf hk (up_keys_pending hser hr' hk')
  · cases List.mem_singleton.mp hr'; exact lSend_pend_self _ _

theorem lview_init (v : Nat) : lview { version := v } = {} := rfl

theorem sysStep_linv {s s' : Sys} (hs : SysStep s s') (hser : SysInv s) (ho : OwnedInv s) (h : LSysInv s) : LSysInv s' := by
  have hl : Linkwise (Drained lview lRecv LAgree) s' := by
    refine sysStep_drained lViewOf hs hser (fun c l hl => LLinkInv_iff.mp (h.links c l hl).1) ?_ ?_ ?_ ?_
    · intro c v b w out _ hu hst _
      exact ⟨fun ck li hli hc => (ho.newcomer_holds_nothing hu hst (.lsn, ck) (by simp [own, hli, hc])).elim,
        nofun, nofun, nofun, nofun⟩
    · exact fun hl hf hr => hr.send (hser _ _ hl) hf
    · intro c l r rest b w out F hl hu hst _ hr
      obtain ⟨s1, ok, hm, hsh, hal, hout⟩ := step_msg_parts hst
      rw [← lDrain_eq_drain]
      exact LAgree_handle hu (answers_head_only hu (hser _ _ hl) hst) hm rfl hsh hal hout hr
    · intro x l e b w out F _ he hn hst _ hr
      exact ⟨F, by rw [← lDrain_eq_drain, lDrain_delivered_sf, step_sf_to hst he]; rfl,
        hr.frame (step_alive_of hst hn) fun _ _ hli hc => step_listeners_of hst he hli hc⟩
  exact ⟨fun c l hc => ⟨LLinkInv_iff.mpr (hl c l hc), sysStep_used hs (fun c l hc => (h.links c l hc).2) c l hc⟩,
    fun _ _ hli => (sysStep_owned hs ho).listener_owner hli⟩

theorem LSysInv_init : LSysInv {} := ⟨by intro c l hl; simp at hl, by intro ck l hl; simp [AL.find?] at hl⟩

theorem sysRun_linv (es : List SysEv) (s s' : Sys) : sysRun s es = some s' → SysInv s ∧ OwnedInv s ∧ LSysInv s → LSysInv s' :=
  sysRun_with sysStep_linv es s s'

theorem listener_head_accepted {s : Sys} (h : LSysInv s) {c : ConnId} {l : Link} (hl : s.links c = some l)
    {m : Rsp} {rest : List Rsp} (hd : l.down = m :: rest) (hL : isL m = true) : onRecv l.mon m ≠ .unexpected := by
  obtain ⟨⟨F, hF, _⟩, _⟩ := h.links c l hl
  rw [hd] at hF
  simp only [lDrain] at hF
  split at hF
  · rename_i t ht; exact lRecv_accepts hL ht
  · simp at hF

end Aldrin.System
