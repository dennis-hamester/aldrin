/-
The events of the composed system as a relation (`SysStep`) and the proof rule for its invariants, which speak of one
link at a time against the broker's state (`Linkwise`, `sysStep_linkwise`; `Drained`, `sysStep_drained`). The first
instance (`SysInv`): the requests on their way to the broker and the replies on their way to the client name, together,
each (kind, serial) at most once, and only ones the client has in its map.
-/
import Aldrin.Model.System
import Aldrin.Lemmas.Broker.Replies
import Aldrin.Lemmas.Broker.StepParts
import Aldrin.Lemmas.Client.Recv

namespace Aldrin.System
open Aldrin.Broker Aldrin.Client

/-- `sysStep` as a relation: one constructor per event, with what the event needs in order to happen -/
inductive SysStep : Sys → Sys → Prop
  | attach {s : Sys} {c : ConnId} {v : Nat} {b w out} (hl : s.links c = none) (hu : c ∉ s.used)
      (hst : Broker.step s.b s.w (.newConn c v) = .ok (b, w, out)) :
      SysStep s { b := b, w := w, links := setLink (deliver out s.links) c (some { mon := { version := v } }), used := c :: s.used }
  | clientSends {s : Sys} {c : ConnId} {r : Req} {l : Link} (hl : s.links c = some l) (hf : freshSerial l.mon r = true) :
      SysStep s { s with links := setLink s.links c (some { l with mon := onSend l.mon r, up := l.up ++ [r] }) }
  | brokerHandles {s : Sys} {c : ConnId} {l : Link} {r : Req} {rest : List Req} {b w out} (hl : s.links c = some l)
      (hu : l.up = r :: rest) (hst : Broker.step s.b s.w (.msg c r) = .ok (b, w, out)) :
      SysStep s { s with b := b, w := w, links := deliver out (setLink s.links c (some { l with up := rest })) }
  | brokerEvent {s : Sys} {e : Event} {b w out} (he : ∀ id m, e ≠ .msg id m) (hn : ∀ id v, e ≠ .newConn id v)
      (hst : Broker.step s.b s.w e = .ok (b, w, out)) :
      SysStep s { s with b := b, w := w, links := deliver out s.links }
  | clientHandles {s : Sys} {c : ConnId} {l : Link} {m : Rsp} {rest : List Rsp} {mon : CSt} (hl : s.links c = some l)
      (hd : l.down = m :: rest) (ho : onRecv l.mon m = .ok mon) :
      SysStep s { s with links := setLink s.links c (some { l with mon := mon, down := rest }) }
  | detach {s : Sys} {c : ConnId} : SysStep s { s with links := setLink s.links c none }

theorem SysStep.of_sysStep {s s' : Sys} {e : SysEv} (hs : sysStep s e = some s') : SysStep s s' := by
  cases e <;> simp only [sysStep] at hs
  case attach c v =>
    split at hs
    · cases hs
    · rename_i hfree
      split at hs <;> cases hs
      have hl : s.links c = none := by
        cases hc : s.links c with
        | none => rfl
        | some _ => simp [hc] at hfree
      exact .attach hl (fun hu => hfree (by simp [hu])) ‹_›
  case clientSends c r =>
    split at hs
    · cases hs
    · split at hs <;> cases hs
      exact .clientSends ‹_› ‹_›
  case brokerHandles c =>
    repeat' split at hs
    all_goals cases hs
    exact .brokerHandles ‹_› ‹_› ‹_›
  case brokerEvent e =>
    split at hs
    · cases hs
    · rename_i hnm
      split at hs <;> cases hs
      exact .brokerEvent (e := e) (fun _ _ he => hnm (by rw [he]; rfl)) (fun _ _ he => hnm (by rw [he]; rfl)) ‹_›
  case clientHandles c =>
    repeat' split at hs
    all_goals cases hs
    exact .clientHandles ‹_› ‹_› ‹_›
  case detach c => cases hs; exact .detach

theorem sysRun_induction {P : Sys → Prop} (hstep : ∀ s s', SysStep s s' → P s → P s') :
    ∀ (es : List SysEv) (s s' : Sys), sysRun s es = some s' → P s → P s' := by
  intro es
  induction es with
  | nil => intro s s' hr h; cases hr; exact h
  | cons e es ih =>
    intro s s' hr h
    simp only [sysRun] at hr
    split at hr
    · exact ih _ _ hr (hstep _ _ (.of_sysStep ‹_›) h)
    · cases hr

theorem setLink_eq_some {links : ConnId → Option Link} {c x : ConnId} {o : Option Link} {l : Link}
    (h : setLink links c o x = some l) : (x = c ∧ o = some l) ∨ (x ≠ c ∧ links x = some l) := by
  simp only [setLink] at h
  split at h
  · exact .inl ⟨‹_›, h⟩
  · exact .inr ⟨‹_›, h⟩

theorem deliver_eq_some {out : List Out} {links : ConnId → Option Link} {x : ConnId} {l : Link}
    (h : deliver out links x = some l) : ∃ lx, links x = some lx ∧ l = { lx with down := lx.down ++ delivered out x } := by
  simp only [deliver, Option.map_eq_some_iff] at h
  obtain ⟨lx, hlx, rfl⟩ := h
  exact ⟨lx, hlx, rfl⟩

theorem delivered_cons (o : Out) (out : List Out) (c : ConnId) :
    delivered (o :: out) c = (if o.to = c then [o.msg] else []) ++ delivered out c := by
  by_cases hc : o.to = c <;> simp [delivered, List.filter_cons, hc]

theorem delivered_filter (p : Rsp → Bool) (out : List Out) (c : ConnId) :
    delivered (out.filter fun o => p o.msg) c = (delivered out c).filter p := by
  simp only [delivered, List.filter_map, List.filter_filter, Function.comp_def, Bool.and_comm]

theorem delivered_sf (out : List Out) (c : ConnId) :
    delivered (sf out) c = (delivered out c).filter fun m => (strictKey m).isSome || (tagOf m).isSome :=
  delivered_filter (fun m => (strictKey m).isSome || (tagOf m).isSome) out c

theorem delivered_append (a b : List Out) (x : ConnId) : delivered (a ++ b) x = delivered a x ++ delivered b x := by
  simp [delivered]

theorem delivered_all {t : List Out} {c : ConnId} (h : ∀ o ∈ t, o.to = c) : delivered t c = t.map (·.msg) := by
  rw [delivered, List.filter_eq_self.mpr fun o ho => by simpa using h o ho]

theorem delivered_other {t : List Out} {c x : ConnId} (h : ∀ o ∈ t, o.to = c) (hx : x ≠ c) : delivered t x = [] := by
  rw [delivered, List.filter_eq_nil_iff.mpr fun o ho => by simpa [h o ho] using hx.symm]; rfl

theorem delivered_to (c : ConnId) (msgs : List Rsp) : delivered (msgs.map (fun m => (⟨c, m, none⟩ : Out))) c = msgs := by
  rw [delivered_all (by intro o ho; obtain ⟨m, _, rfl⟩ := List.mem_map.mp ho; rfl), List.map_map]
  exact List.map_id _

theorem mem_delivered {out : List Out} {x : ConnId} {m : Rsp} (h : m ∈ delivered out x) : ∃ o ∈ out, o.to = x ∧ o.msg = m := by
  simp only [delivered, List.mem_map, List.mem_filter, decide_eq_true_eq] at h
  obtain ⟨o, ⟨ho, hx⟩, rfl⟩ := h
  exact ⟨o, ho, hx, rfl⟩

def stOf (s : Sys) : St := ⟨s.b, s.w, []⟩

/-- `I` holds of every link, against the broker's state -/
def Linkwise (I : St → ConnId → Link → Prop) (s : Sys) : Prop := ∀ c l, s.links c = some l → I (stOf s) c l

theorem Linkwise_init (I : St → ConnId → Link → Prop) : Linkwise I {} := by intro c l hl; cases hl

/-- The obligations are stated at the state `s` before the event, so that an instance may use whatever else is known of
`s`. `other` is any turn of the broker that is not for a request of the link: another connection's request, another
connection arriving, any other event. -/
theorem sysStep_linkwise {I : St → ConnId → Link → Prop} {s s' : Sys} (hs : SysStep s s') (h : Linkwise I s)
    (init : ∀ {c v b w out}, s.links c = none → c ∉ s.used → step s.b s.w (.newConn c v) = .ok (b, w, out) →
      I ⟨b, w, []⟩ c { mon := { version := v } })
    (send : ∀ {c l r}, s.links c = some l → freshSerial l.mon r = true → I (stOf s) c l →
      I (stOf s) c { l with mon := onSend l.mon r, up := l.up ++ [r] })
    (recv : ∀ {c l m rest mon}, s.links c = some l → l.down = m :: rest → onRecv l.mon m = .ok mon → I (stOf s) c l →
      I (stOf s) c { l with mon := mon, down := rest })
    (handle : ∀ {c l r rest b w out}, s.links c = some l → l.up = r :: rest → step s.b s.w (.msg c r) = .ok (b, w, out) →
      I (stOf s) c l → I ⟨b, w, []⟩ c { l with up := rest, down := l.down ++ delivered out c })
    (other : ∀ {x l e b w out}, s.links x = some l → (∀ r, e ≠ .msg x r) → (∀ v, e ≠ .newConn x v) →
      step s.b s.w e = .ok (b, w, out) → I (stOf s) x l → I ⟨b, w, []⟩ x { l with down := l.down ++ delivered out x }) :
    Linkwise I s' := by
  intro x l hl
  cases hs with
  | attach hl0 hu hst =>
    rcases setLink_eq_some hl with ⟨rfl, e⟩ | ⟨hx, hl'⟩
    · cases e; exact init hl0 hu hst
    · obtain ⟨lx, hlx, rfl⟩ := deliver_eq_some hl'
      exact other hlx (fun _ => Event.noConfusion) (fun _ e => hx (Event.newConn.inj e).1.symm) hst (h x lx hlx)
  | clientSends hl0 hf =>
    rcases setLink_eq_some hl with ⟨rfl, e⟩ | ⟨_, hl'⟩
    · cases e; exact send hl0 hf (h x _ hl0)
    · exact h x l hl'
  | brokerHandles hl0 hu hst =>
    obtain ⟨lx, hlx, rfl⟩ := deliver_eq_some hl
    rcases setLink_eq_some hlx with ⟨rfl, e⟩ | ⟨hx, hlx'⟩
    · cases e; exact (handle hl0 hu hst (h x _ hl0) :)
    · exact other hlx' (fun _ e => hx (Event.msg.inj e).1.symm) (fun _ => Event.noConfusion) hst (h x lx hlx')
  | brokerEvent he hn hst =>
    obtain ⟨lx, hlx, rfl⟩ := deliver_eq_some hl
    exact other hlx (fun r => he x r) (fun v => hn x v) hst (h x lx hlx)
  | clientHandles hl0 hd ho =>
    rcases setLink_eq_some hl with ⟨rfl, e⟩ | ⟨_, hl'⟩
    · cases e; exact recv hl0 hd ho (h x _ hl0)
    · exact h x l hl'
  | detach =>
    rcases setLink_eq_some hl with ⟨_, e⟩ | ⟨_, hl'⟩
    · cases e
    · exact h x l hl'

theorem sysStep_used {s s' : Sys} (hs : SysStep s s') (h : ∀ c l, s.links c = some l → c ∈ s.used) :
    ∀ c l, s'.links c = some l → c ∈ s'.used := by
  intro x l hl
  cases hs with
  | attach =>
    rcases setLink_eq_some hl with ⟨rfl, _⟩ | ⟨_, hl'⟩
    · exact List.mem_cons_self
    · obtain ⟨lx, hlx, _⟩ := deliver_eq_some hl'
      exact List.mem_cons_of_mem _ (h x lx hlx)
  | clientSends hl0 | clientHandles hl0 =>
    rcases setLink_eq_some hl with ⟨rfl, _⟩ | ⟨_, hl'⟩
    · exact h x _ hl0
    · exact h x l hl'
  | brokerHandles hl0 =>
    obtain ⟨lx, hlx, _⟩ := deliver_eq_some hl
    rcases setLink_eq_some hlx with ⟨rfl, _⟩ | ⟨_, hlx'⟩
    · exact h x _ hl0
    · exact h x lx hlx'
  | brokerEvent =>
    obtain ⟨lx, hlx, _⟩ := deliver_eq_some hl
    exact h x lx hlx
  | detach =>
    rcases setLink_eq_some hl with ⟨_, e⟩ | ⟨_, hl'⟩
    · cases e
    · exact h x l hl'

abbrev Key := SKind × Nat

def keysUp (l : Link) : List Key := l.up.filterMap reqKeyS
def keysDown (l : Link) : List Key := l.down.filterMap strictKey

/-- how often a (kind, serial) is on its way, in either direction -/
def cnt (l : Link) (key : Key) : Nat := (keysUp l).count key + (keysDown l).count key

def LinkInv (l : Link) : Prop := ∀ key : Key, cnt l key ≤ 1 ∧ (0 < cnt l key → key.2 ∈ pendingOf l.mon key.1)

def SysInv : Sys → Prop := Linkwise fun _ _ l => LinkInv l

theorem count_filterMap_cons {α : Type} (f : α → Option Key) (x : α) (xs : List α) (key : Key) :
    ((x :: xs).filterMap f).count key = (if f x = some key then 1 else 0) + (xs.filterMap f).count key := by
  simp only [List.filterMap_cons]
  cases f x with
  | none => simp
  | some key' => by_cases he : key' = key <;> simp [he]; omega

theorem cnt_send (l : Link) (mon : CSt) (r : Req) (key : Key) :
    cnt { l with mon := mon, up := l.up ++ [r] } key = cnt l key + if reqKeyS r = some key then 1 else 0 := by
  simp only [cnt, keysUp, keysDown, List.filterMap_append, List.count_append, count_filterMap_cons, List.filterMap_nil,
    List.count_nil]; omega

theorem cnt_recv {l : Link} {m : Rsp} {rest : List Rsp} (mon : CSt) (hd : l.down = m :: rest) (key : Key) :
    cnt l key = cnt { l with mon := mon, down := rest } key + if strictKey m = some key then 1 else 0 := by
  simp only [cnt, keysUp, keysDown, hd, count_filterMap_cons]; omega

theorem cnt_deliver (l : Link) (d : List Rsp) (key : Key) :
    cnt { l with down := l.down ++ d } key = cnt l key + (d.filterMap strictKey).count key := by
  simp only [cnt, keysUp, keysDown, List.filterMap_append, List.count_append]; omega

theorem cnt_handle {l : Link} {r : Req} {rest : List Req} (d : List Rsp) (hu : l.up = r :: rest) (key : Key) :
    cnt { l with up := rest, down := l.down ++ d } key + (if reqKeyS r = some key then 1 else 0) =
      cnt l key + (d.filterMap strictKey).count key := by
  simp only [cnt, keysUp, keysDown, hu, count_filterMap_cons, List.filterMap_append, List.count_append]; omega

/-- a key with the introspection kind mapped to `none`: the `match` that `strictKey` and `reqKeyS` end in -/
theorem notIntrospection_eq_some_iff {o : Option Key} {k : SKind} {n : Nat} :
    (match o with | some (.queryIntrospection, _) => none | x => x) = some (k, n) ↔ k ≠ .queryIntrospection ∧ o = some (k, n) := by
  split
  · exact ⟨nofun, fun ⟨hk, e⟩ => absurd (Prod.mk.inj (Option.some.inj e)).1.symm hk⟩
  · next hne => exact ⟨fun h => ⟨fun e => hne n (e ▸ h), h⟩, And.right⟩

theorem strictKey_eq_some_iff {m : Rsp} {k : SKind} {n : Nat} :
    strictKey m = some (k, n) ↔ k ≠ .queryIntrospection ∧ rspKey m = some (k, n) := notIntrospection_eq_some_iff

theorem reqKeyS_eq_some_iff {r : Req} {k : SKind} {n : Nat} :
    reqKeyS r = some (k, n) ↔ k ≠ .queryIntrospection ∧ reqKey r = some (k, n) := notIntrospection_eq_some_iff

theorem cnt_queryIntrospection (l : Link) (n : Nat) : cnt l (.queryIntrospection, n) = 0 := by
  have h1 : (keysUp l).count (SKind.queryIntrospection, n) = 0 := by
    rw [List.count_eq_zero]
    intro hm
    obtain ⟨r, _, hr⟩ := List.mem_filterMap.mp hm
    exact (reqKeyS_eq_some_iff.mp hr).1 rfl
  have h2 : (keysDown l).count (SKind.queryIntrospection, n) = 0 := by
    rw [List.count_eq_zero]
    intro hm
    obtain ⟨r, _, hr⟩ := List.mem_filterMap.mp hm
    exact (strictKey_eq_some_iff.mp hr).1 rfl
  simp [cnt, h1, h2]

theorem delivered_keys (out : List Out) (c : ConnId) :
    (delivered out c).filterMap strictKey = (delivered (sf out) c).filterMap strictKey := by
  rw [delivered_sf, List.filterMap_filter]
  congr 1; funext m
  cases h : strictKey m <;> simp [h]

theorem delivered_nonstrict (t : List Out) (c : ConnId) (h : ∀ x ∈ t, strictKey x.msg = none) :
    (delivered t c).filterMap strictKey = [] :=
  List.filterMap_eq_nil_iff.mpr fun _ hm => let ⟨o, ho, _, e⟩ := mem_delivered hm; e ▸ h o ho

theorem delivered_keys_one {out : List Out} {o : Out} {t : List Out} {key : Key} (h : sf out = o :: t) (hk : strictKey o.msg = some key)
    (ht : ∀ x ∈ t, strictKey x.msg = none) (c : ConnId) :
    (delivered out c).filterMap strictKey = if o.to = c then [key] else [] := by
  rw [delivered_keys, h, delivered_cons, List.filterMap_append, delivered_nonstrict t c ht]
  by_cases hc : o.to = c <;> simp [hc, hk]

theorem OneReply.keys {c : ConnId} {k : Option Key} {out : List Out} (h : OneReply c k out) :
    (delivered out c).filterMap strictKey = [] ∨ ∃ key, k = some key ∧ (delivered out c).filterMap strictKey = [key] := by
  rcases h with hs | ⟨o, t, hs, hto, hk, hsome, ht⟩
  · exact .inl (by rw [delivered_keys, hs]; rfl)
  · obtain ⟨kk, rfl⟩ := Option.isSome_iff_exists.mp hsome
    exact .inr ⟨kk, rfl, by rw [delivered_keys_one hs hk (fun y hy => (ht y hy).2), hto, if_pos rfl]⟩

theorem LinkInv_init (v : Nat) : LinkInv { mon := { version := v } } := by
  intro key
  simp [cnt, keysUp, keysDown]

theorem LinkInv_of_le {l l' : Link} (hm : l'.mon = l.mon) (hc : ∀ key, cnt l' key ≤ cnt l key) (h : LinkInv l) : LinkInv l' := by
  intro key
  have := h key
  have := hc key
  rw [hm]
  constructor
  · omega
  · intro hp; apply (h key).2; omega

theorem fresh_not_pending {mon : CSt} {r : Req} (hf : freshSerial mon r = true) {k : SKind} {n : Nat} (hk : reqKeyS r = some (k, n)) :
    n ∉ pendingOf mon k := by
  have := (reqKeyS_eq_some_iff.mp hk).2
  simpa [freshSerial, this] using hf

theorem LinkInv_send {l : Link} {r : Req} (hf : freshSerial l.mon r = true) (h : LinkInv l) :
    LinkInv { l with mon := onSend l.mon r, up := l.up ++ [r] } := by
  intro key
  have hk := h key
  rw [cnt_send, mem_pendingOf_onSend]
  split
  · rename_i hr
    have : ¬ 0 < cnt l key := fun hp => fresh_not_pending hf hr (hk.2 hp)
    exact ⟨by omega, fun _ => .inr (reqKeyS_eq_some_iff.mp hr).2⟩
  · exact ⟨hk.1, fun hp => .inl (hk.2 hp)⟩

theorem LinkInv_recv {l : Link} {m : Rsp} {rest : List Rsp} {mon : CSt} (hd : l.down = m :: rest)
    (ho : onRecv l.mon m = .ok mon) (h : LinkInv l) : LinkInv { l with mon := mon, down := rest } := by
  intro key
  obtain ⟨k, n⟩ := key
  have hk := h (k, n)
  have hc := cnt_recv mon hd (k, n)
  refine ⟨by omega, fun hp => (mem_pendingOf_onRecv ho).mpr ⟨hk.2 (by omega), fun hr => ?_⟩⟩
  -- a second message with that key would be one too many; `cnt` goes by `strictKey` / `reqKeyS`
  -- (Lemmas/Broker/Replies.lean), which are `rspKey` / `reqKey` without the introspection queries (those the broker
  -- answers in a later turn), so that kind is never counted and `hp` cannot hold of it
  by_cases hq : k = .queryIntrospection
  · subst hq
    have := cnt_queryIntrospection { l with mon := mon, down := rest } n
    omega
  · rw [if_pos (strictKey_eq_some_iff.mpr ⟨hq, hr⟩)] at hc; omega

theorem LinkInv_handle {l : Link} {out : List Out} {c : ConnId} {r : Req} {rest : List Req} (hu : l.up = r :: rest)
    (ho : OneReply c (reqKeyS r) out) (h : LinkInv l) :
    LinkInv { l with up := rest, down := l.down ++ delivered out c } := by
  refine LinkInv_of_le (l := l) rfl (fun key => ?_) h
  have hc := cnt_handle (delivered out c) hu key
  rcases OneReply.keys ho with h0 | ⟨key', hr, h0⟩
  · rw [h0] at hc; simp at hc; omega
  · rw [h0, hr] at hc
    by_cases he : key' = key <;> simp [he] at hc <;> omega

theorem step_sf_to {b b' : Broker} {w w' : Work} {e : Event} {out : List Out} {x : ConnId}
    (hst : step b w e = .ok (b', w', out)) (he : ∀ r, e ≠ .msg x r) : delivered (sf out) x = [] := by
  by_cases hm : ∃ c r, e = .msg c r
  · obtain ⟨c, r, rfl⟩ := hm
    have hx : x ≠ c := fun e => he r (e ▸ rfl)
    rcases step_msg_reply hst with hs | ⟨o, t, hs, hto, _, _, ht⟩
    · rw [hs]; rfl
    · rw [hs]
      refine delivered_other (c := c) (fun o' ho' => ?_) hx
      rcases List.mem_cons.mp ho' with rfl | ho'
      · exact hto
      · exact (ht o' ho').1
  · rw [step_other_no_reply (fun c r h => hm ⟨c, r, h⟩) hst]; rfl

theorem step_no_key_to {b b' : Broker} {w w' : Work} {e : Event} {out : List Out} {x : ConnId}
    (hst : step b w e = .ok (b', w', out)) (he : ∀ r, e ≠ .msg x r) : (delivered out x).filterMap strictKey = [] := by
  rw [delivered_keys, step_sf_to hst he]; rfl

theorem sysStep_inv {s s' : Sys} (hs : SysStep s s') (h : SysInv s) : SysInv s' :=
  sysStep_linkwise hs h
    (fun _ _ _ => LinkInv_init _)
    (fun _ hf hi => LinkInv_send hf hi)
    (fun _ hd ho hi => LinkInv_recv hd ho hi)
    (fun _ hu hst hi => LinkInv_handle hu (step_msg_reply hst) hi)
    (fun {_ l _ _ _ _} _ he _ hst hi => LinkInv_of_le (l := l) rfl (fun key => by
      rw [cnt_deliver, step_no_key_to hst he]; exact Nat.le_refl _) hi)

theorem SysInv_init : SysInv {} := Linkwise_init _

theorem sysRun_inv (es : List SysEv) (s s' : Sys) : sysRun s es = some s' → SysInv s → SysInv s' :=
  sysRun_induction (fun _ _ => sysStep_inv) es s s'

theorem LinkInv.pending {l : Link} (h : LinkInv l) {k : SKind} {n : Nat} (hk : (k, n) ∈ keysUp l ∨ (k, n) ∈ keysDown l) :
    n ∈ pendingOf l.mon k := by
  apply (h (k, n)).2
  have := hk.imp List.count_pos_iff.mpr List.count_pos_iff.mpr
  simp only [cnt]
  omega

theorem head_is_pending {s : Sys} (h : SysInv s) {c : ConnId} {l : Link} (hl : s.links c = some l)
    {m : Rsp} (hm : m ∈ l.down) {k : SKind} {n : Nat} (hk : strictKey m = some (k, n)) : n ∈ pendingOf l.mon k :=
  (h c l hl).pending (.inr (List.mem_filterMap.mpr ⟨m, hm, hk⟩))

theorem up_keys_pending {l : Link} (h : LinkInv l) {r : Req} (hr : r ∈ l.up) {k : SKind} {n : Nat} (hk : reqKeyS r = some (k, n)) :
    n ∈ pendingOf l.mon k :=
  h.pending (.inl (List.mem_filterMap.mpr ⟨r, hr, hk⟩))

theorem up_serial_unique {l : Link} {r : Req} {rest : List Req} (hu : l.up = r :: rest) (h : LinkInv l)
    {key : Key} (hk : reqKeyS r = some key) : ∀ r' ∈ rest, reqKeyS r' ≠ some key := by
  intro r' hr' hk'
  have h1 := (h key).1
  have hm : key ∈ rest.filterMap reqKeyS := List.mem_filterMap.mpr ⟨r', hr', hk'⟩
  have hc := List.count_pos_iff.mpr hm
  simp only [cnt, keysUp, hu, List.filterMap_cons, hk, List.count_cons, beq_self_eq_true, ↓reduceIte] at h1
  omega

theorem strict_outputs {id : ConnId} {key : Option Key} {out : List Out} (h : OneReply id key out) :
    ∀ o ∈ out, ∀ k, strictKey o.msg = some k → o.to = id ∧ key = some k := by
  intro o ho k hk
  have hmem : o ∈ sf out := by
    simp only [sf, List.mem_filter, Out.strict, hk, Option.isSome_some, Bool.true_or, and_true]; exact ho
  rcases h with h0 | ⟨o0, t, h1, hto, hk0, _, ht⟩
  · rw [h0] at hmem; simp at hmem
  · rw [h1] at hmem
    simp only [List.mem_cons] at hmem
    rcases hmem with rfl | hm
    · exact ⟨hto, by rw [← hk0, hk]⟩
    · have := (ht o hm).2; rw [hk] at this; simp at this

theorem step_alive_of {b b' : Broker} {w w' : Work} {e : Event} {out : List Out} {x : ConnId}
    (hst : step b w e = .ok (b', w', out)) (hn : ∀ v, e ≠ .newConn x v) (ha : aliveB ⟨b', w', []⟩ x = true) :
    aliveB ⟨b, w, []⟩ x = true := by
  cases e
  case newConn c v => exact (step_newConn_parts hst).2.1 x (fun e => hn v (e ▸ rfl)) ha
  all_goals exact step_alive (fun _ _ => Event.noConfusion) hst x ha

/-- what the turn for the oldest request `r` of a link puts into its queue answers `r` and none of its other requests -/
theorem answers_head_only {b b' : Broker} {w w' : Work} {c : ConnId} {l : Link} {r : Req} {rest : List Req} {out : List Out}
    (hu : l.up = r :: rest) (hser : LinkInv l) (hst : step b w (.msg c r) = .ok (b', w', out)) :
    ∀ r' ∈ rest, ∀ m ∈ delivered out c, ∀ k n, reqKeyS r' = some (k, n) → strictKey m ≠ some (k, n) := by
  intro r' hr' m hm k n hk' hk
  obtain ⟨o, ho, _, rfl⟩ := mem_delivered hm
  exact up_serial_unique hu hser (strict_outputs (step_msg_reply hst) o ho (k, n) hk).2 r' hr' hk'

/-! `view` is a part of the client's book-keeping that is a machine of its own: `recv` is `onRecv` seen through it, `snd` is
`onSend` seen through it, and sending commutes with handling a message that does not answer the request. The invariant
is `Rel b c F up` for the view `F` the client will have once it has handled its queue. -/

structure ViewOf {σ : Type} (view : CSt → σ) (recv : σ → Rsp → Option σ) (snd : CSt → Req → σ → σ) : Prop where
  view_recv : ∀ {s s' m}, onRecv s m = .ok s' → recv (view s) m = some (view s')
  view_send : ∀ s r, view (onSend s r) = snd s r (view s)
  comm : ∀ s r m v, (∀ k n, reqKeyS r = some (k, n) → strictKey m ≠ some (k, n)) → recv (snd s r v) m = (recv v m).map (snd s r)

def Drained {σ : Type} (view : CSt → σ) (recv : σ → Rsp → Option σ) (Rel : St → ConnId → σ → List Req → Prop) :
    St → ConnId → Link → Prop :=
  fun b c l => ∃ F, drain recv (view l.mon) l.down = some F ∧ Rel b c F l.up

/-- The client's two events are discharged by the three equations of `ViewOf`; what a turn of the broker has to show is
that the view takes what the turn has put into the queue, and is related to the new tables afterwards. -/
theorem sysStep_drained {σ : Type} {view : CSt → σ} {recv : σ → Rsp → Option σ} {snd : CSt → Req → σ → σ}
    {Rel : St → ConnId → σ → List Req → Prop} (V : ViewOf view recv snd) {s s' : Sys} (hs : SysStep s s') (hser : SysInv s)
    (h : Linkwise (Drained view recv Rel) s)
    (init : ∀ {c v b w out}, s.links c = none → c ∉ s.used → step s.b s.w (.newConn c v) = .ok (b, w, out) →
      Rel ⟨b, w, []⟩ c (view { version := v }) [])
    (send : ∀ {c l r F}, s.links c = some l → freshSerial l.mon r = true → Rel (stOf s) c F l.up →
      Rel (stOf s) c (snd l.mon r F) (l.up ++ [r]))
    (handle : ∀ {c l r rest b w out F}, s.links c = some l → l.up = r :: rest → step s.b s.w (.msg c r) = .ok (b, w, out) →
      drain recv (view l.mon) l.down = some F → Rel (stOf s) c F l.up →
      ∃ F', drain recv F (delivered out c) = some F' ∧ Rel ⟨b, w, []⟩ c F' rest)
    (other : ∀ {x l e b w out F}, s.links x = some l → (∀ r, e ≠ .msg x r) → (∀ v, e ≠ .newConn x v) →
      step s.b s.w e = .ok (b, w, out) → drain recv (view l.mon) l.down = some F → Rel (stOf s) x F l.up →
      ∃ F', drain recv F (delivered out x) = some F' ∧ Rel ⟨b, w, []⟩ x F' l.up) :
    Linkwise (Drained view recv Rel) s' := by
  refine sysStep_linkwise hs h (fun hl hu hst => ⟨_, rfl, init hl hu hst⟩) ?_ ?_ ?_ ?_
  · rintro c l r hl hf ⟨F, hF, hr⟩
    refine ⟨snd l.mon r F, ?_, send hl hf hr⟩
    show drain recv (view (onSend l.mon r)) l.down = _
    rw [V.view_send, drain_comm l.down _ fun m hm a => V.comm l.mon r m a fun k n hk he =>
      fresh_not_pending hf hk (head_is_pending hser hl hm he), hF]; rfl
  · rintro c l m rest mon hl hd ho ⟨F, hF, hr⟩
    refine ⟨F, ?_, hr⟩
    rw [hd] at hF
    simpa only [drain, V.view_recv ho] using hF
  · rintro c l r rest b w out hl hu hst ⟨F, hF, hr⟩
    obtain ⟨F', hF', hr'⟩ := handle hl hu hst hF hr
    exact ⟨F', by simp only [drain_append, hF, Option.bind_some, hF'], hr'⟩
  · rintro x l e b w out hl he hn hst ⟨F, hF, hr⟩
    obtain ⟨F', hF', hr'⟩ := other hl he hn hst hF hr
    exact ⟨F', by simp only [drain_append, hF, Option.bind_some, hF'], hr'⟩

end Aldrin.System
