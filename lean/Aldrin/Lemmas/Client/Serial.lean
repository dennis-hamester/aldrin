/-
The serial maps when a request is sent (`pendings`), a reply whose serial is not in its map is refused
(`onRecv_unknown_serial`), what sending and handling a message leave alone (phase and version), and histories of the
client at its transport (`replay`, `openFrom`).
-/
import Aldrin.Lemmas.Client.Pending

namespace Aldrin.Client
open Aldrin.Broker

/-- The serial maps, listed in the order of the constructors of `SKind`, so that `pendingOf s k` is entry `k.ctorIdx`
(`pendingOf_eq`). What a message does to the maps is then one equation between two lists, which `rfl` checks entry by
entry; that the other kinds are untouched is `List.getElem?_set`, since `ctorIdx` is injective (`SKind.ofNat_ctorIdx`,
which `deriving DecidableEq` provides). -/
def pendings (s : CSt) : List (List Nat) :=
  [s.createObject, s.createService, AL.keys s.createChannel, AL.keys s.closeChannelEnd, AL.keys s.claimChannelEnd, s.sync,
   s.createBusListener, AL.keys s.destroyBusListener, AL.keys s.startBusListener, AL.keys s.stopBusListener,
   s.queryServiceInfo, s.queryServiceVersion, s.subscribeEvent, s.subscribeService, s.subscribeAllEvents,
   s.unsubscribeAllEvents, s.queryIntrospection]

theorem pendingOf_eq (s : CSt) (k : SKind) : pendingOf s k = (pendings s)[k.ctorIdx]?.getD [] := by cases k <;> rfl

theorem pendingOf_of_set {s s' : CSt} {k : SKind} {v : List Nat} (h : pendings s' = (pendings s).set k.ctorIdx v) (k' : SKind) :
    pendingOf s' k' = if k = k' then v else pendingOf s k' := by
  have hlt : k.ctorIdx < (pendings s).length := by cases k <;> exact Nat.le_of_ble_eq_true rfl
  rw [pendingOf_eq, pendingOf_eq, h, List.getElem?_set, if_pos hlt]
  by_cases hk : k = k'
  · simp [hk]
  · have : ¬ k.ctorIdx = k'.ctorIdx := fun e => hk (by rw [← SKind.ofNat_ctorIdx k, e, SKind.ofNat_ctorIdx])
    simp [hk, this]

/-- in the form in which `onSend` and `onRecv` are described: `f n` is applied to the map of the key's kind -/
theorem pendingOf_of_key {s s' : CSt} {o : Option (SKind × Nat)} {f : Nat → List Nat → List Nat} :
    (pendings s' = match o with
      | some (k, n) => (pendings s).set k.ctorIdx (f n (pendingOf s k))
      | none => pendings s) → ∀ k : SKind,
    pendingOf s' k = match o with
      | some (k', n) => if k' = k then f n (pendingOf s k) else pendingOf s k
      | none => pendingOf s k := by
  intro h k
  cases o with
  | none => rw [pendingOf_eq, h, pendingOf_eq]
  | some p =>
    obtain ⟨k', n⟩ := p
    rw [pendingOf_of_set h]
    by_cases hk : k' = k
    · subst hk; rfl
    · simp only [hk, ↓reduceIte]

theorem pendings_onSend (s : CSt) (r : Req) :
    pendings (onSend s r) = match reqKey r with
      | some (k, n) => (pendings s).set k.ctorIdx (sinsert n (pendingOf s k))
      | none => pendings s := by
  cases r with
  | subscribeEvent o _ _ => cases o <;> rfl
  | subscribeAllEvents o _ => cases o <;> rfl
  | unsubscribeAllEvents o _ => cases o <;> rfl
  | _ => first | rfl | (simp only [pendings, onSend, keys_insert]; rfl)

theorem pendingOf_onSend (s : CSt) (r : Req) (k : SKind) :
    pendingOf (onSend s r) k = match reqKey r with
      | some (k', n) => if k' = k then sinsert n (pendingOf s k) else pendingOf s k
      | none => pendingOf s k :=
  pendingOf_of_key (pendings_onSend s r) k

theorem mem_pendingOf_onSend {s : CSt} {r : Req} {k : SKind} {x : Nat} :
    x ∈ pendingOf (onSend s r) k ↔ x ∈ pendingOf s k ∨ reqKey r = some (k, x) := by
  rw [pendingOf_onSend]
  cases reqKey r with
  | none => simp
  | some p =>
    obtain ⟨k', n⟩ := p
    by_cases hk : k' = k
    · simp [hk, mem_sinsert, eq_comm, or_comm]
    · simp [hk]

theorem pendingOf_init (v : Nat) (k : SKind) : pendingOf { version := v } k = [] := by
  cases k <;> rfl

theorem pendings_setEnds (s : CSt) (e : ChanEnd) (m) : pendings (setEnds s e m) = pendings s := by cases e <;> rfl

@[simp] theorem pendingOf_setEnds (s : CSt) (e : ChanEnd) (m) (k : SKind) : pendingOf (setEnds s e m) k = pendingOf s k := by
  cases e <;> rfl

theorem setEnds_phase_version (s : CSt) (e : ChanEnd) (m) : (setEnds s e m).phase = s.phase ∧ (setEnds s e m).version = s.version := by
  cases e <;> exact ⟨rfl, rfl⟩

theorem channelEndClosed_ok {s s' : CSt} {ck e} (h : channelEndClosed s ck e = .ok s') :
    (AL.find? ck (ends s (peerEnd e)) = some .pending ∨ AL.find? ck (ends s (peerEnd e)) = some .established) ∧
    s' = setEnds s (peerEnd e) (AL.insert ck .peerClosed (ends s (peerEnd e))) := by
  simp only [channelEndClosed] at h
  split at h <;> cases h
  · exact ⟨.inl ‹_›, rfl⟩
  · exact ⟨.inr ‹_›, rfl⟩

theorem channelEndClaimed_ok {s s' : CSt} {ck e} (h : channelEndClaimed s ck e = .ok s') :
    AL.find? ck (ends s (peerEnd e)) = some .pending ∧
    s' = setEnds s (peerEnd e) (AL.insert ck .established (ends s (peerEnd e))) := by
  simp only [channelEndClaimed] at h
  split at h <;> cases h
  exact ⟨‹_›, rfl⟩

/-- handling a message changes neither where `Client::run` is nor the protocol version: every accepted path through
`handle_message` ends in `s` with some of its maps updated -/
theorem onRecv_phase_version {s s' : CSt} {m : Rsp} : onRecv s m = .ok s' → s'.phase = s.phase ∧ s'.version = s.version := by
  fun_cases onRecv s m <;> intro h <;> (try split at h) <;>
    first
    | cases h
    | (have h' := Verdict.ok.inj h; subst h')
    | (obtain ⟨-, rfl⟩ := channelEndClosed_ok h)
    | (obtain ⟨-, rfl⟩ := channelEndClaimed_ok h)
  all_goals first | exact ⟨rfl, rfl⟩ | exact setEnds_phase_version ..

theorem onSend_phase (s : CSt) (r : Req) : (onSend s r).phase = s.phase := by
  unfold onSend
  split <;> rfl

theorem takeAL_none_of_not_mem_keys {V : Type} {n : Nat} {m : List (Nat × V)} (h : n ∉ AL.keys m) : takeAL n m = none :=
  takeAL_eq_none_iff.mpr (AL.find?_none_iff.mpr h)

theorem onRecv_unknown_serial (s : CSt) (m : Rsp) (k : SKind) (x : Nat) (hk : rspKey m = some (k, x))
    (hx : x ∉ pendingOf s k) : onRecv s m = .unexpected := by
  cases m <;> cases hk <;> simp only [pendingOf] at hx <;> simp only [onRecv] <;>
    first | rw [take_eq_none_iff.mpr hx] | rw [takeAL_none_of_not_mem_keys hx]
  split <;> rfl

/-- what the client does at its transport -/
inductive Ev where
  | sent (r : Req)
  | got (m : Rsp)
  deriving Repr

/-- the state after a history, if the client accepted every message in it -/
def replay : CSt → List Ev → Option CSt
  | s, [] => some s
  | s, .sent r :: h => replay (onSend s r) h
  | s, .got m :: h =>
    match onRecv s m with
    | .ok s' => replay s' h
    | _ => none

/-- Is a request of kind `k` with serial `x` on its way after the history (given whether one was before)? -/
def openFrom (b : Bool) (k : SKind) (x : Nat) : List Ev → Bool
  | [] => b
  | .sent r :: h => openFrom (b || decide (reqKey r = some (k, x))) k x h
  | .got m :: h => openFrom (b && !decide (rspKey m = some (k, x))) k x h

end Aldrin.Client
