/-
Who owns a channel end or a bus listener in the broker's tables is a connection that was attached. This is the broker's
own ownership invariant (`Own`, Lemmas/Broker/Own.lean: who holds something is a connection in the map and lists it),
carried through the events of the composed system, together with "the connections in the map were attached".
-/
import Aldrin.Lemmas.Broker.Own
import Aldrin.Lemmas.Broker.Exists
import Aldrin.Lemmas.Client.Agreement

namespace Aldrin.System
open Aldrin.Broker Aldrin.Client

theorem sysStep_broker {P : Broker → Work → Prop}
    (hP : ∀ {b w e b' w' out}, P b w → step b w e = .ok (b', w', out) → P b' w') {s s' : Sys} (hs : SysStep s s')
    (h : P s.b s.w) : P s'.b s'.w := by
  cases hs with
  | attach _ _ hst => exact hP h hst
  | brokerHandles _ _ hst => exact hP h hst
  | brokerEvent _ _ hst => exact hP h hst
  | _ => exact h

theorem step_ex_of {b b' : Broker} {w w' : Work} {e : Event} {out : List Out} {x : ConnId}
    (hst : step b w e = .ok (b', w', out)) (hn : ∀ v, e ≠ .newConn x v) (hx : exB ⟨b', w', []⟩ x = true) :
    exB ⟨b, w, []⟩ x = true := by
  cases e
  case newConn c v =>
    obtain ⟨s0, h0, h2⟩ := step_ok hst
    have h1 := processLoop_ex _ _ _ h2 x hx
    obtain ⟨-, rfl⟩ := handleEvent_newConn_ok h0
    rwa [exB_stat, exB_setConn, if_neg (fun e : c = x => hn v (e ▸ rfl))] at h1
  all_goals exact step_ex (fun _ _ => Event.noConfusion) hst x hx

structure OwnedInv (s : Sys) : Prop where
  /-- carried only because the broker's ownership lemmas (`step_own`, `handleEvent_own`) take `G2` as a premise -/
  g2 : G2 (stOf s)
  owns : Own none (stOf s)
  conns : ∀ c, exB (stOf s) c = true → c ∈ s.used

theorem OwnedInv_init : OwnedInv {} := ⟨G2_init, Own.init, by intro c h; simp [exB, stOf, AL.find?] at h⟩

theorem sysStep_owned {s s' : Sys} (hs : SysStep s s') (h : OwnedInv s) : OwnedInv s' := by
  have hb := sysStep_broker (P := fun b w => G2 ⟨b, w, []⟩ ∧ Own none ⟨b, w, []⟩)
    (fun hp hst => ⟨step_G2 hp.1 hst, step_own hp.1 hp.2 hst⟩) hs ⟨h.g2, h.owns⟩
  refine ⟨hb.1, hb.2, fun x hx => ?_⟩
  cases hs with
  | @attach c _ _ _ _ _ _ hst =>
    by_cases hxc : x = c
    · exact hxc ▸ List.mem_cons_self
    · exact List.mem_cons_of_mem _ (h.conns x (step_ex_of hst (fun _ e => hxc (Event.newConn.inj e).1.symm) hx))
  | brokerHandles _ _ hst => exact h.conns x (step_ex_of hst (fun _ => Event.noConfusion) hx)
  | brokerEvent _ hn hst => exact h.conns x (step_ex_of hst (fun v => hn x v) hx)
  | clientSends | clientHandles | detach => exact h.conns x hx

theorem sysRun_with {X : Sys → Prop} (hstep : ∀ {s s'}, SysStep s s' → SysInv s → OwnedInv s → X s → X s')
    (es : List SysEv) (s s' : Sys) (hr : sysRun s es = some s') (h : SysInv s ∧ OwnedInv s ∧ X s) : X s' :=
  (sysRun_induction (P := fun s => SysInv s ∧ OwnedInv s ∧ X s)
    (fun _ _ hs ⟨a, b, c⟩ => ⟨sysStep_inv hs a, sysStep_owned hs b, hstep hs a b c⟩) es s s' hr h).2.2

theorem holder_exists {s : St} (h : Own none s) {y : Hold} {x : ConnId} (ho : own s y = some x) : exB s x = true :=
  have ⟨_, hc, _⟩ := h.holder ho
  exB_conn hc

theorem OwnedInv.listener_owner {s : Sys} (h : OwnedInv s) {ck : Cookie} {l : Listener}
    (h1 : AL.find? ck s.b.listeners = some l) : l.conn ∈ s.used :=
  h.conns l.conn (holder_exists h.owns (y := (.lsn, ck)) (by simp [own, stOf, h1]))

/-- the connection that has just been attached holds nothing: a turn that serves no request gives nobody a new holding
(`OwnLe`), and whoever held something before is a connection that was attached before -/
theorem OwnedInv.newcomer_holds_nothing {s : Sys} (h : OwnedInv s) {c : ConnId} {v : Nat} {b w out} (hu : c ∉ s.used)
    (hst : step s.b s.w (.newConn c v) = .ok (b, w, out)) (y : Hold) : own ⟨b, w, []⟩ y ≠ some c := by
  intro hy
  obtain ⟨s0, h0, h2⟩ := step_ok hst
  have hle := (handleEvent_ownLe (fun _ _ => Event.noConfusion) h0).trans (processLoop_own _ (handleEvent_own h.g2 h.owns h0) h2).2
  exact hu (h.conns c (holder_exists h.owns (hle y c hy)))

end Aldrin.System
