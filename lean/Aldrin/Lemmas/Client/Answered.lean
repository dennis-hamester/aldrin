/-
No request is left waiting: in the composed system, for a connection that the broker still serves, every serial the
client has in one of its maps belongs to a request that is on its way to the broker or to a reply that is on its way
to the client. When both queues are empty the maps are empty.
-/
import Aldrin.Lemmas.Broker.Answers
import Aldrin.Lemmas.Client.Agreement

namespace Aldrin.System
open Aldrin.Broker Aldrin.Client

def AnsLink (b : St) (c : ConnId) (l : Link) : Prop :=
  aliveB b c = true → ∀ k n, k ≠ SKind.queryIntrospection → n ∈ pendingOf l.mon k → 0 < cnt l (k, n)

def AnsInv : Sys → Prop := Linkwise AnsLink

theorem AnsLink_send {b : St} {c : ConnId} {l : Link} {r : Req} (h : AnsLink b c l) :
    AnsLink b c { l with mon := onSend l.mon r, up := l.up ++ [r] } := by
  intro ha k n hk hn
  rw [cnt_send]
  rcases mem_pendingOf_onSend.mp hn with hn | hn
  · have := h ha k n hk hn; omega
  · rw [if_pos (reqKeyS_eq_some_iff.mpr ⟨hk, hn⟩)]; omega

theorem AnsLink_recv {b : St} {c : ConnId} {l : Link} {m : Rsp} {rest : List Rsp} {mon : CSt} (hd : l.down = m :: rest)
    (ho : onRecv l.mon m = .ok mon) (h : AnsLink b c l) : AnsLink b c { l with mon := mon, down := rest } := by
  intro ha k n hk hn
  rw [mem_pendingOf_onRecv ho] at hn
  have h0 := h ha k n hk hn.1
  have hc := cnt_recv mon hd (k, n)
  rw [if_neg fun hm => hn.2 (strictKey_eq_some_iff.mp hm).2] at hc
  omega

theorem AnsLink_handle {b b' : Broker} {w w' : Work} {c : ConnId} {l : Link} {r : Req} {rest : List Req} {out : List Out}
    (hu : l.up = r :: rest) (hst : step b w (.msg c r) = .ok (b', w', out)) (h : AnsLink ⟨b, w, []⟩ c l) :
    AnsLink ⟨b', w', []⟩ c { l with up := rest, down := l.down ++ delivered out c } := by
  intro ha k n hk hn
  have ha0 := step_alive_of hst (fun _ => Event.noConfusion) ha
  have h0 := h ha0 k n hk hn
  have hc := cnt_handle (delivered out c) hu (k, n)
  by_cases hkey : reqKeyS r = some (k, n)
  · -- the request that has just been handled: its reply is on its way now
    rcases step_msg_reply hst with h1 | ⟨o, t, h1, hto, hko, _, ht⟩
    · exact absurd h1 (step_msg_answers hst ha0 ha (by rw [hkey]; rfl))
    · rw [delivered_keys_one (c := c) h1 (hkey ▸ hko) (fun y hy => (ht y hy).2), hto, if_pos hkey] at hc
      simp at hc; omega
  · rw [if_neg hkey] at hc; omega

theorem sysStep_ans {s s' : Sys} (hs : SysStep s s') (h : AnsInv s) : AnsInv s' :=
  sysStep_linkwise hs h
    (fun _ _ _ _ k n _ hn => by rw [pendingOf_init] at hn; cases hn)
    (fun _ _ hi => AnsLink_send hi)
    (fun _ hd ho hi => AnsLink_recv hd ho hi)
    (fun _ hu hst hi => AnsLink_handle hu hst hi)
    -- a link that only has messages added keeps what is on its way
    (fun _ _ hn hst hi ha k n hk hp =>
      Nat.lt_of_lt_of_le (hi (step_alive_of hst hn ha) k n hk hp) (by rw [cnt_deliver]; omega))

theorem AnsInv_init : AnsInv {} := Linkwise_init _

theorem sysRun_ans (es : List SysEv) (s s' : Sys) : sysRun s es = some s' → AnsInv s → AnsInv s' :=
  sysRun_induction (fun _ _ => sysStep_ans) es s s'

end Aldrin.System
