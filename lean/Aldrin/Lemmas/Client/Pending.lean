/-
The vocabulary in which the serial maps of the client model are spoken of: the kinds of request whose reply is
checked against a map (`SKind`), the serials in the map of a kind (`pendingOf`), kind and serial of a request and of a
reply (`reqKey`, `rspKey`), and `take` / `takeAL` / the keys of an association list as operations on a set of serials.
`Model/System.lean` states `freshSerial` in these terms, which is why that model imports this file.
-/
import Aldrin.Model.Client
import Aldrin.Lemmas.Broker.AL

namespace Aldrin.Client
open Aldrin.Broker

/-- The request kinds whose reply the client refuses when it does not know the serial. -/
inductive SKind where
  | createObject | createService | createChannel | closeChannelEnd | claimChannelEnd | sync
  | createBusListener | destroyBusListener | startBusListener | stopBusListener
  | queryServiceInfo | queryServiceVersion | subscribeEvent | subscribeService
  | subscribeAllEvents | unsubscribeAllEvents | queryIntrospection
  deriving DecidableEq, Repr

def pendingOf (s : CSt) : SKind → List Nat
  | .createObject => s.createObject
  | .createService => s.createService
  | .createChannel => AL.keys s.createChannel
  | .closeChannelEnd => AL.keys s.closeChannelEnd
  | .claimChannelEnd => AL.keys s.claimChannelEnd
  | .sync => s.sync
  | .createBusListener => s.createBusListener
  | .destroyBusListener => AL.keys s.destroyBusListener
  | .startBusListener => AL.keys s.startBusListener
  | .stopBusListener => AL.keys s.stopBusListener
  | .queryServiceInfo => s.queryServiceInfo
  | .queryServiceVersion => s.queryServiceVersion
  | .subscribeEvent => s.subscribeEvent
  | .subscribeService => s.subscribeService
  | .subscribeAllEvents => s.subscribeAllEvents
  | .unsubscribeAllEvents => s.unsubscribeAllEvents
  | .queryIntrospection => s.queryIntrospection

/-- kind and serial of a request that will be answered under its serial -/
def reqKey : Req → Option (SKind × Nat)
  | .createObject n _ => some (.createObject, n)
  | .createService n _ _ _ => some (.createService, n)
  | .createService2 n _ _ _ => some (.createService, n)
  | .subscribeEvent (some n) _ _ => some (.subscribeEvent, n)
  | .queryServiceVersion n _ => some (.queryServiceVersion, n)
  | .queryServiceInfo n _ => some (.queryServiceInfo, n)
  | .subscribeService n _ => some (.subscribeService, n)
  | .subscribeAllEvents (some n) _ => some (.subscribeAllEvents, n)
  | .unsubscribeAllEvents (some n) _ => some (.unsubscribeAllEvents, n)
  | .createChannel n _ _ => some (.createChannel, n)
  | .closeChannelEnd n _ _ => some (.closeChannelEnd, n)
  | .claimChannelEnd n _ _ _ => some (.claimChannelEnd, n)
  | .sync n => some (.sync, n)
  | .createBusListener n => some (.createBusListener, n)
  | .destroyBusListener n _ => some (.destroyBusListener, n)
  | .startBusListener n _ _ => some (.startBusListener, n)
  | .stopBusListener n _ => some (.stopBusListener, n)
  | .queryIntrospection n _ => some (.queryIntrospection, n)
  | _ => none

/-- kind and serial of a reply -/
def rspKey : Rsp → Option (SKind × Nat)
  | .createObjectReply n _ => some (.createObject, n)
  | .createServiceReply n _ => some (.createService, n)
  | .subscribeEventReply n _ => some (.subscribeEvent, n)
  | .queryServiceVersionReply n _ => some (.queryServiceVersion, n)
  | .queryServiceInfoReply n _ => some (.queryServiceInfo, n)
  | .subscribeServiceReply n _ => some (.subscribeService, n)
  | .subscribeAllEventsReply n _ => some (.subscribeAllEvents, n)
  | .unsubscribeAllEventsReply n _ => some (.unsubscribeAllEvents, n)
  | .createChannelReply n _ => some (.createChannel, n)
  | .closeChannelEndReply n _ => some (.closeChannelEnd, n)
  | .claimChannelEndReply n _ => some (.claimChannelEnd, n)
  | .syncReply n => some (.sync, n)
  | .createBusListenerReply n _ => some (.createBusListener, n)
  | .destroyBusListenerReply n _ => some (.destroyBusListener, n)
  | .startBusListenerReply n _ => some (.startBusListener, n)
  | .stopBusListenerReply n _ => some (.stopBusListener, n)
  | .queryIntrospectionReply n _ => some (.queryIntrospection, n)
  | _ => none

/-- the keys of a map behave as a set of serials: `HashMap::insert` / `remove` are `HashSet::insert` / `remove` on them -/
theorem keys_insert {V : Type} (k : Nat) (v : V) (m : List (Nat × V)) : AL.keys (AL.insert k v m) = sinsert k (AL.keys m) := by
  unfold sinsert AL.keys
  cases h : AL.find? k m with
  | none => rw [AL.keys_insert_of_none h, if_neg (by simpa using AL.find?_none_iff.mp h)]
  | some v' =>
    have : k ∈ m.map Prod.fst := Classical.not_not.mp fun hn => by simp [AL.find?_none_iff.mpr hn] at h
    rw [AL.keys_insert_of_some h, if_pos (by simpa using this)]

theorem keys_erase {V : Type} (k : Nat) (m : List (Nat × V)) : AL.keys (AL.erase k m) = sremove k (AL.keys m) := by
  simp only [AL.keys, AL.erase, sremove, List.filter_map]; rfl

theorem mem_keys_iff_find {V : Type} {k : Nat} {m : List (Nat × V)} : k ∈ AL.keys m ↔ ∃ v, AL.find? k m = some v := by
  rw [← Option.ne_none_iff_exists', ne_eq, AL.find?_none_iff, Classical.not_not]; rfl

theorem take_eq_some_iff {n : Nat} {m m' : List Nat} : take n m = some m' ↔ n ∈ m ∧ m' = sremove n m := by
  by_cases h : n ∈ m <;> simp [take, h, eq_comm]

theorem take_eq_none_iff {n : Nat} {m : List Nat} : take n m = none ↔ n ∉ m := by
  by_cases h : n ∈ m <;> simp [take, h]

theorem takeAL_eq_some_iff {V : Type} {n : Nat} {m m' : List (Nat × V)} {v : V} :
    takeAL n m = some (v, m') ↔ AL.find? n m = some v ∧ m' = AL.erase n m := by
  unfold takeAL
  cases AL.find? n m <;> simp [eq_comm]

theorem takeAL_of_find {V : Type} {n : Nat} {m : List (Nat × V)} {v : V} (h : AL.find? n m = some v) :
    takeAL n m = some (v, AL.erase n m) := takeAL_eq_some_iff.mpr ⟨h, rfl⟩

theorem takeAL_eq_none_iff {V : Type} {n : Nat} {m : List (Nat × V)} : takeAL n m = none ↔ AL.find? n m = none := by
  unfold takeAL
  cases AL.find? n m <;> simp

theorem takeAL_some {V : Type} {n : Nat} {m m' : List (Nat × V)} {v : V} (h : takeAL n m = some (v, m')) :
    n ∈ AL.keys m ∧ m' = AL.erase n m :=
  have ⟨hf, he⟩ := takeAL_eq_some_iff.mp h
  ⟨mem_keys_iff_find.mpr ⟨v, hf⟩, he⟩

theorem takeAL_none {V : Type} {n : Nat} {m : List (Nat × V)} (h : takeAL n m = none) : n ∉ AL.keys m := by
  rw [mem_keys_iff_find, takeAL_eq_none_iff.mp h]; simp

end Aldrin.Client
