/-
What an accepted message does to the client's book-keeping. The serial maps, the listener part and the channel part
are three machines that run side by side: `onRecv` accepts a message only if each of them does, and takes each of them
to its next state.
-/
import Aldrin.Lemmas.Client.ChannelView

namespace Aldrin.Client
open Aldrin.Broker

theorem onRecv_ok {s s' : CSt} {m : Rsp} : onRecv s m = .ok s' →
    (pendings s' = match rspKey m with
      | some (k, n) => (pendings s).set k.ctorIdx (sremove n (pendingOf s k))
      | none => pendings s) ∧
    lRecv (lview s) m = some (lview s') ∧ cRecv (cview s) m = some (cview s') := by
  -- one goal per path through `onRecv`; on the accepted ones `s'` becomes the state the path ends in
  fun_cases onRecv s m <;> intro h <;> (try split at h) <;>
    first
    | cases h
    | (have h' := Verdict.ok.inj h; subst h')
    | (obtain ⟨hf, rfl⟩ := channelEndClosed_ok h)
    | (obtain ⟨hf, rfl⟩ := channelEndClaimed_ok h)
  all_goals exact ⟨
    -- the serial of a reply goes from the map of its kind
    by first
      | rfl
      | exact pendings_setEnds ..
      | (first | obtain ⟨-, rfl⟩ := take_eq_some_iff.mp ‹_› | obtain ⟨-, rfl⟩ := takeAL_eq_some_iff.mp ‹_›
         (try rw [pendings_setEnds]); first | rfl | (simp +zetaDelta only [pendings, keys_erase]; rfl)),
    -- `lRecv` does the lookups the path has done
    by first | rfl | (rw [lview_setEnds]; rfl) | simp +zetaDelta only [lRecv, lview, *, ↓reduceIte],
    -- and so does `cRecv`
    by first
      | rfl
      | (simp +zetaDelta only [cRecv, cview, *, ↓reduceIte] <;>
          first | rfl | (cases ‹ChanEnd› <;> rfl) | (generalize CloseReq.e _ = e; cases e <;> rfl))
      | (rcases hf with hf | hf <;> simp only [cRecv, cview_ends, cview_setEnds, hf])
      | simp only [cRecv, cview_ends, cview_setEnds, hf]
      | exact if_pos ‹_›⟩

theorem pendingOf_onRecv {s s' : CSt} {m : Rsp} (h : onRecv s m = .ok s') (k : SKind) :
    pendingOf s' k = match rspKey m with
      | some (k', n) => if k' = k then sremove n (pendingOf s k) else pendingOf s k
      | none => pendingOf s k :=
  pendingOf_of_key (onRecv_ok h).1 k

theorem mem_pendingOf_onRecv {s s' : CSt} {m : Rsp} {k : SKind} {x : Nat} (h : onRecv s m = .ok s') :
    x ∈ pendingOf s' k ↔ x ∈ pendingOf s k ∧ rspKey m ≠ some (k, x) := by
  rw [pendingOf_onRecv h]
  cases rspKey m with
  | none => simp
  | some p =>
    obtain ⟨k', n⟩ := p
    by_cases hk : k' = k
    · simp [hk, mem_sremove, eq_comm, and_comm]
    · simp [hk]

theorem lview_onRecv {s s' : CSt} {m : Rsp} (h : onRecv s m = .ok s') : lRecv (lview s) m = some (lview s') :=
  (onRecv_ok h).2.1

theorem cview_onRecv {s s' : CSt} {m : Rsp} (h : onRecv s m = .ok s') : cRecv (cview s) m = some (cview s') :=
  (onRecv_ok h).2.2

theorem replay_pending : ∀ (h : List Ev) (s s' : CSt) (k : SKind) (x : Nat), replay s h = some s' →
    (x ∈ pendingOf s' k ↔ openFrom (decide (x ∈ pendingOf s k)) k x h = true) := by
  intro h
  induction h with
  | nil => intro s s' k x hr; simp [replay] at hr; subst hr; simp [openFrom]
  | cons e h ih =>
    intro s s' k x hr
    cases e with
    | sent r =>
      simp only [replay] at hr
      rw [ih _ _ k x hr]
      simp only [openFrom]
      congr 2
      have := mem_pendingOf_onSend (s := s) (r := r) (k := k) (x := x)
      by_cases h1 : x ∈ pendingOf s k <;> by_cases h2 : reqKey r = some (k, x) <;> simp_all
    | got m =>
      simp only [replay] at hr
      split at hr
      · rename_i s1 hs1
        rw [ih _ _ k x hr]
        simp only [openFrom]
        congr 2
        have := mem_pendingOf_onRecv (k := k) (x := x) hs1
        by_cases h1 : x ∈ pendingOf s k <;> by_cases h2 : rspKey m = some (k, x) <;> simp_all
      · simp at hr

end Aldrin.Client
