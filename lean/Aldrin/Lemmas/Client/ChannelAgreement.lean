/-
Channel agreement in the composed system: what the broker puts into the clients' queues about channels — replies to
create / close / claim, notifications that the other end was claimed or closed, items, capacity — is accepted by the
client it is for when it gets there, in every interleaving.
-/
import Aldrin.Lemmas.Broker.ChanOut
import Aldrin.Lemmas.Client.Owners
import Aldrin.Lemmas.Client.ChannelView

namespace Aldrin.System
open Aldrin.Broker Aldrin.Client

theorem cDrain_delivered_cf (out : List Out) (x : ConnId) (v : CV) :
    cDrain v (delivered out x) = cDrain v (delivered (cf out) x) := by
  rw [cf, delivered_filter isC, cDrain, drain_filter fun _ _ => cRecv_not_isC]

/-- what the owner of an end has to remember about it, by the state of the other end -/
def wantOf : EndState → Option EndSt
  | .unclaimed => some .pending
  | .claimed _ _ => some .established
  | .closed => none

theorem wantOf_of_ne_closed {st : EndState} (h : st ≠ .closed) : ∃ w, wantOf st = some w ∧ (w = .pending ∨ w = .established) := by
  cases st
  · exact ⟨_, rfl, .inl rfl⟩
  · exact ⟨_, rfl, .inr rfl⟩
  · exact absurd rfl h

/-- the broker's channel table against one client's view (after what is on its way to it), except for the ends in `ex` -/
def ChanRelEx (ex : Cookie → ChanEnd → Prop) (b : St) (x : ConnId) (v : CV) : Prop :=
  ∀ ck ch e cap w, AL.find? ck b.b.channels = some ch → ch.endState e = .claimed x cap → ¬ ex ck e →
    wantOf (ch.endState (peerEnd e)) = some w → AL.find? ck (v.ends e) = some w

/-- … asked of a connection the broker still serves -/
def CRelAt (ex : Cookie → ChanEnd → Prop) (b : St) (x : ConnId) (v : CV) : Prop := aliveB b x = true → ChanRelEx ex b x v

def noEx : Cookie → ChanEnd → Prop := fun _ _ => False
def exOne (ck0 : Cookie) (e0 : ChanEnd) : Cookie → ChanEnd → Prop := fun ck e => ck = ck0 ∧ e = e0

theorem CRelAt.weaken {ex : Cookie → ChanEnd → Prop} {b : St} {x : ConnId} {v : CV} (h : CRelAt noEx b x v) : CRelAt ex b x v :=
  fun ha ck ch e cap w h1 h2 _ h4 => h ha ck ch e cap w h1 h2 (fun f => f) h4

theorem peerEnd_ne (e : ChanEnd) : peerEnd e ≠ e := by cases e <;> simp [peerEnd]
theorem peerEnd_peerEnd (e : ChanEnd) : peerEnd (peerEnd e) = e := by cases e <;> rfl
theorem eq_or_peer (e e2 : ChanEnd) : e2 = e ∨ e2 = peerEnd e := by cases e <;> cases e2 <;> simp [peerEnd]

@[simp] theorem CV.ends_setEnds_self (v : CV) (e : ChanEnd) (m) : (v.setEnds e m).ends e = m := by cases e <;> rfl
theorem CV.ends_setEnds_ne (v : CV) {e e2 : ChanEnd} (m) (h : e2 ≠ e) : (v.setEnds e m).ends e2 = v.ends e2 := by
  cases e <;> cases e2 <;> simp_all [CV.setEnds, CV.ends]

theorem peerEnd_eq_other (e : ChanEnd) : peerEnd e = e.other := by cases e <;> rfl

/-- One function of the broker, link by link: a view that agreed with the table before takes the channel messages added
for its connection and agrees with the table after. No handler looks at the view of a connection other than the one it
writes to, so the links are independent of each other. -/
def CPres (ex : Cookie → ChanEnd → Prop) (s s' : St) : Prop :=
  ∃ l, cf s'.out = cf s.out ++ l ∧ ∀ x v, CRelAt ex s x v → ∃ v', cDrain v (delivered l x) = some v' ∧ CRelAt noEx s' x v'

theorem CPres.trans {ex : Cookie → ChanEnd → Prop} {a b c : St} (h1 : CPres ex a b) (h2 : CPres noEx b c) : CPres ex a c := by
  obtain ⟨l1, e1, p1⟩ := h1
  obtain ⟨l2, e2, p2⟩ := h2
  refine ⟨l1 ++ l2, by rw [e2, e1, List.append_assoc], fun x v hr => ?_⟩
  obtain ⟨v1, a1, r1⟩ := p1 x v hr
  obtain ⟨v2, a2, r2⟩ := p2 x v1 r1
  exact ⟨v2, by rw [delivered_append, cDrain_append, a1]; exact a2, r2⟩

theorem CPres.weaken {ex : Cookie → ChanEnd → Prop} {a b : St} (h : CPres ex a b) : CPres noEx a b := by
  obtain ⟨l, e, p⟩ := h
  exact ⟨l, e, fun x v hr => p x v hr.weaken⟩

theorem CPres.of_same {s s' : St} (hc : s'.b.channels = s.b.channels) (ha : AliveLe s s') (ho : SameC s s') : CPres noEx s s' :=
  ⟨[], by rw [ho]; simp, fun x v hr => ⟨v, rfl, fun hal ck ch e cap w h1 => hr (ha x hal) ck ch e cap w (hc ▸ h1)⟩⟩

theorem CPres.refl (s : St) : CPres noEx s s := CPres.of_same rfl (AliveLe.refl s) (SameC.refl s)

theorem CPres.frame : Frame (CPres noEx) ([.channels] ++ ([.conn .alive, .connNew] ++ [.emit .createChannelReply, .emit .closeChannelEndReply,
    .emit .channelEndClosed, .emit .claimChannelEndReply, .emit .channelEndClaimed, .emit .itemReceived, .emit .addChannelCapacity])) :=
  ⟨CPres.refl, CPres.trans, fun hp hb =>
    have h := (channels_frame.and (AliveLe.frame.and SameC.frame)).step hp hb
    .of_same h.1 h.2.1 h.2.2⟩

theorem find?_insert_peerClosed {ck ck2 : Cookie} {m : List (Cookie × EndSt)} {w : EndSt} (hne : ck2 ≠ ck)
    (h : AL.find? ck2 m = some w) (st : EndSt) : AL.find? ck2 (AL.insert ck st m) = some w := by
  rw [AL.find?_insert_ne _ _ (fun e => hne e.symm)]; exact h

theorem find_setEntry (v v0 : CV) (e : ChanEnd) (ck : Cookie) (st : EndSt) (h0 : ∀ e2, v0.ends e2 = v.ends e2)
    (ck2 : Cookie) (e2 : ChanEnd) :
    AL.find? ck2 ((v0.setEnds e (AL.insert ck st (v.ends e))).ends e2) =
      if ck2 = ck ∧ e2 = e then some st else AL.find? ck2 (v.ends e2) := by
  rcases eq_or_peer e e2 with he | he
  · subst he; rw [CV.ends_setEnds_self, AL.find?_insert]
    by_cases hk : ck = ck2 <;> simp [hk, eq_comm]
  · subst he; rw [CV.ends_setEnds_ne _ _ (peerEnd_ne e), h0, if_neg (fun f => peerEnd_ne e f.2)]

theorem cf_told {c : Bool} {o : Out} (h : isC o.msg = true) : cf (if c then [o] else []) = if c then [o] else [] := by
  cases c <;> simp [cf, h]

/-- One message `o` about channels, which is in the queue iff its addressee is alive, and which the view of the addressee
accepts by setting the entry of `ck` in its map of ends `e` to `st` (`hacc`): the view of `x` afterwards has that entry if
`x` is the addressee, and all other entries as before. -/
theorem drain_setEntry {s : St} {o : Out} {x : ConnId} {v : CV} {ck : Cookie} {e : ChanEnd} {st : EndSt}
    (hacc : o.to = x → aliveB s x = true → ∃ v', cRecv v o.msg = some v' ∧
      ∀ ck2 e2, AL.find? ck2 (v'.ends e2) = if ck2 = ck ∧ e2 = e then some st else AL.find? ck2 (v.ends e2)) :
    ∃ v', cDrain v (delivered (if aliveB s o.to then [o] else []) x) = some v' ∧
      (∀ ck2 e2, ¬ (ck2 = ck ∧ e2 = e) → AL.find? ck2 (v'.ends e2) = AL.find? ck2 (v.ends e2)) ∧
      (o.to = x → aliveB s x = true → AL.find? ck (v'.ends e) = some st) := by
  cases hal : aliveB s o.to
  · exact ⟨v, rfl, fun _ _ _ => rfl, fun h ha => by rw [← h, hal] at ha; cases ha⟩
  · by_cases hx : o.to = x
    · obtain ⟨v1, hrecv, hent⟩ := hacc hx (hx ▸ hal)
      refine ⟨v1, ?_, fun ck2 e2 hne => by rw [hent, if_neg hne], fun _ _ => by rw [hent, if_pos ⟨rfl, rfl⟩]⟩
      simp only [↓reduceIte, delivered, List.filter_cons, hx, decide_true, List.filter_nil, List.map_cons, List.map_nil,
        cDrain, drain, hrecv]
    · exact ⟨v, by simp [delivered, hx, cDrain, drain], fun _ _ _ => rfl, fun h => absurd h hx⟩

/-- all a handler touches is one row: the relation has to be re-established for that cookie only; other rows stay or go -/
theorem rel_row {ex : Cookie → ChanEnd → Prop} {s s' : St} {x : ConnId} {v v' : CV} (ck : Cookie) (hal : AliveLe s s')
    (hr : CRelAt ex s x v) (hex : ∀ ck2 e2, ex ck2 e2 → ck2 = ck)
    (htbl : ∀ ck2 ch, ck2 ≠ ck → AL.find? ck2 s'.b.channels = some ch → AL.find? ck2 s.b.channels = some ch)
    (hv : ∀ ck2 e2, ck2 ≠ ck → AL.find? ck2 (v'.ends e2) = AL.find? ck2 (v.ends e2))
    (hck : aliveB s' x = true → ∀ ch e cap w, AL.find? ck s'.b.channels = some ch →
      ch.endState e = .claimed x cap → wantOf (ch.endState (peerEnd e)) = some w → AL.find? ck (v'.ends e) = some w) :
    CRelAt noEx s' x v' := by
  intro ha ck2 ch2 e2 cap w h1 h2 _ h4
  by_cases hk : ck2 = ck
  · subst hk; exact hck ha ch2 e2 cap w h1 h2 h4
  · rw [hv ck2 e2 hk]
    exact hr (hal x ha) ck2 ch2 e2 cap w (htbl ck2 ch2 hk h1) h2 (fun f => hk (hex _ _ f)) h4

/-- `remove_channel_end` by rows: other rows stay or go, row `ck` goes or has end `e` closed; nothing is said, or the owner of
the other end of a channel that was there with `e` not closed is told -/
theorem removeChannelEnd_rows {s s' : St} {ck : Cookie} {e : ChanEnd} {owner : Option ConnId}
    (h : removeChannelEnd s ck e owner = .ok s') :
    (∀ ck2 ch2, ck2 ≠ ck → AL.find? ck2 s'.b.channels = some ch2 → AL.find? ck2 s.b.channels = some ch2) ∧
    (∀ ch', AL.find? ck s'.b.channels = some ch' → ch'.endState e = .closed) ∧
    (s'.out = s.out ∨ ∃ ch o capo, AL.find? ck s.b.channels = some ch ∧ ch.endState e ≠ .closed ∧
      ch.endState (peerEnd e) = .claimed o capo ∧
      s'.out = s.out ++ if aliveB s o then [⟨o, .channelEndClosed ck e, none⟩] else []) := by
  refine ⟨fun ck2 ch2 hne h1 => (removeChannelEnd_channels h).1 ck2 hne ▸ h1, ?_⟩
  obtain ⟨hn, rfl⟩ | ⟨ch, ch', other, hch, hcl, rfl⟩ := removeChannelEnd_outcome h
  · exact ⟨fun ch' h1 => (by rw [hn] at h1; cases h1), .inl rfl⟩
  obtain ⟨c3, c1, -, c4⟩ := Chan.close_shape hcl
  obtain ⟨-, -, ⟨o, rfl, -, hc, hout⟩ | ⟨-, hc, hout⟩⟩ := rceFinish_shape (rceConn s ck e owner) ck e ch' other
  all_goals rw [rceConn_channels] at hc; rw [rceConn_out] at hout
  · obtain ⟨capo, hpo⟩ := endOwner_eq_some c4.symm
    exact ⟨fun ch2 h1 => (by rw [hc, AL.find?_insert_self] at h1; cases h1; exact c1),
      .inr ⟨ch, o, capo, hch, c3, peerEnd_eq_other e ▸ hpo, by rw [hout, rceConn_aliveB]⟩⟩
  · exact ⟨fun ch2 h1 => (by rw [hc, AL.find?_erase, if_pos rfl] at h1; cases h1), .inl hout⟩

theorem removeChannelEnd_pres {s s' : St} {ck : Cookie} {e : ChanEnd} {owner : Option ConnId}
    (h : removeChannelEnd s ck e owner = .ok s') : CPres (exOne ck e) s s' := by
  have hal := (removeChannelEnd_fp h).frame AliveLe.frame
  obtain ⟨hrows, hrow, hout⟩ := removeChannelEnd_rows h
  -- no end of a channel with a closed end has anything to remember
  have hrel : ∀ x v v', CRelAt (exOne ck e) s x v → (∀ ck2 e2, ck2 ≠ ck → AL.find? ck2 (v'.ends e2) = AL.find? ck2 (v.ends e2)) →
      CRelAt noEx s' x v' := fun x v v' hr hv => rel_row ck hal hr (fun _ _ f => f.1) hrows hv fun _ ch2 e2 cap w h1 h2 h4 => by
    have c1 := hrow ch2 h1
    rcases eq_or_peer e e2 with rfl | rfl
    · rw [c1] at h2; cases h2
    · rw [peerEnd_peerEnd, c1] at h4; cases h4
  rcases hout with hout | ⟨ch, o, capo, hch, c3, hpo, hout⟩
  · exact ⟨[], by rw [hout]; simp, fun x v hr => ⟨v, rfl, hrel x v v hr fun _ _ _ => rfl⟩⟩
  · refine ⟨_, by rw [hout, cf_append, cf_told rfl], fun x v hr => ?_⟩
    -- the owner of the other end, if it is there to be told, marks its end as closed by the peer
    obtain ⟨w, hw, hwne⟩ := wantOf_of_ne_closed c3
    obtain ⟨v', hd, hsame, -⟩ := drain_setEntry (s := s) (o := ⟨o, .channelEndClosed ck e, none⟩) (x := x) (v := v) (ck := ck)
        (e := peerEnd e) (st := .peerClosed) (fun hx hao => by
      have hf := hr hao ck ch (peerEnd e) capo w hch (hx ▸ hpo) (fun f => peerEnd_ne e f.2) (by rw [peerEnd_peerEnd]; exact hw)
      refine ⟨_, ?_, find_setEntry v v (peerEnd e) ck .peerClosed (fun _ => rfl)⟩
      simp only [cRecv, hf]
      rcases hwne with rfl | rfl <;> rfl)
    exact ⟨v', hd, hrel x v v' hr fun ck2 e2 hne => hsame ck2 e2 fun f => hne f.1⟩

theorem rel_one_cookie {s s' : St} {x : ConnId} {v v' : CV} (ck : Cookie) (hal : AliveLe s s') (hr : CRelAt noEx s x v)
    (htbl : ∀ ck2, ck2 ≠ ck → AL.find? ck2 s'.b.channels = AL.find? ck2 s.b.channels)
    (hv : ∀ ck2 e2, ck2 ≠ ck → AL.find? ck2 (v'.ends e2) = AL.find? ck2 (v.ends e2))
    (hck : aliveB s' x = true → ∀ ch e cap w, AL.find? ck s'.b.channels = some ch →
      ch.endState e = .claimed x cap → wantOf (ch.endState (peerEnd e)) = some w → AL.find? ck (v'.ends e) = some w) :
    CRelAt noEx s' x v' :=
  rel_row ck hal hr (fun _ _ f => f.elim) (fun ck2 _ hne h => htbl ck2 hne ▸ h) hv hck

/-- the entry the client has for a channel request that is on its way -/
def CPend (v : CV) : Req → Prop
  | .createChannel n e _ => AL.find? n v.create = some e
  | .closeChannelEnd n ck e => ∃ fl, AL.find? n v.close = some ⟨ck, e, fl⟩
  | .claimChannelEnd n ck e _ => AL.find? n v.claim = some (e, ck)
  | _ => True

/-- a handler for request `r` of connection `id`, whose view has the entry of `r` -/
def CPresR (s s' : St) (id : ConnId) (r : Req) : Prop :=
  ∃ l, cf s'.out = cf s.out ++ l ∧ ∀ x v, CRelAt noEx s x v → (x = id → CPend v r) →
    ∃ v', cDrain v (delivered l x) = some v' ∧ CRelAt noEx s' x v'

theorem CPresR.of_pres {s s' : St} {id : ConnId} {r : Req} (h : CPres noEx s s') : CPresR s s' id r := by
  obtain ⟨l, e, p⟩ := h
  exact ⟨l, e, fun x v hr _ => p x v hr⟩

/-- `create_channel` that does something: the next cookie names a channel with end `e` claimed by the requester and the
other end unclaimed, and the requester is told -/
theorem createChannel_result {s s' : St} {id n e cap} {ok : Bool} (h : createChannel s id n e cap = .ok (s', ok)) :
    s' = s ∨ ∃ ch cap', ch.endState e = .claimed id cap' ∧ ch.endState (peerEnd e) = .unclaimed ∧
      s'.b.channels = AL.insert s.b.nextCookie ch s.b.channels ∧
      s'.out = s.out ++ if aliveB s id then [⟨id, .createChannelReply n s.b.nextCookie, none⟩] else [] := by
  rcases createChannel_outcome h with h1 | ⟨_, _, h1⟩
  · exact .inl h1
  · have ha : aliveB (openChannel s id e cap) id = aliveB s id := by
      simp only [openChannel, aliveB_stat, aliveB_setChannels]
      exact aliveB_updConn _ _ _ _ fun _ => by cases e <;> rfl
    refine .inr ⟨Chan.fresh e id cap, match e with | .sender => 0 | .receiver => cap, by cases e <;> rfl, by cases e <;> rfl, ?_, ?_⟩
    · rw [show s' = _ from h1, St.send_b_channels]; simp [openChannel]
    · rw [show s' = _ from h1, St.send_out, ha]; simp [openChannel]

theorem CV.ends_with_create (v : CV) (m) (e : ChanEnd) : ({ v with create := m } : CV).ends e = v.ends e := by cases e <;> rfl
theorem CV.ends_with_close (v : CV) (m) (e : ChanEnd) : ({ v with close := m } : CV).ends e = v.ends e := by cases e <;> rfl
theorem CV.ends_with_claim (v : CV) (m) (e : ChanEnd) : ({ v with claim := m } : CV).ends e = v.ends e := by cases e <;> rfl

theorem createChannel_presR {s s' : St} {id n e cap} {ok : Bool} (h : createChannel s id n e cap = .ok (s', ok)) :
    CPresR s s' id (.createChannel n e cap) := by
  have hal := (createChannel_fp h).frame AliveLe.frame
  rcases createChannel_result h with rfl | ⟨ch, cap', he, hp, htbl, hout⟩
  · exact CPresR.of_pres (CPres.refl _)
  · refine ⟨if aliveB s id then [⟨id, .createChannelReply n s.b.nextCookie, none⟩] else [],
      by rw [hout, cf_append, cf_told rfl], fun x v hr hpend => ?_⟩
    -- the reply, if the requester is there to get it, enters the new end as pending
    obtain ⟨v', hd, hsame, hent⟩ := drain_setEntry (s := s) (o := ⟨id, .createChannelReply n s.b.nextCookie, none⟩) (x := x) (v := v)
      (ck := s.b.nextCookie) (e := e) (st := .pending)
      (fun hx _ => ⟨_, by simp only [cRecv, takeAL_of_find (hpend hx.symm)]; rfl, find_setEntry v _ e _ _ (CV.ends_with_create v _)⟩)
    refine ⟨v', hd, rel_one_cookie s.b.nextCookie hal hr (fun ck2 hne => by rw [htbl, AL.find?_insert_ne _ _ (fun f => hne f.symm)])
      (fun ck2 e2 hne => hsame ck2 e2 (fun f => hne f.1)) ?_⟩
    intro ha' ch2 e2 c2 w h1 h2 h4
    rw [htbl, AL.find?_insert_self] at h1; cases h1
    -- the new channel has one claimed end: `e`, of the requester
    rcases eq_or_peer e e2 with he2 | he2
    · subst he2
      rw [he] at h2; cases h2
      rw [hp] at h4; cases h4
      exact hent rfl (hal _ ha')
    · subst he2; rw [hp] at h2; cases h2

/-- `close_channel_end`: nothing is said (the requester is not there to be told); or the requester is told `r` (`s1`), and
then either `remove_channel_end` runs, or that is all and the end is not the requester's -/
theorem closeChannelEnd_result {s s' : St} {id n ck e} {ok : Bool} (h : closeChannelEnd s id n ck e = .ok (s', ok)) :
    (s'.b.channels = s.b.channels ∧ s'.out = s.out ∧ ∀ c, aliveB s' c = aliveB s c) ∨
    ∃ r s1, s1.b.channels = s.b.channels ∧ s1.out = s.out ++ [⟨id, .closeChannelEndReply n r, none⟩] ∧
      (∀ c, aliveB s1 c = aliveB s c) ∧ aliveB s id = true ∧
      ((∃ owner, removeChannelEnd s1 ck e owner = .ok s') ∨
       (s' = s1 ∧ ∀ ch cap, AL.find? ck s.b.channels = some ch → ch.endState e ≠ .claimed id cap)) := by
  have told : ∀ r, aliveB s id = true → (s.send id (.closeChannelEndReply n r)).1.b.channels = s.b.channels ∧
      (s.send id (.closeChannelEndReply n r)).1.out = s.out ++ [⟨id, .closeChannelEndReply n r, none⟩] ∧
      ∀ c, aliveB (s.send id (.closeChannelEndReply n r)).1 c = aliveB s c :=
    fun r ha => ⟨by simp, by rw [St.send_out, ha]; simp, fun _ => by simp⟩
  have untold : ∀ r, aliveB s id = false → s' = (s.send id (.closeChannelEndReply n r)).1 →
      s'.b.channels = s.b.channels ∧ s'.out = s.out ∧ ∀ c, aliveB s' c = aliveB s c :=
    fun r ha e => e ▸ ⟨by simp, by rw [St.send_out, ha]; simp, fun _ => by simp⟩
  rw [closeChannelEnd_eq] at h
  split at h
  · cases h; exact .inl ⟨rfl, rfl, fun _ => rfl⟩
  split at h
  · next hnone =>
    obtain ⟨rfl, -⟩ := pair_eq (Except.ok.inj h)
    cases ha : aliveB s id
    · exact .inl (untold _ ha rfl)
    · obtain ⟨a, b, c⟩ := told .invalidChannel ha
      exact .inr ⟨_, _, a, b, c, rfl, .inr ⟨rfl, fun ch cap hch => by rw [hnone] at hch; cases hch⟩⟩
  · next ch hch =>
    dsimp only at h
    rw [St.send_snd] at h
    cases ha : aliveB s id
    · simp only [ha, Bool.not_false, ↓reduceIte] at h
      cases h; exact .inl (untold _ ha rfl)
    · simp only [ha, Bool.not_true, Bool.false_eq_true, ↓reduceIte] at h
      obtain ⟨a, b, c⟩ := told (ch.checkClose id e).1 ha
      refine .inr ⟨_, _, a, b, c, rfl, ?_⟩
      split at h
      · cases hrm : removeChannelEnd (s.send id (.closeChannelEndReply n (ch.checkClose id e).1)).1 ck e
            (if (ch.checkClose id e).2 then some id else none) with
        | error p => rw [hrm] at h; cases h
        | ok s2 => rw [hrm] at h; cases h; exact .inl ⟨_, hrm⟩
      · next hne =>
        cases h
        refine .inr ⟨rfl, fun ch2 cap hch2 hc => hne ?_⟩
        rw [hch] at hch2; cases hch2
        exact (checkClose_spec ch id e).1.mpr (.inr ⟨cap, hc⟩)

theorem closeChannelEnd_presR {s s' : St} {id n ck e} {ok : Bool} (h : closeChannelEnd s id n ck e = .ok (s', ok)) :
    CPresR s s' id (.closeChannelEnd n ck e) := by
  rcases closeChannelEnd_result h with ⟨hc, ho, ha⟩ | ⟨r, s1, hc1, ho1, ha1, hlive, hrest⟩
  · exact CPresR.of_pres (CPres.of_same hc (fun c hc' => by rw [← ha c]; exact hc') (by simp [SameC, ho]))
  · -- the reply: the requester's view drops the request and, if it held the end, the end
    have step1 : ∀ x v, (x = id → CPend v (.closeChannelEnd n ck e)) →
        ∃ v1, cDrain v (delivered [⟨id, .closeChannelEndReply n r, none⟩] x) = some v1 ∧ (x ≠ id → v1 = v) ∧
          ∀ ck2 e2, ¬ (ck2 = ck ∧ e2 = e) → AL.find? ck2 (v1.ends e2) = AL.find? ck2 (v.ends e2) := by
      intro x v hpend
      by_cases hx : x = id
      · obtain ⟨fl, hp⟩ := hpend hx
        cases fl with
        | false =>
          exact ⟨{ v with close := AL.erase n v.close }, by simp [delivered, hx, cDrain, drain, cRecv, takeAL_of_find hp],
            fun f => absurd hx f, fun ck2 e2 _ => by rw [CV.ends_with_close]⟩
        | true =>
          refine ⟨({ v with close := AL.erase n v.close } : CV).setEnds e (AL.erase ck (v.ends e)),
            by simp [delivered, hx, cDrain, drain, cRecv, takeAL_of_find hp], fun f => absurd hx f, fun ck2 e2 hne => ?_⟩
          rcases eq_or_peer e e2 with he | he
          · subst he
            have : ck2 ≠ ck := fun f => hne ⟨f, rfl⟩
            rw [CV.ends_setEnds_self, AL.find?_erase_ne _ (fun f => this f.symm)]
          · subst he; rw [CV.ends_setEnds_ne _ _ (peerEnd_ne e), CV.ends_with_close]
      · exact ⟨v, by simp [delivered, Ne.symm hx, cDrain, drain], fun _ => rfl, fun _ _ _ => rfl⟩
    have hcf : cf s1.out = cf s.out ++ [⟨id, .closeChannelEndReply n r, none⟩] := by rw [ho1]; simp
    rcases hrest with ⟨owner, hrm⟩ | ⟨rfl, hnot⟩
    · obtain ⟨l2, e2, p2⟩ := removeChannelEnd_pres hrm
      refine ⟨[⟨id, .closeChannelEndReply n r, none⟩] ++ l2, by rw [e2, hcf, List.append_assoc], fun x v hr hpend => ?_⟩
      obtain ⟨v1, a1, _, hsame⟩ := step1 x v hpend
      have g1 : CRelAt (exOne ck e) s1 x v1 := by
        intro hal1 ck2 ch2 e2' cap w h1 h2 h3 h4
        rw [hsame ck2 e2' h3]
        rw [hc1] at h1
        exact hr (by rw [← ha1]; exact hal1) ck2 ch2 e2' cap w h1 h2 (fun f => f) h4
      obtain ⟨v2, a2, g2⟩ := p2 x v1 g1
      exact ⟨v2, by rw [delivered_append, cDrain_append, a1]; exact a2, g2⟩
    · refine ⟨[⟨id, .closeChannelEndReply n r, none⟩], hcf, fun x v hr hpend => ?_⟩
      obtain ⟨v1, a1, hid, hsame⟩ := step1 x v hpend
      refine ⟨v1, a1, ?_⟩
      intro hal1 ck2 ch2 e2' cap w h1 h2 _ h4
      rw [hc1] at h1
      by_cases hex : ck2 = ck ∧ e2' = e
      · obtain ⟨rfl, rfl⟩ := hex
        by_cases hxi : x = id
        · subst hxi; exact absurd h2 (hnot ch2 cap h1)
        · rw [hid hxi]
          exact hr (by rw [← ha1]; exact hal1) ck2 ch2 e2' cap w h1 h2 (fun f => f) h4
      · rw [hsame ck2 e2' hex]
        exact hr (by rw [← ha1]; exact hal1) ck2 ch2 e2' cap w h1 h2 (fun f => f) h4

/-- `claim_channel_end`: at most an answer that says why not; or the end is claimed in the table, the requester gets its
answer and the owner of the other end is told -/
theorem claimChannelEnd_result {s s' : St} {id n ck e cap} {ok : Bool} (h : claimChannelEnd s id n ck e cap = .ok (s', ok)) :
    (s'.b.channels = s.b.channels ∧ (∀ c, aliveB s' c = aliveB s c) ∧
      (s'.out = s.out ∨ ∃ r, (r = .alreadyClaimed ∨ r = .invalidChannel) ∧ s'.out = s.out ++ [⟨id, .claimChannelEndReply n r, none⟩])) ∨
    ∃ ch ch' other r ncap, AL.find? ck s.b.channels = some ch ∧ ch.claim e id cap = .ok (.ok (ch', other, r)) ∧
      s'.b.channels = AL.insert ck ch' s.b.channels ∧ (∀ c, aliveB s' c = aliveB s c) ∧
      s'.out = s.out ++ (if aliveB s id then [⟨id, .claimChannelEndReply n r, none⟩] else []) ++
        (if aliveB s other then [⟨other, .channelEndClaimed ck e ncap, none⟩] else []) := by
  rcases claimChannelEnd_states h with h1 | ⟨r, hr, h1⟩ | ⟨_, ch, ch', other, r, ncap, -, hch, hcl, h1⟩ <;> obtain rfl : s' = _ := h1
  · exact .inl ⟨rfl, fun _ => rfl, .inl rfl⟩
  · refine .inl ⟨by simp, fun _ => by simp, ?_⟩
    cases ha : aliveB s id
    · exact .inl (by rw [St.send_out, ha]; simp)
    · exact .inr ⟨r, hr, by rw [St.send_out, ha]; simp⟩
  · have ha : ∀ c, aliveB (claimEnd s id ck e ch') c = aliveB s c := fun c =>
      (aliveB_updConn _ _ _ _ fun _ => by cases e <;> rfl).trans (aliveB_setChannels ..)
    refine .inr ⟨ch, ch', other, r, ncap, hch, hcl, by simp [claimEnd], fun c => by simp [ha], ?_⟩
    rw [St.sendOrRemove_out, St.send_out, aliveB_send, ha, ha]; simp [claimEnd]

theorem claimChannelEnd_presR {s s' : St} {id n ck e cap} {ok : Bool} (h : claimChannelEnd s id n ck e cap = .ok (s', ok)) :
    CPresR s s' id (.claimChannelEnd n ck e cap) := by
  rcases claimChannelEnd_result h with ⟨hc, ha, hout⟩ | ⟨ch, ch', other, r, ncap, hch, hcl, htbl, ha, hout⟩
  · -- nothing claimed
    have hframe : ∀ x (v v' : CV), CRelAt noEx s x v → (∀ e2, v'.ends e2 = v.ends e2) → CRelAt noEx s' x v' := by
      intro x v v' hr hv hal ck2 ch2 e2 c2 w h1 h2 _ h4
      rw [hv]; rw [hc] at h1
      exact hr (by rw [← ha]; exact hal) ck2 ch2 e2 c2 w h1 h2 (fun f => f) h4
    rcases hout with hout | ⟨r, hr, hout⟩
    · exact ⟨[], by rw [hout]; simp, fun x v hg _ => ⟨v, rfl, hframe x v v hg (fun _ => rfl)⟩⟩
    · refine ⟨[⟨id, .claimChannelEndReply n r, none⟩], by rw [hout]; simp, fun x v hg hpend => ?_⟩
      by_cases hx : x = id
      · have hp : AL.find? n v.claim = some (e, ck) := hpend hx
        have hrecv : cRecv v (.claimChannelEndReply n r) = some { v with claim := AL.erase n v.claim } := by
          simp only [cRecv, takeAL_of_find hp]
          rcases hr with rfl | rfl <;> cases e <;> rfl
        exact ⟨{ v with claim := AL.erase n v.claim }, by simp [delivered, hx, cDrain, drain, hrecv],
          hframe x v _ hg (fun e2 => CV.ends_with_claim v _ e2)⟩
      · exact ⟨v, by simp [delivered, Ne.symm hx, cDrain, drain], hframe x v v hg (fun _ => rfl)⟩
  · -- claimed
    obtain ⟨hun, ⟨co, hpo⟩, ⟨ci, hci, hco'⟩, hkind⟩ := Chan.claim_shape hcl
    rw [← peerEnd_eq_other] at hpo hco'
    have hal : AliveLe s s' := fun c hc => by rw [← ha c]; exact hc
    have htbl2 : ∀ ck2, ck2 ≠ ck → AL.find? ck2 s'.b.channels = AL.find? ck2 s.b.channels := by
      intro ck2 hne; rw [htbl, AL.find?_insert_ne _ _ (fun f => hne f.symm)]
    have hnew : AL.find? ck s'.b.channels = some ch' := by rw [htbl, AL.find?_insert_self]
    refine ⟨(if aliveB s id then [⟨id, .claimChannelEndReply n r, none⟩] else []) ++
        (if aliveB s other then [⟨other, .channelEndClaimed ck e ncap, none⟩] else []),
      by rw [hout, List.append_assoc, cf_append, cf_append, cf_told rfl, cf_told rfl], fun x v hg hpend => ?_⟩
    -- the reply, if the requester is there to get it, enters its end as established
    obtain ⟨vA, hA1, hA2, hA3⟩ := drain_setEntry (s := s) (o := ⟨id, .claimChannelEndReply n r, none⟩) (x := x) (v := v) (ck := ck)
        (e := e) (st := .established) (fun hx _ => by
      refine ⟨_, ?_, find_setEntry v _ e ck .established (CV.ends_with_claim v (AL.erase n v.claim))⟩
      simp only [cRecv, takeAL_of_find (hpend hx.symm)]
      rcases hkind with ⟨rfl, c, rfl⟩ | ⟨rfl, rfl⟩ <;> rfl)
    -- the owner of the other end, if it is there to be told, finds its end pending and marks it as established
    obtain ⟨vB, hB1, hB2, hB3⟩ := drain_setEntry (s := s) (o := ⟨other, .channelEndClaimed ck e ncap, none⟩) (x := x) (v := vA)
        (ck := ck) (e := peerEnd e) (st := .established) (fun hx hao => by
      have hpend0 : AL.find? ck (vA.ends (peerEnd e)) = some .pending := by
        rw [hA2 ck (peerEnd e) (fun f => peerEnd_ne e f.2)]
        exact hg hao ck ch (peerEnd e) co .pending hch (hx ▸ hpo) (fun f => f) (by rw [peerEnd_peerEnd, hun]; rfl)
      exact ⟨_, by simp only [cRecv, hpend0], find_setEntry vA vA (peerEnd e) ck .established (fun _ => rfl)⟩)
    refine ⟨vB, by rw [delivered_append, cDrain_append, hA1]; exact hB1, rel_one_cookie ck hal hg htbl2
      (fun ck2 e2 hne => (hB2 ck2 e2 (fun f => hne f.1)).trans (hA2 ck2 e2 (fun f => hne f.1))) ?_⟩
    intro halx ch2 e2 c2 w h1 h2 h4
    rw [hnew] at h1; cases h1
    rcases eq_or_peer e e2 with he | he <;> rw [he] at h2 h4 ⊢
    · rw [hci] at h2; cases h2
      rw [hco'] at h4; cases h4
      rw [hB2 ck e (fun f => peerEnd_ne e f.2.symm)]; exact hA3 rfl (hal _ halx)
    · rw [hco'] at h2; cases h2
      rw [peerEnd_peerEnd, hci] at h4; cases h4
      exact hB3 rfl (hal _ halx)

theorem like_claimed {a b : EndState} (h : a.like b) {x : ConnId} {c : Nat} (hb : b = .claimed x c) : ∃ c0, a = .claimed x c0 := by
  subst hb; cases a <;> simp_all [EndState.like]

theorem like_wantOf {a b : EndState} (h : a.like b) : wantOf b = wantOf a := by
  cases a <;> cases b <;> simp_all [EndState.like, wantOf]

theorem told_mem {c : Bool} {o o' : Out} (h : o' ∈ (if c then [o] else [])) : o' = o ∧ c = true := by
  cases c <;> simp_all

theorem sendItem_spec {ch ch' : Chan} {id rid : ConnId} {add : Option Nat} (h : ch.sendItem id = .ok (.ok (ch', rid, add))) :
    (∀ e, (ch.endState e).like (ch'.endState e)) ∧ (∃ c1, ch.endState .sender = .claimed id c1) ∧
      (∃ c2, ch.endState .receiver = .claimed rid c2) := by
  obtain hx | ⟨scap, hs, ⟨hx, -⟩ | ⟨hx, -⟩ | ⟨r', rcap, hr, hx | ⟨a, b, add', hx⟩⟩⟩ := Chan.sendItem_shape h
  all_goals cases hx
  exact ⟨fun e => by cases e <;> simp [Chan.endState, hs, hr, EndState.like], ⟨scap, hs⟩, ⟨rcap, hr⟩⟩

/-- a message that only an established end accepts, sent to the owner of such an end -/
def CapMsg (s : St) (ch : Chan) (ck : Cookie) (o : Out) : Prop :=
  aliveB s o.to = true ∧
  ((∃ p, o.msg = .itemReceived ck p) ∧ (∃ c, ch.endState .receiver = .claimed o.to c) ∧ (∃ x c, ch.endState .sender = .claimed x c) ∨
   (∃ n, o.msg = .addChannelCapacity ck n) ∧ (∃ c, ch.endState .sender = .claimed o.to c) ∧ (∃ x c, ch.endState .receiver = .claimed x c))

theorem pres_caps {s s' : St} {ck : Cookie} {ch ch' : Chan} {l : List Out} (hch : AL.find? ck s.b.channels = some ch)
    (htbl : ∀ ck2, AL.find? ck2 s'.b.channels = if ck = ck2 then some ch' else AL.find? ck2 s.b.channels)
    (hk : ∀ e, (ch.endState e).like (ch'.endState e)) (hal : AliveLe s s') (hout : cf s'.out = cf s.out ++ l)
    (hl : ∀ o ∈ l, CapMsg s ch ck o) : CPres noEx s s' := by
  refine ⟨l, hout, fun x v hg => ⟨v, drain_fixed fun m hm => ?_, ?_⟩⟩
  · -- an item or a grant goes to the owner of an established end, who accepts it
    obtain ⟨o, ho, rfl, rfl⟩ := mem_delivered hm
    obtain ⟨hao, ⟨⟨p, hp⟩, ⟨c, hr⟩, ⟨y, c', hs⟩⟩ | ⟨⟨n, hp⟩, ⟨c, hs⟩, ⟨y, c', hr⟩⟩⟩ := hl o ho
    · have := hg hao ck ch .receiver c .established hch hr (fun f => f) (by simp [peerEnd, hs, wantOf])
      rw [hp]; exact if_pos this
    · have := hg hao ck ch .sender c .established hch hs (fun f => f) (by simp [peerEnd, hr, wantOf])
      rw [hp]; exact if_pos this
  · intro hax ck2 ch2 e2 c2 w h1 h2 _ h4
    rw [htbl] at h1
    split at h1
    · rename_i hck; subst hck
      simp only [Option.some.injEq] at h1; subst h1
      obtain ⟨c0, hc0⟩ := like_claimed (hk e2) h2
      rw [like_wantOf (hk _)] at h4
      exact hg (hal x hax) ck ch e2 c0 w hch hc0 (fun f => f) h4
    · exact hg (hal x hax) ck2 ch2 e2 c2 w h1 h2 (fun f => f) h4

theorem addChannelCapacity_pres {s s' : St} {id ck cap} {ok : Bool} (h : addChannelCapacity s id ck cap = .ok (s', ok)) : CPres noEx s s' := by
  have hal := (addChannelCapacity_fp h).frame AliveLe.frame
  rcases addChannelCapacity_outcome h with h1 | ⟨ch, -, -, hrm⟩ | ⟨ch, ch', fwd, hch, hadd, h1⟩
  · cases (h1 : s' = s); exact .refl _
  · exact (removeChannelEnd_pres hrm).weaken
  · obtain ⟨hk, hf⟩ := Chan.addCapacity_shape hadd
    cases (h1 : s' = _)
    have quiet : ∀ t, t = s.setChannels (AL.insert ck ch' s.b.channels) → AliveLe s t → CPres noEx s t := fun t e hal =>
      e ▸ pres_caps (l := []) hch (fun ck2 => by simp [AL.find?_insert]) hk (e ▸ hal) (by simp) (by simp)
    rcases fwd with _ | ⟨sid, diff⟩
    · exact quiet _ rfl hal
    · by_cases hc : ((s.setChannels (AL.insert ck ch' s.b.channels)).conn? sid).isNone
      · simp only [passCapacity, if_pos hc] at hal ⊢; exact quiet _ rfl hal
      · -- capacity goes on to the owner of the sender end
        simp only [passCapacity, if_neg hc] at hal ⊢
        obtain ⟨hs, hr⟩ := hf _ _ rfl
        refine pres_caps hch (fun ck2 => by simp [AL.find?_insert]) hk hal
          (by rw [St.sendOrRemove_out, cf_append, cf_told rfl] <;> rfl) ?_
        intro o ho
        obtain ⟨rfl, ha⟩ := told_mem ho
        exact ⟨by simpa using ha, .inr ⟨⟨_, rfl⟩, hs, hr⟩⟩

theorem sendItem_pres {s s' : St} {id ck p} {ok : Bool} (h : sendItem s id ck p = .ok (s', ok)) : CPres noEx s s' := by
  have hal := (sendItem_fp h).frame AliveLe.frame
  rcases sendItem_outcome h with h1 | ⟨ch, t, -, -, h1, h2⟩ | ⟨ch, -, -, hrm⟩ | ⟨sender, ch, ch', rid, add, -, hch, hsi, h1⟩
  · cases (h1 : s' = s); exact .refl _
  · -- the receiver has not been claimed: both ends go
    exact (removeChannelEnd_pres h1).weaken.trans (removeChannelEnd_pres h2).weaken
  · exact (removeChannelEnd_pres hrm).weaken
  · obtain ⟨hk, hs, hr⟩ := sendItem_spec hsi
    have e1 : s' = (passItem _ id sender.version rid ck p add).1 := congrArg Prod.fst h1
    by_cases hc : ((s.setChannels (AL.insert ck ch' s.b.channels)).conn? rid).isNone
    · simp only [passItem, if_pos hc] at e1; cases e1
      exact pres_caps (l := []) hch (fun ck2 => by simp [AL.find?_insert]) hk hal (by simp) (by simp)
    · simp only [passItem, if_neg hc] at e1
      rcases add with _ | n <;> cases e1
      · refine pres_caps hch (fun ck2 => by simp [AL.find?_insert]) hk hal
          (by rw [St.sendOrRemove_out, cf_append, cf_told rfl] <;> rfl) ?_
        intro o ho
        obtain ⟨rfl, ha⟩ := told_mem ho
        exact ⟨by simpa using ha, .inl ⟨⟨p, rfl⟩, hr, _, hs⟩⟩
      · -- the item goes on, and the sender is given new capacity
        refine pres_caps hch (fun ck2 => by simp [AL.find?_insert]) hk hal
          (by rw [St.send_out, St.sendOrRemove_out, List.append_assoc, cf_append, cf_append, cf_told rfl, cf_told rfl] <;> rfl) ?_
        intro o ho
        rcases List.mem_append.mp ho with ho | ho <;> obtain ⟨rfl, ha⟩ := told_mem ho
        · exact ⟨by simpa using ha, .inl ⟨⟨p, rfl⟩, hr, _, hs⟩⟩
        · exact ⟨by simpa using ha, .inr ⟨⟨_, rfl⟩, hs, _, hr⟩⟩

theorem handleMessage_presR {s s' : St} {id : ConnId} {m : Req} {ok : Bool} (hr : handleMessage s id m = .ok (s', ok)) :
    CPresR s s' id m := by
  cases m
  case createChannel => exact createChannel_presR hr
  case closeChannelEnd => exact closeChannelEnd_presR hr
  case claimChannelEnd => exact claimChannelEnd_presR hr
  case sendItem => exact .of_pres (sendItem_pres hr)
  case addChannelCapacity => exact .of_pres (addChannelCapacity_pres hr)
  -- no other request touches the channel table or says anything about channels
  all_goals exact .of_pres ((handleMessage_fp hr).frame CPres.frame)

/-- only the two stages that close the connection's channel ends are about channels -/
theorem shutdownConnection_pres {s s' : St} {id b} (hr : shutdownConnection s id b = .ok s') : CPres noEx s s' :=
  shutdownConnection_inv CPres.frame (fun t c => (removeBusListener_fp t c).frame CPres.frame) (fun _ _ _ hr => (removeObject_fp hr).frame CPres.frame)
    (fun _ _ _ _ hr => (removeChannelEnd_pres hr).weaken) hr

/-- no item of deferred work but the removal of a connection touches the channel table or says anything about channels -/
theorem processOne_pres {s s' : St} (hr : processOne s = some (.ok s')) : CPres noEx s s' :=
  processOne_inv (CPres.frame.carries fun hst h0 => h0.trans hst) (.refl s) hr fun _ _ _ hp hr => hp.trans (shutdownConnection_pres hr)

/-- the view `v` of connection `x` takes what the turn has put into the queue so far and agrees with the table of `t` -/
def Taken (x : ConnId) (v : CV) (t : St) : Prop := ∃ v', cDrain v (delivered (cf t.out) x) = some v' ∧ CRelAt noEx t x v'

theorem Taken.pres {x : ConnId} {v : CV} {s t : St} (h : CPres noEx s t) (hp : Taken x v s) : Taken x v t := by
  obtain ⟨l, e, p⟩ := h
  obtain ⟨v1, a1, g1⟩ := hp
  obtain ⟨v2, a2, g2⟩ := p x v1 g1
  exact ⟨v2, by rw [e, delivered_append, cDrain_append, a1]; exact a2, g2⟩

/-- at the start of a turn nothing is in the queue -/
theorem Taken.start {x : ConnId} {v : CV} {t : St} (ho : t.out = []) (hg : CRelAt noEx t x v) : Taken x v t :=
  ⟨v, by rw [ho]; rfl, hg⟩

/-- a request handled at the start of a turn, the requester's view having its entry for it -/
theorem Taken.request {x id : ConnId} {v : CV} {s t : St} {r : Req} (h : CPresR s t id r) (ho : s.out = [])
    (hg : CRelAt noEx s x v) (hp : x = id → CPend v r) : Taken x v t := by
  obtain ⟨l, e, p⟩ := h
  obtain ⟨v', a, g⟩ := p x v hg hp
  exact ⟨v', by rw [e, ho]; exact a, g⟩

theorem Taken.drained {x : ConnId} {v : CV} {b : Broker} {w : Work} {out : List Out} (h : Taken x v ⟨b, w, out⟩) :
    ∃ v', cDrain v (delivered out x) = some v' ∧ CRelAt noEx ⟨b, w, []⟩ x v' := by
  obtain ⟨v', a, g⟩ := h
  exact ⟨v', by rw [cDrain_delivered_cf]; exact a, g⟩

/-- one turn, for a link that is not the one being attached; the link's own request must have its entry -/
theorem step_chan {b b' : Broker} {w w' : Work} {e : Event} {out : List Out} {x : ConnId} {v : CV}
    (hst : step b w e = .ok (b', w', out)) (hn : ∀ ver, e ≠ .newConn x ver) (hg : CRelAt noEx ⟨b, w, []⟩ x v)
    (hpend : ∀ r, e = .msg x r → CPend v r) : ∃ v', cDrain v (delivered out x) = some v' ∧ CRelAt noEx ⟨b', w', []⟩ x v' := by
  have h0 : Taken x v ⟨b, w, []⟩ := .start rfl hg
  refine (step_inv (P := Taken x v) (fun s1 h1 => ?_) (fun s s' hp h1 => Taken.pres (processOne_pres h1) hp) hst).drained
  refine handleEvent_inv (CPres.frame.carries Taken.pres) h0 ?msg ?new ?dead h1
  case msg => exact fun id m r he hm => .request (handleMessage_presR hm) rfl hg fun hx => hpend m (hx ▸ he)
  case new =>
    -- another connection arrives: it is not in the tables yet
    intro id ver he _
    refine .start rfl fun hax => ?_
    have hxi : ¬ id = x := fun hx => hn ver (hx ▸ he)
    rw [aliveB_setConn, if_neg hxi] at hax
    intro ck ch e' cap wv hch
    exact hg hax ck ch e' cap wv (by simpa using hch)
  case dead => exact fun id _ => Taken.pres (CPres.frame.step (.connDead _ id) (by decide)) h0

/-- the channel agreement of one link once its queue is handled: the table agrees with the view, and every channel
request on its way has its entry -/
def CAgree (b : St) (x : ConnId) (F : CV) (up : List Req) : Prop := CRelAt noEx b x F ∧ ∀ r ∈ up, CPend F r

def CSysInv : Sys → Prop := Linkwise (Drained cview cRecv CAgree)

theorem cViewOf : ViewOf cview cRecv (fun s r v => cSend v (flagOf s r) r) :=
  ⟨cview_onRecv, cview_onSend, fun s r m v h => cRecv_cSend_comm v (flagOf s r) r m h⟩

/-- a request's entry is there iff entering it once more changes nothing -/
theorem cSend_eq_self_iff {v : CV} {r : Req} : (∃ fl, cSend v fl r = v) ↔ CPend v r := by
  obtain ⟨sn, rc, cr, cl, cm⟩ := v
  cases r
  case createChannel | closeChannelEnd | claimChannelEnd => simp [cSend, CPend, AL_insert_eq_self_iff]
  all_goals exact iff_of_true ⟨false, rfl⟩ trivial

/-- handling messages keeps the entries of all requests they do not answer: entering the request and handling them commute -/
theorem cDrain_keeps_pend {r : Req} {ms : List Rsp} {v v' : CV} (h : cDrain v ms = some v') (hp : CPend v r)
    (hk : ∀ m ∈ ms, ∀ k n, reqKeyS r = some (k, n) → strictKey m ≠ some (k, n)) : CPend v' r := by
  obtain ⟨fl, hfl⟩ := cSend_eq_self_iff.mpr hp
  have := cDrain_cSend_comm fl r ms v hk
  rw [hfl, h] at this
  exact cSend_eq_self_iff.mp ⟨fl, (Option.some.inj this).symm⟩

theorem cSend_pend_self (v : CV) (fl : Bool) (r : Req) : CPend (cSend v fl r) r := by
  cases r
  case createChannel | claimChannelEnd => exact AL.find?_insert_self ..
  case closeChannelEnd => exact ⟨fl, AL.find?_insert_self ..⟩
  all_goals trivial

theorem cSend_pend_other {v : CV} {fl : Bool} {r r' : Req} (hp : CPend v r')
    (hne : ∀ k n n', reqKeyS r' = some (k, n') → reqKeyS r = some (k, n) → n ≠ n') : CPend (cSend v fl r) r' := by
  cases r'
  case createChannel | closeChannelEnd | claimChannelEnd =>
    rcases cSend_cases fl r with hid | ⟨n, e, c, rfl⟩ | ⟨n, ck, e, rfl⟩ | ⟨n, ck, e, c, rfl⟩
    · rw [hid]; exact hp
    all_goals first
      | exact hp
      | exact (AL.find?_insert_ne _ _ (hne _ _ _ rfl rfl)).trans hp
      | exact hp.imp fun _ h => (AL.find?_insert_ne _ _ (hne _ _ _ rfl rfl)).trans h
  all_goals trivial

theorem sysStep_cinv {s s' : Sys} (hs : SysStep s s') (hser : SysInv s) (ho : OwnedInv s) (h : CSysInv s) : CSysInv s' := by
  refine sysStep_drained cViewOf hs hser h ?_ ?_ ?_ ?_
  · -- no end is claimed by a connection that has only just arrived
    intro c v b w out _ hu hst
    refine ⟨fun _ ck ch e cap wv h1 h2 => ?_, nofun⟩
    exact (ho.newcomer_holds_nothing hu hst (e.kind, ck) (by rw [own_end h1, h2]; rfl)).elim
  · intro c l r F hl0 hf hr
    refine ⟨fun ha => by intro ck ch e cap w; rw [cSend_ends]; exact hr.1 ha ck ch e cap w, fun r' hr' => ?_⟩
    rcases List.mem_append.mp hr' with hr' | hr'
    · exact cSend_pend_other (hr.2 r' hr') fun k n n' hk' hk e' =>
        fresh_not_pending hf hk (e' ▸ up_keys_pending (hser c l hl0) hr' hk')
    · cases List.mem_singleton.mp hr'; exact cSend_pend_self _ _ _
  · intro c l r rest b w out F hl0 hu hst _ hr
    obtain ⟨F', hd, hr'⟩ := step_chan hst (fun _ => Event.noConfusion) hr.1
      (fun _ e => (Event.msg.inj e).2 ▸ hr.2 r (by rw [hu]; exact List.mem_cons_self))
    exact ⟨F', hd, hr', fun r' hr0 => cDrain_keeps_pend hd (hr.2 r' (by rw [hu]; exact List.mem_cons_of_mem _ hr0))
      (answers_head_only hu (hser c l hl0) hst r' hr0)⟩
  · intro x l e b w out F _ he hn hst _ hr
    obtain ⟨F', hd, hr'⟩ := step_chan hst hn hr.1 fun r e => absurd e (he r)
    refine ⟨F', hd, hr', fun r' hr0 => cDrain_keeps_pend hd (hr.2 r' hr0) fun m hm k n _ hk => ?_⟩
    have : (k, n) ∈ (delivered out x).filterMap strictKey := List.mem_filterMap.mpr ⟨m, hm, hk⟩
    rw [step_no_key_to hst he] at this; cases this

theorem CSysInv_init : CSysInv {} := Linkwise_init _

theorem sysRun_cinv (es : List SysEv) (s s' : Sys) : sysRun s es = some s' → SysInv s ∧ OwnedInv s ∧ CSysInv s → CSysInv s' :=
  sysRun_with sysStep_cinv es s s'

theorem channel_head_accepted {s : Sys} (h : CSysInv s) {c : ConnId} {l : Link} (hl : s.links c = some l)
    {m : Rsp} {rest : List Rsp} (hd : l.down = m :: rest) (hC : isC m = true) : onRecv l.mon m ≠ .unexpected := by
  obtain ⟨v, hv, _⟩ := h c l hl
  rw [hd] at hv
  simp only [drain] at hv
  split at hv
  · rename_i t ht; exact cRecv_accepts hC ht
  · simp at hv

end Aldrin.System
