/-
A connection whose task is gone never comes back to life within the life of its id: no handler, clean-up or work-loop
step of the broker model turns `alive` on again (only `newConn` adds a connection that is alive). `Exists.lean` says the
same of a connection that has been removed.
-/
import Aldrin.Lemmas.Broker.Turn
import Aldrin.Lemmas.Broker.Send

namespace Aldrin.Broker

/-- no connection comes (back) to life -/
def AliveLe (s s' : St) : Prop := ∀ c, aliveB s' c = true → aliveB s c = true

theorem AliveLe.refl (s : St) : AliveLe s s := fun _ h => h
theorem AliveLe.trans {a b c : St} (h1 : AliveLe a b) (h2 : AliveLe b c) : AliveLe a c := fun x h => h1 x (h2 x h)

@[simp, grind =] theorem aliveB_setObjUuids (s : St) (x : List (Cookie × Uuid)) (c : ConnId) : aliveB (s.setObjUuids x) c = aliveB s c := rfl
@[simp, grind =] theorem aliveB_setObjs (s : St) (x : List (Uuid × Obj)) (c : ConnId) : aliveB (s.setObjs x) c = aliveB s c := rfl
@[simp, grind =] theorem aliveB_setSvcUuids (s : St) (x : List (Cookie × (ObjId × Uuid × SvcInfo))) (c : ConnId) : aliveB (s.setSvcUuids x) c = aliveB s c := rfl
@[simp, grind =] theorem aliveB_setSvcs (s : St) (x : List ((Uuid × Uuid) × Svc)) (c : ConnId) : aliveB (s.setSvcs x) c = aliveB s c := rfl
@[simp, grind =] theorem aliveB_setCalls (s : St) (x : SerialMap Call) (c : ConnId) : aliveB (s.setCalls x) c = aliveB s c := rfl
@[simp, grind =] theorem aliveB_setChannels (s : St) (x : List (Cookie × Chan)) (c : ConnId) : aliveB (s.setChannels x) c = aliveB s c := rfl
@[simp, grind =] theorem aliveB_setListeners (s : St) (x : List (Cookie × Listener)) (c : ConnId) : aliveB (s.setListeners x) c = aliveB s c := rfl
@[simp, grind =] theorem aliveB_setIntrospection (s : St) (x : List (Uuid × IEntry)) (c : ConnId) : aliveB (s.setIntrospection x) c = aliveB s c := rfl
@[simp, grind =] theorem aliveB_setIqueries (s : St) (x : SerialMap Uuid) (c : ConnId) : aliveB (s.setIqueries x) c = aliveB s c := rfl
@[simp, grind =] theorem aliveB_setNextCookie (s : St) (x : Cookie) (c : ConnId) : aliveB (s.setNextCookie x) c = aliveB s c := rfl
@[simp, grind =] theorem aliveB_setWShutdownNow (s : St) (x : Bool) (c : ConnId) : aliveB (s.setWShutdownNow x) c = aliveB s c := rfl
@[simp, grind =] theorem aliveB_setWShutdownIdle (s : St) (x : Bool) (c : ConnId) : aliveB (s.setWShutdownIdle x) c = aliveB s c := rfl
@[simp, grind =] theorem aliveB_setWRemoveConns (s : St) (x : List (ConnId × Bool)) (c : ConnId) : aliveB (s.setWRemoveConns x) c = aliveB s c := rfl
@[simp, grind =] theorem aliveB_setWRemoveCalls (s : St) (x : List (Nat × ConnId × CallResult)) (c : ConnId) : aliveB (s.setWRemoveCalls x) c = aliveB s c := rfl
@[simp, grind =] theorem aliveB_setWServicesDestroyed (s : St) (x : List (ConnId × Cookie)) (c : ConnId) : aliveB (s.setWServicesDestroyed x) c = aliveB s c := rfl
@[simp, grind =] theorem aliveB_setWUnsubscribeEvent (s : St) (x : List (ConnId × Cookie × Nat)) (c : ConnId) : aliveB (s.setWUnsubscribeEvent x) c = aliveB s c := rfl
@[simp, grind =] theorem aliveB_setWUnsubscribeAll (s : St) (x : List (ConnId × Cookie)) (c : ConnId) : aliveB (s.setWUnsubscribeAll x) c = aliveB s c := rfl
@[simp, grind =] theorem aliveB_setWCreateObject (s : St) (x : List ObjId) (c : ConnId) : aliveB (s.setWCreateObject x) c = aliveB s c := rfl
@[simp, grind =] theorem aliveB_setWDestroyObject (s : St) (x : List ObjId) (c : ConnId) : aliveB (s.setWDestroyObject x) c = aliveB s c := rfl
@[simp, grind =] theorem aliveB_setWCreateService (s : St) (x : List SvcId) (c : ConnId) : aliveB (s.setWCreateService x) c = aliveB s c := rfl
@[simp, grind =] theorem aliveB_setWDestroyService (s : St) (x : List SvcId) (c : ConnId) : aliveB (s.setWDestroyService x) c = aliveB s c := rfl
@[simp, grind =] theorem aliveB_setWAbortCalls (s : St) (x : List (Nat × ConnId)) (c : ConnId) : aliveB (s.setWAbortCalls x) c = aliveB s c := rfl
@[simp, grind =] theorem aliveB_setOut (s : St) (x : List Out) (c : ConnId) : aliveB (s.setOut x) c = aliveB s c := rfl
@[simp, grind =] theorem aliveB_stat (s : St) (f : Stats → Stats) (c : ConnId) : aliveB (s.stat f) c = aliveB s c := rfl
@[simp, grind =] theorem aliveB_pushRemoveConn (s : St) (id : ConnId) (b : Bool) (c : ConnId) : aliveB (s.pushRemoveConn id b) c = aliveB s c := rfl
@[simp, grind =] theorem aliveB_freshCookie (s : St) (c : ConnId) : aliveB s.freshCookie.1 c = aliveB s c := rfl

@[simp, grind =] theorem aliveB_setConn (s : St) (id : ConnId) (new : Conn) (c : ConnId) :
    aliveB (s.setConn id new) c = if id = c then new.alive else aliveB s c :=
  view_setConn (f := fun o => (o.map Conn.alive).getD false) aliveB_eq s id new c

theorem aliveB_updConn (s : St) (id : ConnId) (f : Conn → Conn) (c : ConnId) (hf : ∀ x, (f x).alive = x.alive) :
    aliveB (s.updConn id f) c = aliveB s c := by
  rw [view_updConn (f := fun o => (o.map Conn.alive).getD false) aliveB_eq]
  split
  · next h => cases h; rw [aliveB_eq]; cases s.conn? id <;> simp [hf]
  · rfl

@[simp] theorem Conn.subscribeEvent_alive (c : Conn) (svc : Cookie) (ev : Nat) : (c.subscribeEvent svc ev).alive = c.alive := rfl
@[simp] theorem Conn.unsubscribeAllOf_alive (c : Conn) (svc : Cookie) : (c.unsubscribeAllOf svc).alive = c.alive := rfl

@[simp, grind =] theorem aliveB_send (s : St) (to : ConnId) (m : Rsp) (v : Option Nat) (c : ConnId) : aliveB (s.send to m v).1 c = aliveB s c := by
  simp only [aliveB, St.send_b_conns]
@[simp, grind =] theorem aliveB_sendOrRemove (s : St) (to : ConnId) (m : Rsp) (v : Option Nat) (c : ConnId) : aliveB (s.sendOrRemove to m v) c = aliveB s c := by
  simp only [aliveB, St.sendOrRemove_b_conns]

theorem AliveLe.frame : Frame AliveLe [.conn .alive, .connNew] :=
  Frame.ofConns (f := fun o => (o.map Conn.alive).getD false) (r := fun a b => b = true → a = true) aliveB_eq _
    (refl := fun _ h => h) (trans := fun h1 h2 h => h1 (h2 h))
    (part := fun _ hφ k k' ha => by show k'.alive = true → k.alive = true; rw [ha.alive (by simpa using hφ)]; exact id)
    (dead := fun _ _ h => absurd h Bool.false_ne_true)
    (gone := fun _ _ h => absurd h Bool.false_ne_true)
    (new := fun h => absurd (by decide) h)

@[simp, grind =] theorem aliveB_removeBusListener (s : St) (ck : Cookie) (c : ConnId) : aliveB (removeBusListener s ck) c = aliveB s c := by
  unfold removeBusListener
  split
  · rfl
  · rw [aliveB_stat, aliveB_updConn, aliveB_setListeners]; exact fun _ => rfl

theorem sendAll_conns : ∀ (l : List Rsp) (s : St) (id : ConnId), (sendAll s id l).1.b.conns = s.b.conns := by
  intro l
  induction l with
  | nil => intro s id; rfl
  | cons a l ih =>
    intro s id
    simp only [sendAll]
    split
    · rw [ih]; simp
    · simp

@[grind →] theorem abortCall_alive {s s' : St} {serial cid} : abortCall s serial cid = .ok s' → AliveLe s s' :=
  fun h => (abortCall_fp h).frame AliveLe.frame

theorem processLoop_alive : ∀ (fuel : Nat) (s s' : St), processLoop fuel s = .ok s' → AliveLe s s' :=
  fun _ _ _ h => (processLoop_fp _ _ _ h).frame AliveLe.frame

theorem handleMessage_alive {s s' : St} {id : ConnId} {m : Req} {ok : Bool}
    (hr : handleMessage s id m = .ok (s', ok)) : AliveLe s s' := by
  cases m <;> exact (handleMessage_fp hr).frame AliveLe.frame

theorem handleEvent_alive {s s' : St} {e : Event} (he : ∀ id v, e ≠ .newConn id v) (hr : handleEvent s e = .ok s') : AliveLe s s' := by
  cases e
  case newConn id v => exact absurd rfl (he id v)
  case msg id m => cases m <;> exact (handleEvent_fp hr).frame AliveLe.frame
  all_goals exact (handleEvent_fp hr).frame AliveLe.frame

theorem step_alive {b b' : Broker} {w w' : Work} {e : Event} {out : List Out} (he : ∀ id v, e ≠ .newConn id v)
    (hr : step b w e = .ok (b', w', out)) (c : ConnId) : aliveB ⟨b', w', []⟩ c = true → aliveB ⟨b, w, []⟩ c = true := by
  obtain ⟨s1, h1, h2⟩ := step_ok hr
  exact AliveLe.trans (handleEvent_alive he h1) (processLoop_alive _ _ _ h2) c

end Aldrin.Broker
