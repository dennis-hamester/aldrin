/-
The callee side of the cross-reference invariant of calls (`CalleeP`, `Lemmas/Broker/XCallee.lean`) on states of the
broker model (`Cal`): every call in the table is held by the service entry it is for, and what a service entry holds is
a call in the table for that service; in every reachable state (`Reachable.cal`).
-/
import Aldrin.Lemmas.Broker.CalView
import Aldrin.Lemmas.Broker.XCallee
import Aldrin.Lemmas.Broker.Xref2
import Aldrin.Lemmas.Broker.Reg
import Aldrin.Lemmas.Broker.Turn

namespace Aldrin.Broker
open Generated

def Cal (pl : Option ((Uuid × Uuid) × List Nat)) (s : St) : Prop := CalleeP pl (gk s) (scv s)

variable {pl : Option ((Uuid × Uuid) × List Nat)}

def GkEq (s s' : St) : Prop := ∀ bs, gk s' bs = gk s bs

theorem GkEq.refl (s : St) : GkEq s s := fun _ => rfl
theorem GkEq.of_calls {s s' : St} (h : s'.b.calls = s.b.calls) : GkEq s s' := fun bs => by simp [gk, h]

theorem Cal.of_views {s' : St} {G : GkView} {S : ScView} (h : CalleeP pl G S) (h1 : ∀ bs, gk s' bs = G bs) (h2 : ∀ k, scv s' k = S k) :
    Cal pl s' := by
  unfold Cal
  have e1 : gk s' = G := funext h1
  have e2 : scv s' = S := funext h2
  rw [e1, e2]; exact h

theorem Cal.of_frame {s s' : St} (h : Cal pl s) (hg : GkEq s s') (hs : SameSc s s') : Cal pl s' := Cal.of_views h hg hs

theorem Cal.frame : Frame (fun s t => Cal pl s → Cal pl t) [.calls, .svcs, .svc .calls] :=
  (calls_frame.and SameSc.frame).carries (fun hs h => h.of_frame (GkEq.of_calls hs.1) hs.2)

theorem Cal.init : Cal none ⟨{}, {}, []⟩ := by
  refine Cal.of_views CalleeP.init ?_ ?_ <;> intro x <;> rfl

theorem gk_get {s : St} {bs : Nat} {c : Call} (h : s.b.calls.get? bs = some c) : gk s bs = some (c.calleeObj, c.calleeSvc) := by
  simp [gk, h]
theorem gk_get_none {s : St} {bs : Nat} (h : s.b.calls.get? bs = none) : gk s bs = none := by
  simp [gk, h]

theorem abortCall_gk {s s' : St} {serial cid} (hr : abortCall s serial cid = .ok s') : GkEq s s' := by
  rcases abortCall_outcome hr with ⟨rfl, -⟩ | ⟨call, hcall, -, hr⟩
  · exact .refl _
  · have e1 : ∀ t : St, (notifyCallee t cid serial).b.calls = t.b.calls := fun t => by
      rcases notifyCallee_cases t cid serial with e | e <;> rw [e] <;> simp
    intro bs
    simp only [gk, (replyToCaller_fp hr).frame calls_frame, e1, St.setCalls_b_calls, get?_set]
    by_cases hb : serial = bs
    · subst hb; simp [show s.b.calls.get? serial = some call from hcall]
    · simp [hb]

/-- every serial of the removed entry is found in the table, so the loop ends well -/
theorem removeService_calls_ok {k : Uuid × Uuid} {l : List Nat} {s : St} (h : Cal (some (k, l)) s) :
    ∃ s', removeService.calls s l = .ok s' ∧ Cal none s' := by
  have step : ∀ a l s, Cal (some (k, a :: l)) s → ∃ s', dropPendingCall s a = .ok s' ∧ Cal (some (k, l)) s' := by
    intro a l s h
    have hg := CalleeP.pl_head h
    simp only [gk] at hg
    split at hg
    · next call hcall =>
      refine ⟨_, by rw [dropPendingCall, hcall], Cal.of_views (CalleeP.pl_next h) (fun bs => ?_) (fun k' => by split <;> simp [scv])⟩
      have : ∀ t : St, t.b.calls = s.b.calls.remove a → gk t bs = upd (gk s) a none bs := by
        intro t ht
        simp only [gk, ht, get?_remove, upd_apply]
        by_cases hb : a = bs <;> simp [hb]
      split <;> exact this _ (by simp)
    · simp at hg
  obtain ⟨s', hs, hc⟩ := foldE_rest_ok (P := fun l s => Cal (some (k, l)) s) step h
  exact ⟨s', (removeService_calls_eq l s).trans hs, CalleeP.pl_done hc⟩

theorem removeService_calls_cal {k : Uuid × Uuid} {l : List Nat} {s s' : St} (h : Cal (some (k, l)) s)
    (hr : removeService.calls s l = .ok s') : Cal none s' := by
  obtain ⟨t, ht, hc⟩ := removeService_calls_ok h
  cases ht.symm.trans hr; exact hc

theorem dropService_cal {s : St} {c : Cookie} {oid : ObjId} {svu : Uuid} {svc : Svc} (h : Cal none s)
    (hsv : AL.find? (oid.uuid, svu) s.b.svcs = some svc) : Cal (some ((oid.uuid, svu), svc.calls)) (dropService s c oid svu) := by
  refine Cal.of_views (CalleeP.drop_entry h (k := (oid.uuid, svu)) (l := svc.calls) (scv_find hsv)) ?_ ?_
  · intro bs; simp only [gk, dropService_b_calls]
  · intro k; simp only [scv, dropService_b_svcs, scl_erase, upd_apply]

theorem removeService_cal {s s' : St} {c : Cookie} (h : Cal none s) (hr : removeService s c = .ok s') : Cal none s' := by
  rcases removeService_outcome hr with ⟨-, rfl⟩ | ⟨oid, svu, info, svc, s1, -, hsv, hc, rfl⟩
  · exact h
  · exact (dropSubscribers_fp s1 c svc.subscribedConnIds).frame Cal.frame (by decide) (removeService_calls_cal (dropService_cal h hsv) hc)

theorem removeObject_cal {s s' : St} {c : Cookie} (h : Cal none s) (hr : removeObject s c = .ok s') : Cal none s' :=
  removeObject_inv Cal.frame (fun _ _ _ => removeService_cal) h hr

theorem callFunctionImpl_cal {s s' : St} {id serial svc f v p} {ok : Bool} (h : Cal none s)
    (hnext : s.b.calls.next < u32Max + 1) (hroom : s.b.calls.elems.length ≤ u32Max)
    (hr : callFunctionImpl s id serial svc f v p = .ok (s', ok)) : Cal none s' := by
  rcases callFunctionImpl_outcome hr with hf | ⟨conn, objId, svcUuid, info, obj, -, -, -, ⟨-, hr⟩ | ⟨-, svcE, m, hsvcE, hr⟩⟩
  · exact hf.frame Cal.frame (by decide) h
  all_goals
    obtain rfl : s' = _ := hr
    have hfresh := SerialMap.insert_fresh s.b.calls (newCall id serial objId svcUuid) hnext hroom
    have hget := get?_insert_fresh s.b.calls (newCall id serial objId svcUuid) hfresh
  · -- a duplicate serial of the caller: the entry is taken out again
    refine h.of_frame (fun k => ?_) (SameSc.of_eq rfl)
    simp only [gk, St.setCalls_b_calls, get?_remove, hget]
    by_cases hk : k = (s.b.calls.insert (newCall id serial objId svcUuid)).2
    · subst hk; simp [SerialMap.get?, hfresh]
    · simp [hk, Ne.symm hk]
  · have hnone : gk s (s.b.calls.insert (newCall id serial objId svcUuid)).2 = none :=
      gk_get_none (by simpa [SerialMap.get?] using hfresh)
    refine Cal.of_views (CalleeP.add_call h hnone (scv_find hsvcE)) ?_ ?_
    · intro bs
      simp only [passCall, addCall, gk, St.sendOrRemove_b_calls, St.setSvcs_b_calls, St.setConn_b_calls, St.setCalls_b_calls, hget, upd_apply]
      by_cases hk : bs = (s.b.calls.insert (newCall id serial objId svcUuid)).2
      · subst hk; simp [newCall]
      · simp [hk, Ne.symm hk]
    · intro k
      simp only [passCall, addCall, scv, St.sendOrRemove_b_svcs, St.setSvcs_b_svcs, St.setConn_b_svcs, St.setCalls_b_svcs, scl_insert, upd_apply]

theorem callFunction2_cal {s s' : St} {id serial svc f v p} {ok : Bool} (h : Cal none s)
    (hnext : s.b.calls.next < u32Max + 1) (hroom : s.b.calls.elems.length ≤ u32Max)
    (hr : callFunction2 s id serial svc f v p = .ok (s', ok)) : Cal none s' := by
  rcases callFunction2_outcome hr with ⟨rfl, -⟩ | ⟨_, -, -, hr⟩
  · exact h
  · exact callFunctionImpl_cal h hnext hroom hr

theorem callFunctionReply_cal {s s' : St} {id serial r} {ok : Bool} (h : Cal none s)
    (hr : callFunctionReply s id serial r = .ok (s', ok)) : Cal none s' := by
  rcases callFunctionReply_outcome hr with hr | ⟨conn, call, svcE, -, hcall, hsvcE, hr⟩
  · cases hr; exact h
  have hmid : Cal none (dropCall s serial call svcE) := by
    refine Cal.of_views (CalleeP.finish_call h (gk_get hcall) (scv_find hsvcE)) ?_ ?_
    · intro bs
      simp only [gk, dropCall_b_calls, get?_remove, upd_apply]
      by_cases hk : serial = bs <;> simp [hk]
    · intro k
      simp only [scv, dropCall_b_svcs, scl_insert, upd_apply]
  rcases hr with ⟨-, hr⟩ | ⟨-, -, ht⟩
  · cases hr; exact hmid
  · exact (replyToCaller_fp ht).frame Cal.frame (by decide) hmid

theorem createServiceImpl_cal {s s' : St} {id serial oc uuid info} {ok : Bool} (h : Cal none s)
    (hr : createServiceImpl s id serial oc uuid info = .ok (s', ok)) : Cal none s' := by
  rcases createServiceImpl_outcome hr with hf | ⟨conn, objUuid, obj, inf, -, -, hnew, -, -, hr⟩
  · exact hf.frame Cal.frame (by decide) h
  -- the service gets its entry, with no calls
  obtain rfl : s' = _ := hr
  refine Cal.of_views (CalleeP.new_svc h (k := (objUuid, uuid)) (by simp only [scv, scl, hnew])) ?_ ?_
  · intro bs; simp [addService, gk]
  · intro k
    simp only [addService, scv, St.stat_b_svcs, St.setWCreateService_b_svcs, St.setObjs_b_svcs, St.setSvcs_b_svcs, St.setSvcUuids_b_svcs,
      St.send_b_svcs, St.freshCookie_b_svcs, scl_insert, upd_apply]

theorem createService2_cal {s s' : St} {id serial oc uuid info} {ok : Bool} (h : Cal none s)
    (hr : createService2 s id serial oc uuid info = .ok (s', ok)) : Cal none s' := by
  rcases createService2_outcome hr with hr | ⟨_, hr⟩
  · cases hr; exact h
  · exact createServiceImpl_cal h hr

theorem handleMessage_cal {s s' : St} {id : ConnId} {m : Req} {ok : Bool} (h : Cal none s)
    (hnext : s.b.calls.next < u32Max + 1) (hroom : s.b.calls.elems.length ≤ u32Max)
    (hr : handleMessage s id m = .ok (s', ok)) : Cal none s' := by
  cases m
  case callFunction => exact callFunctionImpl_cal h hnext hroom hr
  case callFunction2 => exact callFunction2_cal h hnext hroom hr
  case callFunctionReply => exact callFunctionReply_cal h hr
  case destroyObject => exact destroyObject_inv Cal.frame (fun _ _ _ => removeObject_cal) h hr
  case destroyService => exact destroyService_inv Cal.frame (fun _ _ _ => removeService_cal) h hr
  case createService => exact createServiceImpl_cal (info := fun _ => some _) h hr
  case createService2 => exact createService2_cal h hr
  all_goals exact (handleMessage_fp hr).frame Cal.frame (by fp_decide) h

theorem shutdownConnection_cal {s s' : St} {id b} (h : Cal none s) (hr : shutdownConnection s id b = .ok s') : Cal none s' :=
  (shutdownConnection_inv Cal.frame (fun t c => (removeBusListener_fp t c).frame Cal.frame) (fun _ _ _ hr hp => removeObject_cal hp hr)
    (fun _ _ _ _ hr => (removeChannelEnd_fp hr).frame Cal.frame) hr) h

theorem handleEvent_cal {s s' : St} {e : Event} (h : Cal none s)
    (hnext : s.b.calls.next < u32Max + 1) (hroom : s.b.calls.elems.length ≤ u32Max) (hr : handleEvent s e = .ok s') : Cal none s' :=
  handleEvent_inv Cal.frame h (fun _ _ _ _ hm => handleMessage_cal h hnext hroom hm)
    (fun id _ _ hnone => Cal.frame.step (.connNew s id _ hnone) (by decide) h)
    (fun id _ => Cal.frame.step (.connDead s id) (by decide) h) hr

theorem processOne_cal {s s' : St} (h : Cal none s) (hr : processOne s = some (.ok s')) : Cal none s' := by
  obtain ⟨i, t, hp, hr⟩ := processOne_item hr
  have ht := (St.pop_fp hp).frame Cal.frame (by cases i <;> item_decide) h
  cases i
  case removeConn => exact shutdownConnection_cal ht hr
  case abort => exact ht.of_frame (abortCall_gk hr) ((abortCall_fp hr).frame SameSc.frame)
  all_goals exact (Item.run_fp hr).frame Cal.frame (by item_decide) ht

theorem step_cal {b b' : Broker} {w w' : Work} {e : Event} {out : List Out} (h : Cal none ⟨b, w, []⟩)
    (hnext : b.calls.next < u32Max + 1) (hroom : b.calls.elems.length ≤ u32Max)
    (hr : step b w e = .ok (b', w', out)) : Cal none ⟨b', w', []⟩ :=
  (step_inv (fun _ h1 => handleEvent_cal h hnext hroom h1) (fun _ _ => processOne_cal) hr : Cal none ⟨b', w', out⟩)

theorem Reachable.cal {b : Broker} {w : Work} (h : Reachable b w) : Cal none ⟨b, w, []⟩ := by
  induction h with
  | init => exact Cal.init
  -- that the serial counter is below 2³² (for `SerialMap.insert_fresh`) is clause `d` of the caller-side invariant
  | step hprev hroom hs ih => exact step_cal ih hprev.idle.x.d hroom hs

theorem Reachable.reg {b : Broker} {w : Work} (h : Reachable b w) : G5 ⟨b, w, []⟩ ∧ Reg none none ⟨b, w, []⟩ := by
  induction h with
  | init => exact ⟨G5_init, Reg.init⟩
  | step _ _ hs ih => exact ⟨step_G5 ih.1 hs, step_reg ih.1 ih.2 hs⟩

theorem callee_of_call {s : St} (hc : Cal none s) (hr : Reg none none s) {bs : Nat} {call : Call} (hg : s.b.calls.get? bs = some call) :
    ∃ sv info o owner, AL.find? (call.calleeObj, call.calleeSvc) s.b.svcs = some sv ∧ bs ∈ sv.calls ∧
      AL.find? sv.cookie s.b.svcUuids = some (⟨call.calleeObj, sv.objCookie⟩, call.calleeSvc, info) ∧
      AL.find? call.calleeObj s.b.objs = some o ∧ sv.cookie ∈ o.svcs ∧ AL.find? o.conn s.b.conns = some owner := by
  -- the entry of the service holds the call; its cookie is registered; its object lives; the owner of the object is there
  obtain ⟨l, hl, hm⟩ := (hc.j1 bs _ (gk_get hg)).resolve_right fun ⟨_, hl, _⟩ => nomatch hl
  obtain ⟨sv, hsv, rfl⟩ := scv_eq_some.1 hl
  have rc := RegistryConsistent.of_reg (b := s.b) (w := s.w) (out := s.out) hr
  obtain ⟨info, hi⟩ := rc.service_is_registered _ _ sv hsv
  obtain ⟨-, o, ho, hmo⟩ := rc.service_has_live_object _ _ _ _ hi
  obtain ⟨owner, hown, -⟩ := rc.owner_lists_object _ o ho
  exact ⟨sv, info, o, owner, hsv, hm, hi, ho, hmo, hown⟩

end Aldrin.Broker
