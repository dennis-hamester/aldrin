/-
`send!` (`St.send`, `St.sendOrRemove`): what a send returns depends on one bit of the state, whether the receiver is there
with its task running (`aliveB`). One equation says so; what the proofs use about the outcome of a send is a projection of it.
-/
import Aldrin.Lemmas.Broker.Prim

namespace Aldrin.Broker

/-- the connection exists and its task still takes messages: `send` to it succeeds -/
def aliveB (s : St) (c : ConnId) : Bool :=
  match AL.find? c s.b.conns with
  | some conn => conn.alive
  | none => false

theorem aliveB_eq (s : St) (c : ConnId) : aliveB s c = ((s.conn? c).map (·.alive)).getD false := by
  unfold aliveB St.conn?; cases AL.find? c s.b.conns <;> rfl

theorem aliveB_of_find {s : St} {c : ConnId} {conn : Conn} (h : AL.find? c s.b.conns = some conn) : aliveB s c = conn.alive := by
  simp only [aliveB, h]

theorem conn_none_dead {s : St} {id : ConnId} (h : s.conn? id = none) : aliveB s id = false := by
  simp only [aliveB, ← St.conn?_def, h]

/-- the attempt is counted -/
abbrev St.sent (s : St) : St := s.stat (fun st => { st with messagesSent := st.messagesSent + 1 })

theorem St.send_eq (s : St) (to : ConnId) (m : Rsp) (v : Option Nat) :
    s.send to m v = (if aliveB s to then s.sent.setOut (s.out ++ [⟨to, m, v⟩]) else s.sent, aliveB s to) := by
  unfold St.send aliveB St.sent
  simp only [St.conn?_def, St.stat_b_conns, St.stat_out]
  cases AL.find? to s.b.conns with
  | none => rfl
  | some c => cases h : c.alive <;> simp [h]

theorem St.sendOrRemove_eq (s : St) (to : ConnId) (m : Rsp) (v : Option Nat) :
    s.sendOrRemove to m v = if aliveB s to then s.sent.setOut (s.out ++ [⟨to, m, v⟩]) else s.sent.pushRemoveConn to := by
  unfold St.sendOrRemove
  rw [St.send_eq]
  cases aliveB s to <;> rfl

theorem St.send_alive {s : St} {to : ConnId} {c : Conn} (m : Rsp) (v : Option Nat) (hc : AL.find? to s.b.conns = some c)
    (ha : c.alive = true) : s.send to m v = (s.sent.setOut (s.out ++ [⟨to, m, v⟩]), true) := by
  rw [St.send_eq, aliveB_of_find hc, ha]; rfl

theorem St.sendOrRemove_alive {s : St} {to : ConnId} {c : Conn} (m : Rsp) (v : Option Nat) (hc : AL.find? to s.b.conns = some c)
    (ha : c.alive = true) : s.sendOrRemove to m v = s.sent.setOut (s.out ++ [⟨to, m, v⟩]) := by
  rw [St.sendOrRemove_eq, aliveB_of_find hc, ha]; rfl

theorem St.send_snd (s : St) (to : ConnId) (m : Rsp) (v : Option Nat) : (s.send to m v).2 = aliveB s to := by
  rw [St.send_eq]

theorem St.send_fst {s t : St} {to : ConnId} {m : Rsp} {v : Option Nat} {ok : Bool} (h : s.send to m v = (t, ok)) :
    t = (s.send to m v).1 := by rw [h]

theorem St.send_out (s : St) (to : ConnId) (m : Rsp) (v : Option Nat) :
    (s.send to m v).1.out = s.out ++ if aliveB s to then [⟨to, m, v⟩] else [] := by
  rw [St.send_eq]; cases aliveB s to <;> simp [St.sent]

theorem St.sendOrRemove_out (s : St) (to : ConnId) (m : Rsp) (v : Option Nat) :
    (s.sendOrRemove to m v).out = s.out ++ if aliveB s to then [⟨to, m, v⟩] else [] := by
  rw [St.sendOrRemove_eq]; cases aliveB s to <;> simp [St.sent]

end Aldrin.Broker
