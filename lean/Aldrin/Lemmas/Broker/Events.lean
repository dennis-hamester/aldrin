/-
Event subscriptions (`broker/src/broker/service.rs`): the owner is told of the first subscriber and of the last.
-/
import Aldrin.Lemmas.Broker.Handlers

namespace Aldrin.Broker
open Generated

def Svc.subscribers (s : Svc) (ev : Nat) : List ConnId := (AL.find? ev s.events).getD []

/-- no empty subscriber entry is kept (the code removes an entry when its last subscriber leaves) -/
def Svc.OK (s : Svc) : Prop := ∀ ev subs, AL.find? ev s.events = some subs → subs ≠ [] ∧ subs.Nodup

theorem Svc.new_ok (c oc : Cookie) : ({ cookie := c, objCookie := oc } : Svc).OK := by
  intro ev subs h; simp at h

theorem sinsert_ne_nil {α : Type} [DecidableEq α] (a : α) (s : List α) : sinsert a s ≠ [] := by
  unfold sinsert; split
  · rename_i h; intro hn; subst hn; simp at h
  · simp

/-- subscribe: `first` is reported exactly on the 0 → 1 transition; afterwards `c` is subscribed and
nobody else's subscription changed -/
theorem Svc.subscribeEvent_spec (s : Svc) (ev : Nat) (c : ConnId) (h : s.OK) :
    ((s.subscribeEvent ev c).2 = true ↔ s.subscribers ev = []) ∧
    (∀ x, x ∈ (s.subscribeEvent ev c).1.subscribers ev ↔ x = c ∨ x ∈ s.subscribers ev) ∧
    (∀ ev', ev' ≠ ev → (s.subscribeEvent ev c).1.subscribers ev' = s.subscribers ev') ∧
    (s.subscribeEvent ev c).1.OK := by
  unfold Svc.subscribeEvent Svc.subscribers
  cases hf : AL.find? ev s.events with
  | none =>
    simp only [Option.getD_none, AL.find?_insert_self, Option.getD_some, List.mem_singleton, List.not_mem_nil, or_false]
    refine ⟨by simp, by simp, ?_, ?_⟩
    · intro ev' hne; rw [AL.find?_insert_ne _ _ (Ne.symm hne)]
    · intro e subs he
      rw [AL.find?_insert] at he
      split at he
      · simp at he; subst he; simp
      · exact h _ _ he
  | some subs =>
    have hs := h _ _ hf
    simp only [Option.getD_some, AL.find?_insert_self, mem_sinsert]
    refine ⟨by simp [hs.1], by simp, ?_, ?_⟩
    · intro ev' hne; rw [AL.find?_insert_ne _ _ (Ne.symm hne)]
    · intro e subs' he
      rw [AL.find?_insert] at he
      split at he
      · simp at he; subst he; exact ⟨sinsert_ne_nil _ _, nodup_sinsert _ _ hs.2⟩
      · exact h _ _ he

/-- unsubscribe: `last` is reported exactly on the 1 → 0 transition -/
theorem Svc.unsubscribeEvent_spec (s : Svc) (ev : Nat) (c : ConnId) (h : s.OK) :
    ((s.unsubscribeEvent ev c).2 = true ↔ (s.subscribers ev ≠ [] ∧ (s.unsubscribeEvent ev c).1.subscribers ev = [])) ∧
    (∀ x, x ∈ (s.unsubscribeEvent ev c).1.subscribers ev ↔ x ≠ c ∧ x ∈ s.subscribers ev) ∧
    (∀ ev', ev' ≠ ev → (s.unsubscribeEvent ev c).1.subscribers ev' = s.subscribers ev') ∧
    (s.unsubscribeEvent ev c).1.OK := by
  unfold Svc.unsubscribeEvent Svc.subscribers
  cases hf : AL.find? ev s.events with
  | none => simp [hf]; exact h
  | some subs =>
    have hs := h _ _ hf
    simp only [Option.getD_some]
    by_cases he : (sremove c subs).isEmpty = true
    · simp only [he, ↓reduceIte, AL.find?_erase_self, Option.getD_none, List.not_mem_nil, false_iff, not_and]
      have hnil : sremove c subs = [] := List.isEmpty_iff.mp he
      refine ⟨by simp [hs.1], ?_, ?_, ?_⟩
      · intro x hx hm
        have : x ∈ sremove c subs := (mem_sremove _ _ _).mpr ⟨hx, hm⟩
        rw [hnil] at this; simp at this
      · intro ev' hne; rw [AL.find?_erase_ne _ (Ne.symm hne)]
      · intro e subs' hfe
        rw [AL.find?_erase] at hfe
        split at hfe
        · simp at hfe
        · exact h _ _ hfe
    · simp only [he, Bool.false_eq_true, ↓reduceIte, AL.find?_insert_self, Option.getD_some, mem_sremove, false_iff, not_and]
      have hne' : sremove c subs ≠ [] := fun hn => he (by simp [hn])
      refine ⟨fun _ => hne', by simp, ?_, ?_⟩
      · intro ev' hne; rw [AL.find?_insert_ne _ _ (Ne.symm hne)]
      · intro e subs' hfe
        rw [AL.find?_insert] at hfe
        split at hfe
        · simp at hfe; subst hfe; exact ⟨hne', nodup_sremove _ _ hs.2⟩
        · exact h _ _ hfe

inductive SubOp where
  | sub (c : ConnId) | unsub (c : ConnId)
  deriving Repr

def Svc.applySub (ev : Nat) (s : Svc) : SubOp → Svc × Bool
  | .sub c => s.subscribeEvent ev c
  | .unsub c => s.unsubscribeEvent ev c

/-- one step of the history: the operation is applied, and its flag is required to say that the set of subscribers
went from empty to non-empty or back -/
def Svc.traceSub (ev : Nat) (a : Svc × Prop) (op : SubOp) : Svc × Prop :=
  ((a.1.applySub ev op).1,
    a.2 ∧ ((a.1.applySub ev op).2 = true ↔ ((a.1.subscribers ev = []) ≠ ((a.1.applySub ev op).1.subscribers ev = []))))

/-- history form for one event id of one service: for every sequence of subscribe / unsubscribe by any
connections, the owner notifications (`first` / `last` flags) are raised exactly when the subscriber
set changes between empty and non-empty. The fold carries the conjunction of the requirements of the steps so far; it
starts from any `P` that holds, because the induction over `ops` needs the accumulator general. -/
theorem Svc.history_transitions (ev : Nat) (ops : List SubOp) (s : Svc) (h : s.OK) : ∀ (P : Prop), P →
    (ops.foldl (Svc.traceSub ev) (s, P)).2 ∧ (ops.foldl (Svc.traceSub ev) (s, P)).1.OK := by
  induction ops generalizing s with
  | nil => intro P hp; exact ⟨hp, h⟩
  | cons op ops ih =>
    intro P hp
    simp only [List.foldl_cons, Svc.traceSub]
    cases op with
    | sub c =>
      obtain ⟨h1, h2, _, h4⟩ := Svc.subscribeEvent_spec s ev c h
      apply ih _ h4
      refine ⟨hp, ?_⟩
      simp only [Svc.applySub]
      rw [h1]
      have hne : (s.subscribeEvent ev c).1.subscribers ev ≠ [] := by
        intro hn
        have := (h2 c).mpr (Or.inl rfl)
        rw [hn] at this; simp at this
      simp [hne]
    | unsub c =>
      obtain ⟨h1, _, _, h4⟩ := Svc.unsubscribeEvent_spec s ev c h
      apply ih _ h4
      refine ⟨hp, ?_⟩
      simp only [Svc.applySub]
      rw [h1]
      by_cases he : s.subscribers ev = []
      · simp [he]
        -- unsubscribing from an empty set leaves it empty
        unfold Svc.unsubscribeEvent Svc.subscribers at *
        cases hf : AL.find? ev s.events with
        | none => simp [hf]
        | some subs => simp [hf] at he; exact absurd he (h _ _ hf).1
      · simp [he]

end Aldrin.Broker
