/-
One turn of `Broker::run` taken apart: the event handler, then the loop over the deferred work, one item at a time.
An item (`Item`) is the removal of a connection, the reply to the caller of a call whose service went away, the abort of
a call, a notice to a connection or a bus event; `St.pop` is the order in which the loop takes them, and one round is
`St.pop` followed by `Item.run` (`processOne_eq`), with the footprint of its item (`Item.fp`, `processOne_fp`); a loop that
ends well leaves nothing deferred (`processLoop_idle`). The loop, the turn and the history are inductions that are done
here once; so is, for an invariant or a relation with a frame, the way through the event handler, an item, a fold,
`remove_object`, the two destroy handlers and `shutdown_connection` (the `…_inv` lemmas).
-/
import Aldrin.Lemmas.Broker.Outcomes
import Aldrin.Model.Broker.Run

namespace Aldrin.Broker
open Generated

theorem handleEvent_inv {P : St → Prop} {bad : List Prim} (F : Frame (fun s t => P s → P t) bad) {s s' : St} {e : Event}
    (hp : P s) (hmsg : ∀ id m r, e = .msg id m → handleMessage s id m = .ok r → P r.1)
    (hnew : ∀ id v, e = .newConn id v → s.conn? id = none → P (s.setConn id { version := v }))
    (hdead : ∀ id, e = .taskDropped id → P (s.updConn id (fun c => { c with alive := false }))) (h : handleEvent s e = .ok s')
    (hb : ∀ p ∈ [Prim.pushRemoveConn, .stat .messagesReceived, .removeConns, .shutdownNow, .shutdownIdle, .stat .numConnections],
      p ∉ bad := by decide) : P s' := by
  cases e
  case msg id m =>
    obtain ⟨r, hm, hf⟩ := handleEvent_msg_ok h
    exact hf.frame F (fun p hw => hb p (by revert p; decide)) (hmsg id m r rfl hm)
  case newConn id v =>
    obtain ⟨hn, rfl⟩ := handleEvent_newConn_ok h
    exact F.step (.stat _ _ .numConnections (fun _ => rfl)) (hb _ (by decide)) (hnew id v rfl hn)
  case taskDropped id => cases h; exact hdead id rfl
  all_goals exact (handleEvent_fp h).frame F (fun p hw => hb p (by revert p; fp_decide)) hp

/-- what the work loop tells a connection: the owner of a service that its last subscriber is gone, a subscriber that the
service is -/
inductive Notice where
  | unsubscribeEvent (svc : Cookie) (ev : Nat)
  | unsubscribeAllEvents (svc : Cookie)
  | serviceDestroyed (svc : Cookie)

def Notice.msg : Notice → Rsp
  | .unsubscribeEvent svc ev => .unsubscribeEvent svc ev
  | .unsubscribeAllEvents svc => .unsubscribeAllEvents svc
  | .serviceDestroyed svc => .serviceDestroyed svc

inductive Item where
  | removeConn (cid : ConnId) (sendShutdown : Bool)
  | tell (cid : ConnId) (n : Notice)
  | finishCall (serial : Nat) (cid : ConnId) (result : CallResult)
  | bus (e : BusEv)
  | abort (serial : Nat) (cid : ConnId)

def Work.idle (w : Work) : Prop :=
  w.removeConns = [] ∧ w.unsubscribeEvent = [] ∧ w.unsubscribeAll = [] ∧ w.servicesDestroyed = [] ∧ w.removeCalls = [] ∧
  w.createObject = [] ∧ w.createService = [] ∧ w.destroyService = [] ∧ w.destroyObject = [] ∧ w.abortCalls = []

theorem Work.idle.removeCalls {w : Work} (h : w.idle) : w.removeCalls = [] := h.2.2.2.2.1
theorem Work.idle.abortCalls {w : Work} (h : w.idle) : w.abortCalls = [] := h.2.2.2.2.2.2.2.2.2

/-- The item `process_loop_result` takes next, and the state with the item off its queue. -/
def St.pop (s : St) : Option (Item × St) :=
  match s.w.removeConns with
  | (cid, b) :: rest => some (.removeConn cid b, s.setWRemoveConns rest)
  | [] =>
  match s.w.unsubscribeEvent with
  | (cid, svc, ev) :: rest => some (.tell cid (.unsubscribeEvent svc ev), s.setWUnsubscribeEvent rest)
  | [] =>
  match s.w.unsubscribeAll with
  | (cid, svc) :: rest => some (.tell cid (.unsubscribeAllEvents svc), s.setWUnsubscribeAll rest)
  | [] =>
  match s.w.servicesDestroyed with
  | (cid, svc) :: rest => some (.tell cid (.serviceDestroyed svc), s.setWServicesDestroyed rest)
  | [] =>
  match s.w.removeCalls with
  | (serial, cid, result) :: rest => some (.finishCall serial cid result, s.setWRemoveCalls rest)
  | [] =>
  match s.w.createObject with
  | o :: rest => some (.bus (.objCreated o), s.setWCreateObject rest)
  | [] =>
  match s.w.createService with
  | sv :: rest => some (.bus (.svcCreated sv), s.setWCreateService rest)
  | [] =>
  match s.w.destroyService with
  | sv :: rest => some (.bus (.svcDestroyed sv), s.setWDestroyService rest)
  | [] =>
  match s.w.destroyObject with
  | o :: rest => some (.bus (.objDestroyed o), s.setWDestroyObject rest)
  | [] =>
  match s.w.abortCalls with
  | (serial, cid) :: rest => some (.abort serial cid, s.setWAbortCalls rest)
  | [] => none

/-- What an item does to a state from whose queues it has been taken. -/
def Item.run (s : St) : Item → Except Panic St
  | .removeConn cid b => shutdownConnection s cid b
  | .tell cid n => .ok (if (s.conn? cid).isSome then s.sendOrRemove cid n.msg else s)
  | .finishCall serial cid result => replyToCaller "remove_function_call: remove_call" s cid serial result none
  | .bus e => .ok (emitBusEvent s e)
  | .abort serial cid => abortCall s serial cid

theorem processOne_eq (s : St) : processOne s = s.pop.map fun p => p.1.run p.2 := by
  -- on queues that are given, both sides compute
  obtain ⟨b, ⟨n, i, rc, rca, sd, ue, ua, co, dob, cs, ds, ac⟩, out⟩ := s
  rcases rc with _ | ⟨⟨_, _⟩, _⟩
  rotate_left; · rfl
  rcases ue with _ | ⟨⟨_, _, _⟩, _⟩
  rotate_left; · rfl
  rcases ua with _ | ⟨⟨_, _⟩, _⟩
  rotate_left; · rfl
  rcases sd with _ | ⟨⟨_, _⟩, _⟩
  rotate_left; · rfl
  rcases rca with _ | ⟨⟨_, _, _⟩, _⟩
  rotate_left; · rfl
  rcases co with _ | ⟨_, _⟩
  rotate_left; · rfl
  rcases cs with _ | ⟨_, _⟩
  rotate_left; · rfl
  rcases ds with _ | ⟨_, _⟩
  rotate_left; · rfl
  rcases dob with _ | ⟨_, _⟩
  rotate_left; · rfl
  rcases ac with _ | ⟨⟨_, _⟩, _⟩ <;> rfl

theorem processOne_of_pop {s t : St} {i : Item} (h : s.pop = some (i, t)) : processOne s = some (i.run t) := by
  rw [processOne_eq, h]; rfl

theorem processOne_item {s : St} {r : Except Panic St} (h : processOne s = some r) : ∃ i t, s.pop = some (i, t) ∧ i.run t = r := by
  rw [processOne_eq] at h
  cases hp : s.pop with
  | none => rw [hp] at h; cases h
  | some p => rw [hp] at h; exact ⟨p.1, p.2, rfl, Option.some.inj h⟩

theorem St.pop_removeConns {s : St} {cid b rest} (h : s.w.removeConns = (cid, b) :: rest) :
    s.pop = some (.removeConn cid b, s.setWRemoveConns rest) := by
  unfold St.pop; rw [h]

theorem St.pop_removeCalls {s : St} {serial cid result rest} (h0 : s.w.removeConns = []) (h1 : s.w.unsubscribeEvent = [])
    (h2 : s.w.unsubscribeAll = []) (h3 : s.w.servicesDestroyed = []) (hq : s.w.removeCalls = (serial, cid, result) :: rest) :
    s.pop = some (.finishCall serial cid result, s.setWRemoveCalls rest) := by
  unfold St.pop; rw [h0, h1, h2, h3, hq]

theorem St.pop_destroyService {s : St} {sv rest} (h0 : s.w.removeConns = []) (h1 : s.w.unsubscribeEvent = [])
    (h2 : s.w.unsubscribeAll = []) (h3 : s.w.servicesDestroyed = []) (h4 : s.w.removeCalls = []) (h5 : s.w.createObject = [])
    (h6 : s.w.createService = []) (hq : s.w.destroyService = sv :: rest) :
    s.pop = some (.bus (.svcDestroyed sv), s.setWDestroyService rest) := by
  unfold St.pop; rw [h0, h1, h2, h3, h4, h5, h6, hq]

theorem St.pop_destroyObject {s : St} {o rest} (h0 : s.w.removeConns = []) (h1 : s.w.unsubscribeEvent = [])
    (h2 : s.w.unsubscribeAll = []) (h3 : s.w.servicesDestroyed = []) (h4 : s.w.removeCalls = []) (h5 : s.w.createObject = [])
    (h6 : s.w.createService = []) (h7 : s.w.destroyService = []) (hq : s.w.destroyObject = o :: rest) :
    s.pop = some (.bus (.objDestroyed o), s.setWDestroyObject rest) := by
  unfold St.pop; rw [h0, h1, h2, h3, h4, h5, h6, h7, hq]

theorem St.pop_idle {s : St} (h : s.w.idle) : s.pop = none := by
  obtain ⟨h1, h2, h3, h4, h5, h6, h7, h8, h9, h10⟩ := h
  unfold St.pop; rw [h1, h2, h3, h4, h5, h6, h7, h8, h9, h10]

/-- nothing but aborts is deferred -/
theorem St.pop_abortCalls {s : St} {serial cid rest} (hi : (s.setWAbortCalls []).w.idle)
    (hq : s.w.abortCalls = (serial, cid) :: rest) : s.pop = some (.abort serial cid, s.setWAbortCalls rest) := by
  obtain ⟨h1, h2, h3, h4, h5, h6, h7, h8, h9, _⟩ := hi
  rw [St.setWAbortCalls_w_removeConns] at h1
  rw [St.setWAbortCalls_w_unsubscribeEvent] at h2
  rw [St.setWAbortCalls_w_unsubscribeAll] at h3
  rw [St.setWAbortCalls_w_servicesDestroyed] at h4
  rw [St.setWAbortCalls_w_removeCalls] at h5
  rw [St.setWAbortCalls_w_createObject] at h6
  rw [St.setWAbortCalls_w_createService] at h7
  rw [St.setWAbortCalls_w_destroyService] at h8
  rw [St.setWAbortCalls_w_destroyObject] at h9
  unfold St.pop; rw [h1, h2, h3, h4, h5, h6, h7, h8, h9, hq]

/-- exact for the three kinds of item that do more than notify; for the other two only which queues may have changed -/
theorem St.pop_spec {s t : St} {i : Item} (h : s.pop = some (i, t)) :
    match i with
    | .removeConn cid b => ∃ rest, s.w.removeConns = (cid, b) :: rest ∧ t = s.setWRemoveConns rest
    | .finishCall serial cid result => ∃ rest, s.w.removeCalls = (serial, cid, result) :: rest ∧ t = s.setWRemoveCalls rest
    | .abort serial cid => ∃ rest, s.w.abortCalls = (serial, cid) :: rest ∧ t = s.setWAbortCalls rest
    | .tell .. => (∃ x, t = s.setWUnsubscribeEvent x) ∨ (∃ x, t = s.setWUnsubscribeAll x) ∨ ∃ x, t = s.setWServicesDestroyed x
    | .bus _ => (∃ x, t = s.setWCreateObject x) ∨ (∃ x, t = s.setWCreateService x) ∨ (∃ x, t = s.setWDestroyService x) ∨
        ∃ x, t = s.setWDestroyObject x := by
  -- on queues that are given, `St.pop` computes
  obtain ⟨b, ⟨n, i0, rc, rca, sd, ue, ua, co, dob, cs, ds, ac⟩, out⟩ := s
  rcases rc with _ | ⟨⟨_, _⟩, _⟩
  rotate_left; · cases h; exact ⟨_, rfl, rfl⟩
  rcases ue with _ | ⟨⟨_, _, _⟩, _⟩
  rotate_left; · cases h; exact .inl ⟨_, rfl⟩
  rcases ua with _ | ⟨⟨_, _⟩, _⟩
  rotate_left; · cases h; exact .inr (.inl ⟨_, rfl⟩)
  rcases sd with _ | ⟨⟨_, _⟩, _⟩
  rotate_left; · cases h; exact .inr (.inr ⟨_, rfl⟩)
  rcases rca with _ | ⟨⟨_, _, _⟩, _⟩
  rotate_left; · cases h; exact ⟨_, rfl, rfl⟩
  rcases co with _ | ⟨_, _⟩
  rotate_left; · cases h; exact .inl ⟨_, rfl⟩
  rcases cs with _ | ⟨_, _⟩
  rotate_left; · cases h; exact .inr (.inl ⟨_, rfl⟩)
  rcases ds with _ | ⟨_, _⟩
  rotate_left; · cases h; exact .inr (.inr (.inl ⟨_, rfl⟩))
  rcases dob with _ | ⟨_, _⟩
  rotate_left; · cases h; exact .inr (.inr (.inr ⟨_, rfl⟩))
  rcases ac with _ | ⟨⟨_, _⟩, _⟩
  · cases h
  · cases h; exact ⟨_, rfl, rfl⟩

/-- the queues an item of this kind is taken from -/
def Item.queue : Item → List Prim
  | .removeConn .. => [.removeConns]
  | .tell .. => [.unsubscribeEvent, .unsubscribeAll, .servicesDestroyed]
  | .finishCall .. => [.removeCalls]
  | .bus _ => [.createObject, .createService, .destroyService, .destroyObject]
  | .abort .. => [.abortCalls]

/-- what an item may touch once it is off its queue -/
def Item.foot : Item → List Prim
  | .removeConn .. => shutdownConnectionFoot
  | .tell .. => [.emit .unsubscribeEvent, .emit .unsubscribeAllEvents, .emit .serviceDestroyed, .stat .messagesSent, .pushRemoveConn]
  | .finishCall .. => [.conn .calls, .emit .callFunctionReply, .stat .messagesSent, .pushRemoveConn]
  | .bus _ => emitBusEventFoot
  | .abort .. => abortCallFoot

/-- the side condition of `Fp.frame` / `Fp.mono` for the footprint of an item that is known by its kind (after `cases i`):
`decide` wants the list written out -/
macro "item_decide" : tactic => `(tactic| (dsimp only [Item.foot, Item.queue]; decide))

theorem St.pop_fp {s t : St} {i : Item} (h : s.pop = some (i, t)) : Fp i.queue s t := by
  have hs := St.pop_spec h
  cases i <;> dsimp only [Item.queue]
  case removeConn => obtain ⟨_, -, rfl⟩ := hs; exact .step (.refl s) (by decide) (.removeConns s _)
  case finishCall => obtain ⟨_, -, rfl⟩ := hs; exact .step (.refl s) (by decide) (.removeCalls s _)
  case abort => obtain ⟨_, -, rfl⟩ := hs; exact .step (.refl s) (by decide) (.abortCalls s _)
  case tell =>
    obtain ⟨_, rfl⟩ | ⟨_, rfl⟩ | ⟨_, rfl⟩ := hs
    · exact .step (.refl s) (by decide) (.unsubscribeEvent s _)
    · exact .step (.refl s) (by decide) (.unsubscribeAll s _)
    · exact .step (.refl s) (by decide) (.servicesDestroyed s _)
  case bus =>
    obtain ⟨_, rfl⟩ | ⟨_, rfl⟩ | ⟨_, rfl⟩ | ⟨_, rfl⟩ := hs
    · exact .step (.refl s) (by decide) (.createObject s _)
    · exact .step (.refl s) (by decide) (.createService s _)
    · exact .step (.refl s) (by decide) (.destroyService s _)
    · exact .step (.refl s) (by decide) (.destroyObject s _)

theorem Item.run_fp {s s' : St} : ∀ {i : Item}, i.run s = .ok s' → Fp i.foot s s'
  | .removeConn .., h => shutdownConnection_fp h
  | .finishCall .., h => replyToCaller_fp h
  | .bus e, h => by cases h; exact emitBusEvent_fp s e
  | .abort .., h => abortCall_fp h
  | .tell cid n, h => by
    cases h
    dsimp only [Item.foot]
    split
    · cases n <;> dsimp only [Notice.msg] <;> exact (Fp.refl s).sendOrRemove
    · exact .refl s

theorem Item.fp {s t s' : St} {i : Item} (hp : s.pop = some (i, t)) (hr : i.run t = .ok s') : Fp (i.queue ++ i.foot) s s' :=
  (St.pop_fp hp).inl.trans (Item.run_fp hr).inr

theorem processOne_fp {s s' : St} (h : processOne s = some (.ok s')) : Fp processOneFoot s s' := by
  obtain ⟨i, t, hp, hr⟩ := processOne_item h
  have hq := St.pop_fp hp
  -- `processOneFoot` ends in the footprints of the three large items: these are found by position, not compared label by label
  cases i with
  | removeConn => exact (hq.mono (by item_decide)).trans (shutdownConnection_fp hr).inr.inl.inl
  | abort => exact (hq.mono (by item_decide)).trans (abortCall_fp hr).inr.inl
  | bus => exact (hq.mono (by item_decide)).trans (Item.run_fp hr).inr
  | _ => exact (hq.mono (by item_decide)).trans ((Item.run_fp hr).mono (by item_decide))

/-- `hd` asks that `bad` has none of what the other items touch: the queues, the calls on record with a connection, the
output, counters. -/
theorem processOne_inv {P : St → Prop} {bad : List Prim} (F : Frame (fun s t => P s → P t) bad) {s s' : St} (hp : P s)
    (hr : processOne s = some (.ok s')) (hshut : ∀ t cid b, P t → shutdownConnection t cid b = .ok s' → P s')
    (hq : Prim.removeConns ∉ bad := by decide)
    (hd : ∀ i : Item, (∀ cid b, i ≠ .removeConn cid b) → ∀ p ∈ i.queue ++ i.foot, p ∉ bad := by
      intro i hi; cases i <;> first | exact absurd rfl (hi _ _) | item_decide) : P s' := by
  obtain ⟨i, t, hpop, hrun⟩ := processOne_item hr
  by_cases hi : ∃ cid b, i = .removeConn cid b
  · obtain ⟨cid, b, rfl⟩ := hi
    exact hshut t cid b ((St.pop_fp hpop).frame F (fun _ h => List.mem_singleton.1 h ▸ hq) hp) hrun
  · exact (Item.fp hpop hrun).frame F (hd i fun cid b e => hi ⟨cid, b, e⟩) hp

theorem foldE_rest {α : Type} {P : List α → St → Prop} {f : St → α → Except Panic St}
    (hf : ∀ a l s s', P (a :: l) s → f s a = .ok s' → P l s') {l : List α} {s s' : St} (hp : P l s)
    (h : foldE f s l = .ok s') : P [] s' := by
  induction l generalizing s with
  | nil => cases h; exact hp
  | cons a l ih =>
    rw [foldE] at h
    split at h
    · cases h
    · exact ih (hf _ _ _ _ hp ‹_›) h

theorem foldE_rest_ok {α : Type} {P : List α → St → Prop} {f : St → α → Except Panic St}
    (hf : ∀ a l s, P (a :: l) s → ∃ s', f s a = .ok s' ∧ P l s') :
    ∀ {l : List α} {s : St}, P l s → ∃ s', foldE f s l = .ok s' ∧ P [] s'
  | [], s, hp => ⟨s, rfl, hp⟩
  | a :: l, s, hp => by
    obtain ⟨s1, h1, p1⟩ := hf a l s hp
    simp only [foldE, h1]
    exact foldE_rest_ok hf p1

theorem foldE_inv {α : Type} {P : St → Prop} {f : St → α → Except Panic St} (hf : ∀ s a s', P s → f s a = .ok s' → P s')
    {l : List α} {s s' : St} (hp : P s) (h : foldE f s l = .ok s') : P s' :=
  foldE_rest (P := fun _ => P) (fun a _ s s' => hf s a s') hp h

theorem foldl_inv {α : Type} {P : St → Prop} {f : St → α → St} (hf : ∀ s a, P s → P (f s a)) {l : List α} {s : St} (hp : P s) :
    P (l.foldl f s) := by
  induction l generalizing s with
  | nil => exact hp
  | cons a l ih => exact ih (hf _ _ hp)

theorem foldE_no_error {α : Type} {P : St → Prop} {f : St → α → Except Panic St} {p : Panic}
    (hf : ∀ s a s', P s → f s a = .ok s' → P s') (hne : ∀ s a, P s → f s a ≠ .error p) {l : List α} {s : St} (hp : P s) :
    foldE f s l ≠ .error p := by
  induction l generalizing s with
  | nil => nofun
  | cons a l ih =>
    rw [foldE]
    split
    · next hf => exact fun e => hne s a hp (Except.error.inj e ▸ hf)
    · exact ih (hf _ _ _ hp ‹_›)

theorem removeObject_inv {P : St → Prop} {bad : List Prim} (F : Frame (fun s t => P s → P t) bad)
    (hsvc : ∀ s c s', P s → removeService s c = .ok s' → P s') {s s' : St} {c : Cookie} (hp : P s)
    (hr : removeObject s c = .ok s')
    (hd : ∀ p ∈ [Prim.objUuids, .objs, .conn .objects, .destroyObject, .stat .numObjects], p ∉ bad := by decide) : P s' := by
  rcases removeObject_outcome hr with ⟨-, rfl⟩ | ⟨u, obj, s1, -, -, hs, rfl⟩
  · exact hp
  · exact F.step (.stat _ _ .numObjects (fun _ => rfl)) (hd _ (by decide))
      (foldE_inv hsvc ((dropObject_fp ..).frame F (fun p hw => hd p (by revert p; decide)) hp) hs)

theorem destroyObject_inv {P : St → Prop} {bad : List Prim} (F : Frame (fun s t => P s → P t) bad)
    (hobj : ∀ s c s', P s → removeObject s c = .ok s' → P s') {s : St} {id serial c r} (hp : P s)
    (hr : destroyObject s id serial c = .ok r)
    (hd : ∀ p ∈ [Prim.emit .destroyObjectReply, .stat .messagesSent], p ∉ bad := by decide) : P r.1 := by
  rcases destroyObject_outcome hr with hf | hr
  · exact hf.frame F hd hp
  · exact hobj _ _ _ ((Fp.send (W := [.emit .destroyObjectReply, .stat .messagesSent]) (.refl s)).frame F hd hp) hr

theorem destroyService_inv {P : St → Prop} {bad : List Prim} (F : Frame (fun s t => P s → P t) bad)
    (hsvc : ∀ s c s', P s → removeService s c = .ok s' → P s') {s : St} {id serial c r} (hp : P s)
    (hr : destroyService s id serial c = .ok r)
    (hd : ∀ p ∈ [Prim.emit .destroyServiceReply, .stat .messagesSent], p ∉ bad := by decide) : P r.1 := by
  rcases destroyService_outcome hr with hf | hr
  · exact hf.frame F hd hp
  · exact hsvc _ _ _ ((Fp.send (W := [.emit .destroyServiceReply, .stat .messagesSent]) (.refl s)).frame F hd hp) hr

/-- For an invariant `P` take `R := fun s t => P s → P t`. An invariant that is suspended while the connection is out of the
map and its belongings are not goes through the stages of `shutdownConnection_ok` instead. -/
theorem shutdownConnection_inv {R : St → St → Prop} {bad : List Prim} (F : Frame R bad) {s s' : St} {id : ConnId} {b : Bool}
    (hl : ∀ t c, R t (removeBusListener t c)) (ho : ∀ t c t', removeObject t c = .ok t' → R t t')
    (hc : ∀ t c e t', removeChannelEnd t c e (some id) = .ok t' → R t t') (h : shutdownConnection s id b = .ok s')
    (hd : ∀ p ∈ [Prim.stat .messagesSent, .emit .shutdown, .connGone, .abortCalls, .stat .numConnections] ++ dropSubscriptionsFoot ++
      introspectionFoot, p ∉ bad := by decide) : R s s' := by
  rcases shutdownConnection_ok h with ⟨-, rfl⟩ | ⟨⟨st⟩⟩
  · exact F.refl _
  have hd' : ∀ {W : List Prim}, (∀ p ∈ W, p ∈ [Prim.stat .messagesSent, .emit .shutdown, .connGone, .abortCalls, .stat .numConnections] ++
      dropSubscriptionsFoot ++ introspectionFoot) → ∀ p ∈ W, p ∉ bad := fun hw p hp => hd p (hw p hp)
  have a0 : R s (st.told.setConns (AL.erase id st.told.b.conns)) :=
    F.trans (st.told_fp.frame F (hd' (by decide))) (F.step (.connGone st.told id) (hd _ (by decide)))
  have a1 := foldE_inv (P := R s) (fun _ _ _ hp hr => F.trans hp (ho _ _ _ hr))
    (foldl_inv (P := R s) (fun _ _ hp => F.trans hp (hl _ _)) a0) st.objects
  have a6 := foldE_inv (P := R s) (fun _ _ _ hp hr => F.trans hp (hc _ _ _ _ hr))
    (foldE_inv (P := R s) (fun _ _ _ hp hr => F.trans hp (hc _ _ _ _ hr))
      (F.trans a1 (st.subs.frame F (hd' (by decide)))) st.senders) st.receivers
  exact F.trans (F.trans a6 ((queueAborts_fp st.noReceivers st.conn.calls).frame F (hd' (by decide))))
    ((removeIntrospectionConn_fp st.rest).frame F (hd' (by decide)))

theorem processLoop_inv {P : St → Prop} (h1 : ∀ s s', P s → processOne s = some (.ok s') → P s') :
    ∀ (fuel : Nat) (s s' : St), P s → processLoop fuel s = .ok s' → P s'
  | 0, _, _, _, h => by cases h
  | fuel + 1, s, s', hp, h => by
    simp only [processLoop] at h
    split at h
    · cases h; exact hp
    · cases h
    · exact processLoop_inv h1 fuel _ _ (h1 _ _ hp ‹_›) h

theorem processLoop_fp (fuel : Nat) (s s' : St) (h : processLoop fuel s = .ok s') : Fp processOneFoot s s' :=
  processLoop_inv (P := Fp processOneFoot s) (fun _ _ hp h1 => hp.trans (processOne_fp h1)) fuel s s' (.refl s) h

theorem processLoop_error {P : St → Prop} (h1 : ∀ s s', P s → processOne s = some (.ok s') → P s') :
    ∀ (fuel : Nat) (s : St) (p : Panic), P s → processLoop fuel s = .error p →
      p = .fuel ∨ ∃ t, P t ∧ processOne t = some (.error p)
  | 0, _, _, _, h => by cases h; exact .inl rfl
  | fuel + 1, s, p, hp, h => by
    simp only [processLoop] at h
    split at h
    · cases h
    · cases h; exact .inr ⟨s, hp, ‹_›⟩
    · exact processLoop_error h1 fuel _ _ (h1 _ _ hp ‹_›) h

theorem processLoop_end : ∀ (fuel : Nat) (s s' : St), processLoop fuel s = .ok s' → processOne s' = none
  | 0, _, _, h => by cases h
  | fuel + 1, s, s', h => by
    simp only [processLoop] at h
    split at h
    · cases h; assumption
    · cases h
    · exact processLoop_end fuel _ _ h

theorem processOne_of_idle {s : St} (h : s.w.idle) : processOne s = none := by
  rw [processOne_eq, St.pop_idle h]; rfl

theorem processLoop_of_idle {s : St} (h : s.w.idle) (fuel : Nat) : processLoop (fuel + 1) s = .ok s := by
  simp [processLoop, processOne_of_idle h]

theorem processOne_none_idle {s : St} (h : processOne s = none) : s.w.idle := by
  unfold processOne at h
  repeat' (split at h)
  all_goals (try (simp at h; done))
  exact ⟨‹_›, ‹_›, ‹_›, ‹_›, ‹_›, ‹_›, ‹_›, ‹_›, ‹_›, ‹_›⟩

theorem processLoop_idle : ∀ (fuel : Nat) (s s' : St), processLoop fuel s = .ok s' → s'.w.idle :=
  fun fuel s s' h => processOne_none_idle (processLoop_end fuel s s' h)

theorem processLoop_done : ∀ (fuel : Nat) (s s' : St), processLoop fuel s = .ok s' → s'.w.removeCalls = [] ∧ s'.w.abortCalls = [] :=
  fun fuel s s' h => ⟨(processLoop_idle fuel s s' h).removeCalls, (processLoop_idle fuel s s' h).abortCalls⟩

theorem step_ok {b b' : Broker} {w w' : Work} {e : Event} {out : List Out} (h : step b w e = .ok (b', w', out)) :
    ∃ s1, handleEvent ⟨b, w, []⟩ e = .ok s1 ∧ processLoop (loopFuel s1) s1 = .ok ⟨b', w', out⟩ := by
  unfold step at h
  split at h
  · cases h
  · split at h
    · cases h
    · cases h; exact ⟨_, ‹_›, ‹_›⟩

theorem step_error {b : Broker} {w : Work} {e : Event} {p : Panic} (h : step b w e = .error p) :
    handleEvent ⟨b, w, []⟩ e = .error p ∨ ∃ s1, handleEvent ⟨b, w, []⟩ e = .ok s1 ∧ processLoop (loopFuel s1) s1 = .error p := by
  unfold step at h
  split at h
  · cases h; exact .inl ‹_›
  · split at h
    · cases h; exact .inr ⟨_, ‹_›, ‹_›⟩
    · cases h

theorem processLoop_item {s t s' : St} {fuel : Nat} {i : Item} (hp : s.pop = some (i, t))
    (h : processLoop (fuel + 1) s = .ok s') : ∃ s1, i.run t = .ok s1 ∧ processLoop fuel s1 = .ok s' := by
  simp only [processLoop, processOne_of_pop hp] at h
  cases hr : i.run t with
  | error p => rw [hr] at h; cases h
  | ok s1 => rw [hr] at h; exact ⟨s1, rfl, h⟩

theorem loopFuel_pos (s : St) : 1 ≤ loopFuel s :=
  Nat.le_trans (by decide : 1 ≤ 1000) (Nat.le_add_right ..)

theorem step_msg_ok {b b' : Broker} {w w' : Work} {id : ConnId} {m : Req} {out : List Out}
    (h : step b w (.msg id m) = .ok (b', w', out)) :
    ∃ r fuel, handleMessage ⟨b, w, []⟩ id m = .ok r ∧ processLoop (fuel + 1) (received r id) = .ok ⟨b', w', out⟩ := by
  obtain ⟨s1, h1, h2⟩ := step_ok h
  obtain ⟨r, hm, rfl⟩ := handleEvent_msg h1
  exact ⟨r, loopFuel (received r id) - 1, hm, by rw [Nat.sub_add_cancel (loopFuel_pos _)]; exact h2⟩

theorem step_msg_quiet {b b' : Broker} {w w' : Work} {id : ConnId} {m : Req} {out : List Out} {s1 : St} (hi : w.idle)
    (hm : handleMessage ⟨b, w, []⟩ id m = .ok (s1, true)) (hw : s1.w = w) (h : step b w (.msg id m) = .ok (b', w', out)) :
    b' = (s1.stat (fun st => { st with messagesReceived := st.messagesReceived + 1 })).b ∧ w' = w ∧ out = s1.out := by
  obtain ⟨r, fuel, hr, hl⟩ := step_msg_ok h
  cases hr.symm.trans hm
  rw [processLoop_of_idle (s := received (s1, true) id) (by show s1.w.idle; rw [hw]; exact hi)] at hl
  have := (Except.ok.inj hl).symm
  simp only [received, ↓reduceIte] at this
  exact ⟨congrArg St.b this, (congrArg St.w this).trans hw, congrArg St.out this⟩

/-- The invariants carried through a turn (`G2`, `G5`, `CLInv`, `Reg`, `Cal`, `Own`) do not look at `out`, so `P ⟨b', w', out⟩`
unfolds to `P ⟨b', w', []⟩`, the state the next turn starts from: `step_G2` … `step_own` conclude the latter by a type
ascription on the former. -/
theorem step_inv {P : St → Prop} {b b' : Broker} {w w' : Work} {e : Event} {out : List Out}
    (hev : ∀ s1, handleEvent ⟨b, w, []⟩ e = .ok s1 → P s1) (hone : ∀ s s', P s → processOne s = some (.ok s') → P s')
    (h : step b w e = .ok (b', w', out)) : P ⟨b', w', out⟩ := by
  obtain ⟨s1, h1, h2⟩ := step_ok h
  exact processLoop_inv hone _ _ _ (hev s1 h1) h2

theorem run_cons_ok {b b' : Broker} {w w' : Work} {e : Event} {es : List Event} {outs : List (List Out)}
    (h : run b w (e :: es) = .ok (b', w', outs)) :
    ∃ b1 w1 out outs', step b w e = .ok (b1, w1, out) ∧ run b1 w1 es = .ok (b', w', outs') ∧ outs = out :: outs' := by
  simp only [run] at h
  split at h
  · cases h
  · split at h
    · cases h
    · cases h; exact ⟨_, _, _, _, ‹_›, ‹_›, rfl⟩

theorem run_inv {P : Broker → Work → Prop}
    (hstep : ∀ b w e b' w' out, P b w → step b w e = .ok (b', w', out) → P b' w') :
    ∀ (es : List Event) (b b' : Broker) (w w' : Work) (outs : List (List Out)), P b w → run b w es = .ok (b', w', outs) → P b' w'
  | [], _, _, _, _, _, hp, h => by cases h; exact hp
  | e :: es, b, b', w, w', outs, hp, h => by
    obtain ⟨b1, w1, out, outs', hs, hr, -⟩ := run_cons_ok h
    exact run_inv hstep es _ _ _ _ _ (hstep _ _ _ _ _ _ hp hs) hr

end Aldrin.Broker
