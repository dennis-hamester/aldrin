/-
The work loop of `process_loop_result` stops: from every state, after finitely many items of deferred work nothing is
left or an item fails. The measure is lexicographic — connections, deferred items other than removals of connections,
removals of connections: an item that is not the removal of a connection leaves the connections alone and can only add
removals of connections (`send!` to a connection whose task is gone); the removal of a connection that is there removes
it (and may defer any amount of other work); the removal of one that is not there only takes the item off the list.
Hence the outcome of `processLoop` does not depend on its budget once that is large enough (`processLoop_stable`): the
model's "out of fuel" is never what ends the loop.
-/
import Aldrin.Lemmas.Broker.Gauge5

namespace Aldrin.Broker
open Generated

def mConns (s : St) : Nat := s.b.conns.length
/-- deferred items other than removals of connections -/
def mWork (s : St) : Nat :=
  s.w.unsubscribeEvent.length + s.w.unsubscribeAll.length + s.w.servicesDestroyed.length + s.w.removeCalls.length +
  s.w.createObject.length + s.w.createService.length + s.w.destroyService.length + s.w.destroyObject.length + s.w.abortCalls.length
def mRm (s : St) : Nat := s.w.removeConns.length

/-- nothing but removals of connections has been deferred -/
def SameQ (s s' : St) : Prop := { s'.w with removeConns := s.w.removeConns } = s.w

theorem SameQ.frame : Frame SameQ [.unsubscribeEvent, .unsubscribeAll, .servicesDestroyed, .removeCalls,
    .createObject, .createService, .destroyService, .destroyObject, .abortCalls, .shutdownNow, .shutdownIdle] := by
  refine ⟨fun _ => rfl, fun {a b c} h1 h2 => ?_, fun h hb => ?_⟩
  · unfold SameQ at *; rw [← h1, ← h2]
  · cases h
    case unsubscribeEvent | unsubscribeAll | servicesDestroyed | removeCalls | createObject | createService |
      destroyService | destroyObject | abortCalls | shutdownNow | shutdownIdle => exact (hb (by decide)).elim
    case connDead => unfold St.updConn; split <;> rfl
    all_goals rfl

def SameW (s s' : St) : Prop := KSc s s' ∧ SameQ s s'

theorem SameW.frame : Frame SameW ([.connGone, .connNew] ++ [.unsubscribeEvent, .unsubscribeAll, .servicesDestroyed, .removeCalls,
    .createObject, .createService, .destroyService, .destroyObject, .abortCalls, .shutdownNow, .shutdownIdle]) :=
  KSc.frame.and SameQ.frame

theorem SameW.conns {s s' : St} (h : SameW s s') : mConns s' = mConns s := KS_length h.1
theorem SameW.work {s s' : St} (h : SameW s s') : mWork s' = mWork s := by
  unfold mWork; rw [← h.2]

theorem St.pop_work {s t : St} {i : Item} (hrm : s.w.removeConns = []) (hp : s.pop = some (i, t)) :
    (∀ cid b, i ≠ .removeConn cid b) ∧ mConns t = mConns s ∧ mWork t + 1 = mWork s := by
  revert hp
  fun_cases St.pop s <;> intro hp <;> cases hp
  · exact nomatch hrm.symm.trans ‹_ = _ :: _›  -- no removal of a connection is queued
  all_goals exact ⟨nofun, rfl, by simp +arith [mWork, *]⟩

/-- an item that is not the removal of a connection: the connections stay, one item less, only removals of connections
may have been added -/
theorem processOne_work {s s' : St} (hrm : s.w.removeConns = []) (hr : processOne s = some (.ok s')) :
    mConns s' = mConns s ∧ mWork s' + 1 = mWork s := by
  obtain ⟨i, t, hp, hr⟩ := processOne_item hr
  obtain ⟨hi, hc, hw⟩ := St.pop_work hrm hp
  -- once the item is off its queue, what it does is within the frame of `SameW`
  have h : SameW t s' := by
    cases i with
    | removeConn cid b => exact absurd rfl (hi cid b)
    | _ => exact (Item.run_fp hr).frame SameW.frame (by item_decide)
  exact ⟨by rw [h.conns, hc], by rw [h.work, hw]⟩

theorem shutdownConnection_conns {s s' : St} {id : ConnId} {b : Bool} (hr : shutdownConnection s id b = .ok s') :
    (AL.find? id s.b.conns = none ∧ s' = s) ∨ mConns s' < mConns s := by
  rcases shutdownConnection_teardown hr with hn | ⟨conn, t, hconn, -, htc, ht⟩
  · exact .inl hn
  · right
    have := KS_length (ht.frame KSc.frame : KSc _ s')
    rw [St.setConns_b_conns, htc] at this
    unfold mConns
    rw [this]
    exact AL.length_erase_lt hconn

/-- finitely many successful items of deferred work lead from the first state to the second -/
inductive Steps : St → St → Prop
  | refl (s : St) : Steps s s
  | step {s s1 s2 : St} : processOne s = some (.ok s1) → Steps s1 s2 → Steps s s2

theorem processOne_decreases {s s1 : St} (hp : processOne s = some (.ok s1)) :
    mConns s1 < mConns s ∨ (mConns s1 = mConns s ∧ (mWork s1 < mWork s ∨ (mWork s1 = mWork s ∧ mRm s1 < mRm s))) := by
  cases hrm : s.w.removeConns with
  | nil =>
    obtain ⟨h1, h2⟩ := processOne_work hrm hp
    exact Or.inr ⟨h1, Or.inl (by omega)⟩
  | cons x rest =>
    obtain ⟨cid, b⟩ := x
    rw [processOne_of_pop (St.pop_removeConns hrm)] at hp
    replace hp : shutdownConnection (s.setWRemoveConns rest) cid b = .ok s1 := Option.some.inj hp
    rcases shutdownConnection_conns hp with ⟨_, hs⟩ | hlt
    · subst hs
      exact Or.inr ⟨by simp [mConns], Or.inr ⟨by simp [mWork], by simp [mRm, hrm]⟩⟩
    · exact Or.inl (by simpa [mConns] using hlt)

/-- **The work loop stops**: from every state, after finitely many items nothing is left to do or an item fails. -/
theorem loop_terminates (s : St) : ∃ s1, Steps s s1 ∧ (processOne s1 = none ∨ ∃ p, processOne s1 = some (.error p)) := by
  match hp : processOne s with
  | none => exact ⟨s, Steps.refl s, Or.inl hp⟩
  | some (.error p) => exact ⟨s, Steps.refl s, Or.inr ⟨p, hp⟩⟩
  | some (.ok s1) =>
    obtain ⟨s2, h, hfin⟩ := loop_terminates s1
    exact ⟨s2, Steps.step hp h, hfin⟩
termination_by (mConns s, mWork s, mRm s)
decreasing_by
  rcases processOne_decreases hp with h | ⟨h1, h | ⟨h2, h3⟩⟩
  · exact Prod.Lex.left _ _ h
  · rw [h1]; exact Prod.Lex.right _ (Prod.Lex.left _ _ h)
  · rw [h1, h2]; exact Prod.Lex.right _ (Prod.Lex.right _ h3)

/-- what `processLoop` returns when it has enough budget for the items on the way -/
theorem processLoop_of_steps {s s1 : St} (h : Steps s s1) :
    ∃ n, (processOne s1 = none → ∀ fuel, n ≤ fuel → processLoop fuel s = .ok s1) ∧
      (∀ p, processOne s1 = some (.error p) → ∀ fuel, n ≤ fuel → processLoop fuel s = .error p) := by
  induction h with
  | refl s =>
    refine ⟨1, fun hn fuel hf => ?_, fun p hp fuel hf => ?_⟩
    · obtain ⟨k, rfl⟩ : ∃ k, fuel = k + 1 := ⟨fuel - 1, by omega⟩
      simp [processLoop, hn]
    · obtain ⟨k, rfl⟩ : ∃ k, fuel = k + 1 := ⟨fuel - 1, by omega⟩
      simp [processLoop, hp]
  | step hp _ ih =>
    obtain ⟨n, h1, h2⟩ := ih
    refine ⟨n + 1, fun hn fuel hf => ?_, fun p hpe fuel hf => ?_⟩
    · obtain ⟨k, rfl⟩ : ∃ k, fuel = k + 1 := ⟨fuel - 1, by omega⟩
      simp only [processLoop, hp]
      exact h1 hn k (by omega)
    · obtain ⟨k, rfl⟩ : ∃ k, fuel = k + 1 := ⟨fuel - 1, by omega⟩
      simp only [processLoop, hp]
      exact h2 p hpe k (by omega)

/-- **The outcome of the work loop does not depend on its budget** once that is large enough: running out of fuel is
never what ends it. -/
theorem processLoop_stable (s : St) : ∃ n r, (∀ fuel, n ≤ fuel → processLoop fuel s = r) ∧
    (r = .error .fuel → ∃ s1, Steps s s1 ∧ processOne s1 = some (.error .fuel)) := by
  obtain ⟨s1, hs, hfin⟩ := loop_terminates s
  obtain ⟨n, h1, h2⟩ := processLoop_of_steps hs
  rcases hfin with hn | ⟨p, hp⟩
  · exact ⟨n, .ok s1, h1 hn, fun h => by simp at h⟩
  · refine ⟨n, .error p, h2 p hp, fun h => ?_⟩
    simp only [Except.error.injEq] at h; subst h
    exact ⟨s1, hs, hp⟩

end Aldrin.Broker
