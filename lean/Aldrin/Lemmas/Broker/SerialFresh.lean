/-
`SerialMap::insert` (`broker/src/serial_map.rs`): with fewer than 2³² entries the serial handed out is not in the map
(the model's bounded search and the implementation's loop agree; with 2³² entries the implementation does not return).
Beside it, what `get?` and `next` give after `remove`, `set` and an `insert` that handed out a free serial.
-/
import Aldrin.Lemmas.Broker.AL
import Aldrin.Model.Broker.Parts

namespace Aldrin.Broker

/-- fewer than `N` consecutive numbers are distinct modulo `N` -/
theorem add_mod_ne {N n i j : Nat} (hij : i < j) (hj : j < N) : (n + i) % N ≠ (n + j) % N := by
  intro h
  have hd := Nat.sub_mod_eq_zero_of_mod_eq h.symm
  rw [Nat.add_sub_add_left, Nat.mod_eq_of_lt (Nat.lt_of_le_of_lt (Nat.sub_le j i) hj)] at hd
  exact Nat.not_le_of_lt hij (Nat.sub_eq_zero_iff_le.1 hd)

theorem SerialMap.findFree_succ {T : Type} (m : SerialMap T) (fuel s : Nat) : m.findFree (fuel + 1) s =
    if (AL.find? s m.elems).isSome then m.findFree fuel ((s + 1) % (u32Max + 1)) else s := rfl

/-- if the search of `SerialMap::insert` ends at a serial that is taken, every serial it looked at is taken -/
theorem SerialMap.findFree_spec {T : Type} (m : SerialMap T) {fuel s i : Nat} (hs : s < u32Max + 1)
    (h : (AL.find? (m.findFree fuel s) m.elems).isSome) (hi : i < fuel) : (AL.find? ((s + i) % (u32Max + 1)) m.elems).isSome := by
  induction fuel generalizing s i with
  | zero => cases hi
  | succ k ih =>
    rw [SerialMap.findFree_succ] at h
    split at h
    · cases i with
      | zero => rwa [Nat.add_zero, Nat.mod_eq_of_lt hs]
      | succ j =>
        have hj := ih (Nat.mod_lt _ (Nat.succ_pos _)) h (Nat.lt_of_succ_lt_succ hi)
        rwa [Nat.mod_add_mod, Nat.add_assoc, Nat.add_comm 1 j] at hj
    · exact absurd h ‹_›

/-- with room in the map (fewer than 2³² entries) the serial handed out is a free one -/
theorem SerialMap.insert_fresh {T : Type} (m : SerialMap T) (x : T) (hnext : m.next < u32Max + 1)
    (hroom : m.elems.length ≤ u32Max) : AL.find? (m.insert x).2 m.elems = none := by
  refine Option.not_isSome_iff_eq_none.1 fun hs => ?_
  -- `length + 1` distinct serials are all keys of the map
  let l := (List.range (m.elems.length + 1)).map (fun i => (m.next + i) % (u32Max + 1))
  have hnd : l.Nodup := by
    refine List.pairwise_map.2 (List.pairwise_lt_range.imp_of_mem ?_)
    intro i j _ hj hlt
    exact add_mod_ne hlt (Nat.lt_of_lt_of_le (List.mem_range.1 hj) (Nat.succ_le_succ hroom))
  have hsub : l ⊆ m.elems.map Prod.fst := by
    intro k hk
    obtain ⟨i, hi, rfl⟩ := List.mem_map.1 hk
    exact Classical.not_not.1 fun hn => Option.isSome_iff_ne_none.1 (m.findFree_spec (fuel := m.elems.length + 1) hnext hs (List.mem_range.1 hi)) (AL.find?_none_iff.2 hn)
  have hle := hnd.length_le_of_subset hsub
  rw [List.length_map, List.length_map, List.length_range] at hle
  exact Nat.not_succ_le_self _ hle

@[simp] theorem get?_remove {T : Type} (m : SerialMap T) (bs k : Nat) : (m.remove bs).get? k = if bs = k then none else m.get? k := by
  simp [SerialMap.remove, SerialMap.get?, AL.find?_erase]

@[simp] theorem get?_set {T : Type} (m : SerialMap T) (bs k : Nat) (x : T) : (m.set bs x).get? k = if bs = k then some x else m.get? k := by
  simp [SerialMap.set, SerialMap.get?, AL.find?_insert]

@[simp] theorem next_remove {T : Type} (m : SerialMap T) (bs : Nat) : (m.remove bs).next = m.next := rfl
@[simp] theorem next_set {T : Type} (m : SerialMap T) (bs : Nat) (x : T) : (m.set bs x).next = m.next := rfl

theorem get?_insert_fresh {T : Type} (m : SerialMap T) (x : T) (hf : AL.find? (m.insert x).2 m.elems = none) (k : Nat) :
    (m.insert x).1.get? k = if k = (m.insert x).2 then some x else m.get? k := by
  simp only [SerialMap.insert, SerialMap.get?] at hf ⊢
  rw [AL.find?_append_one]
  by_cases hk : k = m.findFree (m.elems.length + 1) m.next
  · subst hk; simp [hf]
  · simp [hk, Ne.symm hk]

theorem next_insert_lt {T : Type} (m : SerialMap T) (x : T) : (m.insert x).1.next < u32Max + 1 := by
  simp only [SerialMap.insert]; exact Nat.mod_lt _ (by simp [u32Max])

end Aldrin.Broker
