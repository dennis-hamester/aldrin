/-
`XrefP` through every request (`handleMessage_xref`), the removal of a connection (`shutdownConnection_xref`), the
work loop, every event and one turn of `Broker::run` (`step_xref`): it holds, with nothing deferred, in every state
`Broker::run` can be in between two events (`Reachable.idle`).
-/
import Aldrin.Lemmas.Broker.Xref
import Aldrin.Lemmas.Broker.SameCL

namespace Aldrin.Broker
open Generated

theorem handleMessage_xref {sv} {s s' : St} {id : ConnId} {m : Req} {ok : Bool} (hx : XrefP sv s)
    (hR : s.w.removeCalls = []) (hroom : s.b.calls.elems.length ≤ u32Max)
    (hr : handleMessage s id m = .ok (s', ok)) : XrefP sv s' := by
  cases m
  case callFunction => exact callFunctionImpl_xref hx hR hroom hr
  case callFunction2 => exact callFunction2_xref hx hR hroom hr
  case callFunctionReply => exact callFunctionReply_xref hx hr
  case abortFunctionCall => exact abortFunctionCall_xref hx hr
  case destroyObject => exact destroyObject_inv XrefP.frame (fun _ _ _ => removeObject_xref) hx hr
  case destroyService => exact destroyService_inv XrefP.frame (fun _ _ _ => removeService_xref) hx hr
  all_goals exact (handleMessage_fp hr).frame XrefP.frame (by fp_decide) hx

theorem ck_setConns_erase (s : St) (id c : ConnId) : ck (s.setConns (AL.erase id s.b.conns)) c = upd (ck s) id none c := by
  rw [view_eraseConn ck_eq, upd_apply]; rfl

theorem foldl_push_abort_spec : ∀ (tbl : CallTbl) (s : St),
    let S := tbl.foldl (fun s (p : Nat × (Nat × ConnId)) => (s.setWAbortCalls ((p.2.1, p.2.2) :: s.w.abortCalls))) s
    S.b = s.b ∧ S.w.removeCalls = s.w.removeCalls ∧ (∀ x ∈ s.w.abortCalls, x ∈ S.w.abortCalls) ∧
      (∀ p ∈ tbl, (p.2.1, p.2.2) ∈ S.w.abortCalls) := by
  intro tbl
  induction tbl with
  | nil => intro s; simp
  | cons a l ih =>
    intro s
    simp only [List.foldl_cons]
    obtain ⟨h1, h2, h3, h4⟩ := ih (s.setWAbortCalls ((a.2.1, a.2.2) :: s.w.abortCalls))
    refine ⟨by rw [h1]; rfl, by rw [h2]; rfl, fun x hx => h3 x (by simp [hx]), ?_⟩
    intro p hp
    rw [List.mem_cons] at hp
    rcases hp with rfl | hp
    · exact h3 _ (by simp)
    · exact h4 p hp

theorem shutdownConnection_xref {s s' : St} {id b} (hx : Xref s) (hr : shutdownConnection s id b = .ok s') : Xref s' := by
  rcases shutdownConnection_ok hr with ⟨-, rfl⟩ | ⟨⟨st⟩⟩
  · exact hx
  -- the connection goes out of the map
  have i0 : XrefP (some (id, st.conn.calls)) (st.told.setConns (AL.erase id st.told.b.conns)) :=
    XrefP.of_views (XP.remove_conn_upd (st.told_fp.frame XrefP.frame (by decide) hx) (ck_of_find (st.told_conns ▸ st.entry)))
      (ck_setConns_erase st.told id)
      (fun _ => rfl) rfl rfl rfl
  have i1 := foldE_inv (fun _ _ _ hp hr => removeObject_xref hp hr)
    (foldl_inv (fun t a => (removeBusListener_fp t a).frame XrefP.frame) i0) st.objects
  have i5 := foldE_inv (fun _ _ _ hp hr => (removeChannelEnd_fp hr).frame XrefP.frame (by decide) hp)
    (st.subs.frame XrefP.frame (by decide) i1) st.senders
  have i6 := foldE_inv (fun _ _ _ hp hr => (removeChannelEnd_fp hr).frame XrefP.frame (by decide) hp) i5 st.receivers
  -- the calls it had made are queued to be aborted
  obtain ⟨f1, f2, f3, f4⟩ := foldl_push_abort_spec st.conn.calls st.noReceivers
  have i7 : Xref (queueAborts st.noReceivers st.conn.calls) :=
    XrefP.of_views (XP.flush_aborts i6 f3 f4) (fun c => by simp only [ck, queueAborts, St.stat_b_conns, f1]) (fun k => by simp only [queueAborts, St.stat_b_calls, f1])
      (by simp only [queueAborts, St.stat_b_calls, f1]) f2 rfl
  exact (removeIntrospectionConn_fp st.rest).frame XrefP.frame (by decide) i7

theorem XrefP.pop_frame {s s' : St} (hx : Xref s) (h1 : s'.b.conns = s.b.conns) (h2 : s'.b.calls = s.b.calls)
    (h3 : s'.w.removeCalls = s.w.removeCalls) (h4 : s'.w.abortCalls = s.w.abortCalls) : Xref s' :=
  XrefP.of_eq h1 h2 h3 h4 hx

theorem processOne_xref {s s' : St} (hx : Xref s) (hr : processOne s = some (.ok s')) : Xref s' := by
  obtain ⟨i, t, hp, hr⟩ := processOne_item hr
  have hq := St.pop_spec hp
  cases i
  case removeConn => exact shutdownConnection_xref ((St.pop_fp hp).frame XrefP.frame (by item_decide) hx) hr
  case finishCall =>
    -- a queued `InvalidService` reply
    obtain ⟨rest, hq, rfl⟩ := hq
    unfold Xref XrefP at hx; rw [hq] at hx
    obtain ⟨hF, ⟨hk, rfl⟩ | ⟨conn, hk, hck⟩⟩ := replyToCaller_views hr
    · exact XrefP.of_views (XP.pop_remove_gone hx hk) (fun _ => rfl) (fun _ => rfl) rfl rfl rfl
    · exact XrefP.of_views (XP.pop_remove hx hk) (fun c => by rw [hck]; simp) (fun k => by rw [hF.1]; simp) (by rw [hF.1]; simp)
        (by rw [hF.2.1]; simp) (by rw [hF.2.2]; simp)
  case abort => obtain ⟨rest, hq, rfl⟩ := hq; exact abortCall_xref hx hq hr
  all_goals exact (Item.fp hp hr).frame XrefP.frame (by item_decide) hx

theorem processLoop_xref : ∀ (fuel : Nat) (s s' : St), Xref s → processLoop fuel s = .ok s' → Xref s' :=
  processLoop_inv (fun _ _ => processOne_xref)

theorem handleEvent_xref {s s' : St} {e : Event} (hx : Xref s) (hR : s.w.removeCalls = []) (hA : s.w.abortCalls = [])
    (hroom : s.b.calls.elems.length ≤ u32Max) (hr : handleEvent s e = .ok s') : Xref s' := by
  refine handleEvent_inv XrefP.frame hx (fun _ _ _ _ hm => handleMessage_xref hx hR hroom hm) (fun id v _ hnone => ?_) (fun id _ => ?_) hr
  · unfold Xref XrefP at hx; rw [hR, hA] at hx
    exact XrefP.of_views (XP.new_conn_upd hx (ck_of_find_none hnone)) (fun c => by rw [ck_setConn, upd_apply]) (fun _ => rfl) rfl hR hA
  · refine XrefP.of_views (XP.drop_alive (c0 := id) hx (K' := ck (s.updConn id fun c => { c with alive := false })) (fun c => ?_))
      (fun _ => rfl) (fun k => by simp) (by simp) (by simp) (by simp)
    rw [view_updConn ck_eq, upd_apply, ck_eq s id]
    cases s.conn? id <;> rfl

/-- the invariant at the points where `Broker::run` waits for the next event: nothing is deferred -/
structure XrefIdle (b : Broker) (w : Work) : Prop where
  x : Xref ⟨b, w, []⟩
  i : w.idle

theorem XrefIdle.r {b : Broker} {w : Work} (h : XrefIdle b w) : w.removeCalls = [] := h.i.removeCalls
theorem XrefIdle.a {b : Broker} {w : Work} (h : XrefIdle b w) : w.abortCalls = [] := h.i.abortCalls

theorem XrefIdle.caller {b : Broker} {w : Work} (h : XrefIdle b w) {bs : Nat} {call : Call} (hg : b.calls.get? bs = some call)
    (hna : call.aborted = false) :
    ∃ conn callee, AL.find? call.callerConn b.conns = some conn ∧ AL.find? call.callerSerial conn.calls = some (bs, callee) := by
  rcases h.x.b bs call hg hna with ⟨t, al, callee, hk, hf⟩ | ⟨_, y, hy⟩ | ⟨_, _, _, h3, _⟩
  · obtain ⟨conn, hconn, rfl, -⟩ := ck_eq_some.1 hk
    exact ⟨conn, callee, hconn, hf⟩
  · rw [h.a] at hy; cases hy
  · cases h3

theorem XrefIdle.init : XrefIdle {} {} := by
  refine ⟨?_, ⟨rfl, rfl, rfl, rfl, rfl, rfl, rfl, rfl, rfl, rfl⟩⟩
  unfold Xref XrefP
  constructor
  · intro c t al n bs callee hc; simp [ck, AL.find?] at hc
  · intro bs call hg; simp [SerialMap.get?, AL.find?] at hg
  · intro n c r hm; simp at hm
  · exact List.Pairwise.nil
  · simp [u32Max]

theorem xref_out_irrelevant {sv} {b : Broker} {w : Work} {o o' : List Out} (h : XrefP sv ⟨b, w, o⟩) : XrefP sv ⟨b, w, o'⟩ := h

theorem step_xref {b b' : Broker} {w w' : Work} {e : Event} {out : List Out} (hi : XrefIdle b w)
    (hroom : b.calls.elems.length ≤ u32Max) (hr : step b w e = .ok (b', w', out)) : XrefIdle b' w' := by
  obtain ⟨s1, h1, h2⟩ := step_ok hr
  exact ⟨xref_out_irrelevant (processLoop_xref _ _ _ (handleEvent_xref hi.x hi.r hi.a hroom h1) h2), processLoop_idle _ _ _ h2⟩

/-- the states `Broker::run` can be in between two events, as long as the call table never holds 2³² calls
(`SerialMap::insert` of the implementation does not return in that case) -/
inductive Reachable : Broker → Work → Prop
  | init : Reachable {} {}
  | step {b b' : Broker} {w w' : Work} {e : Event} {out : List Out} :
      Reachable b w → b.calls.elems.length ≤ u32Max → step b w e = .ok (b', w', out) → Reachable b' w'

theorem Reachable.idle {b : Broker} {w : Work} (h : Reachable b w) : XrefIdle b w := by
  induction h with
  | init => exact XrefIdle.init
  | step _ hroom hs ih => exact step_xref ih hroom hs

end Aldrin.Broker
