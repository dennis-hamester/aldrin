/-
The channel map and the listener map with their gauges are left alone (`SameCL`) by every update of the state that is not
one of theirs. Beside it the frames of one map each: `listeners_frame`, `channels_frame`, `calls_frame`.
-/
import Aldrin.Lemmas.Broker.Footprint

namespace Aldrin.Broker
open Generated

/-- both maps and their statistics gauges unchanged; the cookie counter has not gone back -/
def SameCL (s s' : St) : Prop := s'.b.channels = s.b.channels ∧ s'.b.listeners = s.b.listeners ∧
  s'.b.stats.numChannels = s.b.stats.numChannels ∧ s'.b.stats.numBusListeners = s.b.stats.numBusListeners ∧
  s.b.nextCookie ≤ s'.b.nextCookie

theorem SameCL.refl (s : St) : SameCL s s := ⟨rfl, rfl, rfl, rfl, Nat.le_refl _⟩
theorem SameCL.trans {a b c : St} (h1 : SameCL a b) (h2 : SameCL b c) : SameCL a c :=
  ⟨h2.1.trans h1.1, h2.2.1.trans h1.2.1, h2.2.2.1.trans h1.2.2.1, h2.2.2.2.1.trans h1.2.2.2.1,
   Nat.le_trans h1.2.2.2.2 h2.2.2.2.2⟩

theorem SameCL.frame : Frame SameCL [.channels, .listeners, .stat .numChannels, .stat .numBusListeners] := by
  refine ⟨SameCL.refl, SameCL.trans, fun h hb => ?_⟩
  cases h
  case channels | listeners => simp at hb
  case cookie => exact ⟨rfl, rfl, rfl, rfl, Nat.le_succ _⟩
  case stat f g hf =>
    simp at hb
    exact ⟨rfl, rfl, (hf _).numChannels hb.1, (hf _).numBusListeners hb.2, Nat.le_refl _⟩
  case connDead => simp [SameCL]
  all_goals exact ⟨rfl, rfl, rfl, rfl, Nat.le_refl _⟩

theorem listeners_frame : Frame (fun s s' => s'.b.listeners = s.b.listeners) [.listeners] := by
  refine ⟨fun _ => rfl, fun h1 h2 => h2.trans h1, fun h hb => ?_⟩
  cases h
  case listeners => simp at hb
  case connDead => simp
  all_goals rfl

theorem channels_frame : Frame (fun s s' => s'.b.channels = s.b.channels) [.channels] := by
  refine ⟨fun _ => rfl, fun h1 h2 => h2.trans h1, fun h hb => ?_⟩
  cases h
  case channels => simp at hb
  case connDead => simp
  all_goals rfl

theorem calls_frame : Frame (fun s s' => s'.b.calls = s.b.calls) [.calls] := by
  refine ⟨fun _ => rfl, fun h1 h2 => h2.trans h1, fun h hb => ?_⟩
  cases h
  case calls => simp at hb
  case connDead => simp
  all_goals rfl

@[simp, grind =] theorem removeBusListener_channels (s : St) (c : Cookie) : (removeBusListener s c).b.channels = s.b.channels :=
  (removeBusListener_fp _ _).frame channels_frame

theorem emitBusEvent_cl (s : St) (e : BusEv) : SameCL s (emitBusEvent s e) :=
  (emitBusEvent_fp _ _).frame SameCL.frame

theorem sendAll_cl : ∀ (l : List Rsp) (s : St) (id : ConnId), SameCL s (sendAll s id l).1 := by
  intro l
  induction l with
  | nil => intro s id; exact SameCL.refl _
  | cons a l ih =>
    intro s id
    simp only [sendAll]
    split
    · have := ih (s.send id a).1 id
      simp_all [SameCL]
    · simp [SameCL]

@[simp, grind =] theorem sendAll_channels (l : List Rsp) (s : St) (id : ConnId) : (sendAll s id l).1.b.channels = s.b.channels :=
  (sendAll_cl l s id).1
@[simp, grind =] theorem sendAll_listeners (l : List Rsp) (s : St) (id : ConnId) : (sendAll s id l).1.b.listeners = s.b.listeners :=
  (sendAll_cl l s id).2.1

@[simp, grind =] theorem sendAll_numChannels (l : List Rsp) (s : St) (id : ConnId) : (sendAll s id l).1.b.stats.numChannels = s.b.stats.numChannels :=
  (sendAll_cl l s id).2.2.1
@[simp, grind =] theorem sendAll_numBusListeners (l : List Rsp) (s : St) (id : ConnId) : (sendAll s id l).1.b.stats.numBusListeners = s.b.stats.numBusListeners :=
  (sendAll_cl l s id).2.2.2.1
theorem sendAll_nextCookie_le (l : List Rsp) (s : St) (id : ConnId) : s.b.nextCookie ≤ (sendAll s id l).1.b.nextCookie :=
  (sendAll_cl l s id).2.2.2.2

end Aldrin.Broker
