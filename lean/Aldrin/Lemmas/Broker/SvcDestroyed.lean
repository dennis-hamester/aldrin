/-
The folds behind `Service::subscribed_conn_ids` and behind the notifications `remove_service` queues: a fold of `sinsert` over
the subscribers of the events and of the service collects each connection once (`foldl_events_spec`, `foldl_sinsert_spec`), and
the fold that queues a `ServiceDestroyed` per listed connection queues one for each that is still there (`queue_destroyed_spec`).
The statements about the service and about `remove_service` are in `Props/C04.lean`.
-/
import Aldrin.Lemmas.Broker.AL
import Aldrin.Lemmas.Broker.Prim

namespace Aldrin.Broker

theorem foldl_sinsert_spec (l acc : List ConnId) (hacc : acc.Nodup) :
    (l.foldl (fun a c => sinsert c a) acc).Nodup ∧ ∀ x, x ∈ l.foldl (fun a c => sinsert c a) acc ↔ x ∈ acc ∨ x ∈ l := by
  simpa using foldl_set (fun a c => sinsert c a) (fun x c => c = x)
    (fun acc x h => ⟨nodup_sinsert _ _ h, fun c => by rw [mem_sinsert, or_comm]⟩) l acc hacc

theorem foldl_events_spec (evs : List (Nat × List ConnId)) (acc : List ConnId) (hacc : acc.Nodup) :
    (evs.foldl (fun acc p => p.2.foldl (fun a c => sinsert c a) acc) acc).Nodup ∧
    ∀ x, x ∈ evs.foldl (fun acc p => p.2.foldl (fun a c => sinsert c a) acc) acc ↔ x ∈ acc ∨ ∃ p, p ∈ evs ∧ x ∈ p.2 :=
  foldl_set (fun acc (p : Nat × List ConnId) => p.2.foldl (fun a c => sinsert c a) acc) (fun p c => c ∈ p.2)
    (fun acc p h => foldl_sinsert_spec p.2 acc h) evs acc hacc

/-- the notifications `remove_service` queues for a list of connections: one per connection that is there, in turn -/
theorem queue_destroyed_spec (svcCookie : Cookie) : ∀ (l : List ConnId) (s : St),
    let s' := l.foldl (fun s cid =>
          match s.conn? cid with
          | some c =>
            let s := s.setConn cid (c.unsubscribeAllOf svcCookie)
            (s.setWServicesDestroyed ((cid, svcCookie) :: s.w.servicesDestroyed))
          | none => s) s
    s'.w.servicesDestroyed = ((l.filter (fun cid => (s.conn? cid).isSome)).map (fun cid => (cid, svcCookie))).reverse ++ s.w.servicesDestroyed ∧
    ∀ x, (s'.conn? x).isSome = (s.conn? x).isSome := by
  intro l
  induction l with
  | nil => intro s; simp
  | cons a l ih =>
    intro s
    simp only [List.foldl_cons, List.filter_cons]
    cases hc : s.conn? a with
    | none => simpa using ih s
    | some c =>
      -- the step leaves the set of connections as it is
      have hsame : ∀ x, (((s.setConn a (c.unsubscribeAllOf svcCookie)).setWServicesDestroyed
          ((a, svcCookie) :: (s.setConn a (c.unsubscribeAllOf svcCookie)).w.servicesDestroyed)).conn? x).isSome = (s.conn? x).isSome := by
        intro x
        refine (congrArg Option.isSome (AL.find?_insert x a _ s.b.conns)).trans ?_
        split
        · subst_vars; rw [hc]; rfl
        · rfl
      obtain ⟨h1, h2⟩ := ih _
      refine ⟨?_, fun x => (h2 x).trans (hsame x)⟩
      rw [h1, List.filter_congr fun x _ => hsame x]
      simp

end Aldrin.Broker
