/-
Which functions of the broker model put nothing about channels into any queue (no reply to a channel request, no
notification about a channel end, no item, no capacity): everything but the five channel handlers and the clean-up of
channel ends.
-/
import Aldrin.Lemmas.Broker.Footprint

namespace Aldrin.Client
open Aldrin.Broker

/-- the messages whose acceptance depends on the channel book-keeping -/
def isC : Rsp → Bool
  | .createChannelReply .. | .closeChannelEndReply .. | .claimChannelEndReply .. | .channelEndClosed .. | .channelEndClaimed ..
  | .itemReceived .. | .addChannelCapacity .. => true
  | _ => false

end Aldrin.Client

namespace Aldrin.Broker
open Aldrin.Client (isC)

@[simp, grind =] theorem isC_createObjectReply {a0 a1} : Aldrin.Client.isC (.createObjectReply a0 a1) = false := rfl
@[simp, grind =] theorem isC_destroyObjectReply {a0 a1} : Aldrin.Client.isC (.destroyObjectReply a0 a1) = false := rfl
@[simp, grind =] theorem isC_createServiceReply {a0 a1} : Aldrin.Client.isC (.createServiceReply a0 a1) = false := rfl
@[simp, grind =] theorem isC_destroyServiceReply {a0 a1} : Aldrin.Client.isC (.destroyServiceReply a0 a1) = false := rfl
@[simp, grind =] theorem isC_callFunction {a0 a1 a2 a3} : Aldrin.Client.isC (.callFunction a0 a1 a2 a3) = false := rfl
@[simp, grind =] theorem isC_callFunction2 {a0 a1 a2 a3 a4} : Aldrin.Client.isC (.callFunction2 a0 a1 a2 a3 a4) = false := rfl
@[simp, grind =] theorem isC_callFunctionReply {a0 a1} : Aldrin.Client.isC (.callFunctionReply a0 a1) = false := rfl
@[simp, grind =] theorem isC_abortFunctionCall {a0} : Aldrin.Client.isC (.abortFunctionCall a0) = false := rfl
@[simp, grind =] theorem isC_subscribeEvent {a0 a1} : Aldrin.Client.isC (.subscribeEvent a0 a1) = false := rfl
@[simp, grind =] theorem isC_subscribeEventReply {a0 a1} : Aldrin.Client.isC (.subscribeEventReply a0 a1) = false := rfl
@[simp, grind =] theorem isC_unsubscribeEvent {a0 a1} : Aldrin.Client.isC (.unsubscribeEvent a0 a1) = false := rfl
@[simp, grind =] theorem isC_emitEvent {a0 a1 a2} : Aldrin.Client.isC (.emitEvent a0 a1 a2) = false := rfl
@[simp, grind =] theorem isC_queryServiceVersionReply {a0 a1} : Aldrin.Client.isC (.queryServiceVersionReply a0 a1) = false := rfl
@[simp, grind =] theorem isC_queryServiceInfoReply {a0 a1} : Aldrin.Client.isC (.queryServiceInfoReply a0 a1) = false := rfl
@[simp, grind =] theorem isC_subscribeServiceReply {a0 a1} : Aldrin.Client.isC (.subscribeServiceReply a0 a1) = false := rfl
@[simp, grind =] theorem isC_subscribeAllEvents {a0} : Aldrin.Client.isC (.subscribeAllEvents a0) = false := rfl
@[simp, grind =] theorem isC_subscribeAllEventsReply {a0 a1} : Aldrin.Client.isC (.subscribeAllEventsReply a0 a1) = false := rfl
@[simp, grind =] theorem isC_unsubscribeAllEvents {a0} : Aldrin.Client.isC (.unsubscribeAllEvents a0) = false := rfl
@[simp, grind =] theorem isC_unsubscribeAllEventsReply {a0 a1} : Aldrin.Client.isC (.unsubscribeAllEventsReply a0 a1) = false := rfl
@[simp, grind =] theorem isC_serviceDestroyed {a0} : Aldrin.Client.isC (.serviceDestroyed a0) = false := rfl
@[simp, grind =] theorem isC_createChannelReply {a0 a1} : Aldrin.Client.isC (.createChannelReply a0 a1) = true := rfl
@[simp, grind =] theorem isC_closeChannelEndReply {a0 a1} : Aldrin.Client.isC (.closeChannelEndReply a0 a1) = true := rfl
@[simp, grind =] theorem isC_channelEndClosed {a0 a1} : Aldrin.Client.isC (.channelEndClosed a0 a1) = true := rfl
@[simp, grind =] theorem isC_claimChannelEndReply {a0 a1} : Aldrin.Client.isC (.claimChannelEndReply a0 a1) = true := rfl
@[simp, grind =] theorem isC_channelEndClaimed {a0 a1 a2} : Aldrin.Client.isC (.channelEndClaimed a0 a1 a2) = true := rfl
@[simp, grind =] theorem isC_itemReceived {a0 a1} : Aldrin.Client.isC (.itemReceived a0 a1) = true := rfl
@[simp, grind =] theorem isC_addChannelCapacity {a0 a1} : Aldrin.Client.isC (.addChannelCapacity a0 a1) = true := rfl
@[simp, grind =] theorem isC_syncReply {a0} : Aldrin.Client.isC (.syncReply a0) = false := rfl
@[simp, grind =] theorem isC_createBusListenerReply {a0 a1} : Aldrin.Client.isC (.createBusListenerReply a0 a1) = false := rfl
@[simp, grind =] theorem isC_destroyBusListenerReply {a0 a1} : Aldrin.Client.isC (.destroyBusListenerReply a0 a1) = false := rfl
@[simp, grind =] theorem isC_startBusListenerReply {a0 a1} : Aldrin.Client.isC (.startBusListenerReply a0 a1) = false := rfl
@[simp, grind =] theorem isC_stopBusListenerReply {a0 a1} : Aldrin.Client.isC (.stopBusListenerReply a0 a1) = false := rfl
@[simp, grind =] theorem isC_emitBusEvent {a0 a1} : Aldrin.Client.isC (.emitBusEvent a0 a1) = false := rfl
@[simp, grind =] theorem isC_busListenerCurrentFinished {a0} : Aldrin.Client.isC (.busListenerCurrentFinished a0) = false := rfl
@[simp, grind =] theorem isC_queryIntrospection {a0 a1} : Aldrin.Client.isC (.queryIntrospection a0 a1) = false := rfl
@[simp, grind =] theorem isC_queryIntrospectionReply {a0 a1} : Aldrin.Client.isC (.queryIntrospectionReply a0 a1) = false := rfl
@[simp, grind =] theorem isC_shutdown : Aldrin.Client.isC .shutdown = false := rfl

def cf (l : List Out) : List Out := l.filter (fun o => isC o.msg)

@[simp, grind =] theorem cf_append (a b : List Out) : cf (a ++ b) = cf a ++ cf b := by simp [cf]
@[simp, grind =] theorem cf_nil : cf [] = [] := rfl
@[simp, grind =] theorem cf_single (o : Out) : cf [o] = if isC o.msg then [o] else [] := by
  cases h : isC o.msg <;> simp [cf, h]
theorem cf_cons (o : Out) (t : List Out) : cf (o :: t) = cf [o] ++ cf t := by
  rw [← cf_append]; rfl

/-- nothing about channels was added -/
def SameC (s s' : St) : Prop := cf s'.out = cf s.out

theorem SameC.refl (s : St) : SameC s s := rfl
theorem SameC.trans {a b c : St} (h1 : SameC a b) (h2 : SameC b c) : SameC a c := Eq.trans h2 h1

theorem SameC.frame : Frame SameC [.emit .createChannelReply, .emit .closeChannelEndReply, .emit .channelEndClosed,
    .emit .claimChannelEndReply, .emit .channelEndClaimed, .emit .itemReceived, .emit .addChannelCapacity] :=
  Frame.ofFilter _ _ fun ⟨_, m, _⟩ hb => by cases m <;> first | rfl | (simp [Rsp.kind] at hb)

end Aldrin.Broker
