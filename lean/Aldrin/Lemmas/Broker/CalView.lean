/-
The callee side of the book-keeping of calls: what it looks at in a service entry (the set of pending calls the
service holds, `scv`) and in the call table (the service a call is for, `gk`), and the relation `SameSc`: every service
entry holds the calls it held.
-/
import Aldrin.Lemmas.Broker.CallConn

namespace Aldrin.Broker

/-- the calls a service entry holds -/
def scl (m : List ((Uuid × Uuid) × Svc)) (k : Uuid × Uuid) : Option (List Nat) :=
  match AL.find? k m with
  | some v => some v.calls
  | none => none

def scv (s : St) (k : Uuid × Uuid) : Option (List Nat) := scl s.b.svcs k

/-- the service (object uuid, service uuid) a call in the table is for -/
def gk (s : St) (bs : Nat) : Option (Uuid × Uuid) :=
  match s.b.calls.get? bs with
  | some c => some (c.calleeObj, c.calleeSvc)
  | none => none

theorem scl_eq (m : List ((Uuid × Uuid) × Svc)) (k : Uuid × Uuid) : scl m k = (AL.find? k m).map (·.calls) := by
  unfold scl; cases AL.find? k m <;> rfl

theorem scl_insert_same {m : List ((Uuid × Uuid) × Svc)} {k0 : Uuid × Uuid} {old new : Svc} (h : AL.find? k0 m = some old)
    (h1 : new.calls = old.calls) (k : Uuid × Uuid) : scl (AL.insert k0 new m) k = scl m k := by
  rw [scl_eq, scl_eq]; exact AL.map_find?_insert_same h h1 k

theorem scl_insert (m : List ((Uuid × Uuid) × Svc)) (k0 : Uuid × Uuid) (new : Svc) (k : Uuid × Uuid) :
    scl (AL.insert k0 new m) k = if k0 = k then some new.calls else scl m k := by
  simp only [scl, AL.find?_insert]
  by_cases hk : k0 = k <;> simp [hk]

theorem scl_erase (m : List ((Uuid × Uuid) × Svc)) (k0 : Uuid × Uuid) (k : Uuid × Uuid) :
    scl (AL.erase k0 m) k = if k0 = k then none else scl m k := by
  simp only [scl, AL.find?_erase]
  by_cases hk : k0 = k <;> simp [hk]

theorem scv_find {s : St} {k : Uuid × Uuid} {v : Svc} (h : AL.find? k s.b.svcs = some v) : scv s k = some v.calls := by
  simp [scv, scl, h]
theorem scv_find_none {s : St} {k : Uuid × Uuid} (h : AL.find? k s.b.svcs = none) : scv s k = none := by
  simp [scv, scl, h]

theorem scv_eq_some {s : St} {k : Uuid × Uuid} {l : List Nat} :
    scv s k = some l ↔ ∃ sv, AL.find? k s.b.svcs = some sv ∧ sv.calls = l := by
  rw [scv, scl_eq]; exact Option.map_eq_some_iff

@[simp] theorem Svc.subscribeEvent_calls (s : Svc) (ev : Nat) (c : ConnId) : (s.subscribeEvent ev c).1.calls = s.calls := by
  unfold Svc.subscribeEvent; split <;> rfl
@[simp] theorem Svc.unsubscribeEvent_calls (s : Svc) (ev : Nat) (c : ConnId) : (s.unsubscribeEvent ev c).1.calls = s.calls := by
  unfold Svc.unsubscribeEvent; split
  · dsimp only; split <;> rfl
  · rfl
@[simp] theorem Svc.subscribeAll_calls' (s : Svc) (c : ConnId) : (s.subscribeAll c).1.calls = s.calls := rfl
@[simp] theorem Svc.unsubscribeAll_calls' (s : Svc) (c : ConnId) : (s.unsubscribeAll c).1.calls = s.calls := rfl

/-- every service entry holds the calls it held -/
def SameSc (s s' : St) : Prop := ∀ k, scv s' k = scv s k

theorem SameSc.refl (s : St) : SameSc s s := fun _ => rfl
theorem SameSc.trans {a b c : St} (h1 : SameSc a b) (h2 : SameSc b c) : SameSc a c := fun k => (h2 k).trans (h1 k)
theorem SameSc.of_eq {s s' : St} (h : s'.b.svcs = s.b.svcs) : SameSc s s' := fun k => by simp [scv, h]

theorem SameSc.frame : Frame SameSc [.svcs, .svc .calls] := by
  refine ⟨SameSc.refl, SameSc.trans, fun h hb => ?_⟩
  cases h
  case svcs => simp at hb
  case svc => exact fun k => scl_insert_same ‹_› (Svc.agree.calls ‹_› (by simpa using hb)) k
  case connDead => exact SameSc.of_eq (by simp)
  all_goals exact SameSc.of_eq rfl

@[grind →] theorem abortFunctionCall_cal {s s' : St} {id serial} {ok : Bool} : abortFunctionCall s id serial = .ok (s', ok) → SameSc s s' :=
  fun h => (abortFunctionCall_fp h).frame SameSc.frame

end Aldrin.Broker
