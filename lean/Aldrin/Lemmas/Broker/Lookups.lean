/-
The `expect("inconsistent state")` lookups of the broker cannot fail where the registry invariant, the callee-side
invariant of calls and the ownership invariant hold — except the four of the introspection code, whose invariant is
not proved. Where the statement of an `…_lk` speaks of `pn : Panic` the function cannot panic in any way (every panicking
branch it has is a lookup); where it speaks of `.inconsistent site` the function has other panics too, and the `…_np` lemma below it says that it reaches
none of them, under the invariants of the channel and listener values (`ChInv`, `LInv`) and of the calls (`XrefP`) as well.
-/
import Aldrin.Lemmas.Broker.Callee
import Aldrin.Lemmas.Broker.Own
import Aldrin.Lemmas.Broker.CallAsserts

namespace Aldrin.Broker
open Generated

/-- the lookup sites of the introspection code -/
def introspectionSites : List String :=
  ["query introspection: conn", "introspection pending: conn", "remove_introspection_conn: serial", "query_replied: entry"]

section
variable {s : St} (h : RegistryConsistent s.b)
include h

theorem subscribeEvent_lk (id : ConnId) (serial : Option Nat) (svc : Cookie) (ev : Nat) (pn : Panic) :
    subscribeEvent s id serial svc ev ≠ .error pn := by
  fun_cases subscribeEvent s id serial svc ev <;> intro he <;> cases he
  all_goals cases St.send_fst ‹_›
  · have hn := ‹AL.find? (_, _) _ = none›; exact h.svc_entry ‹_› (by simpa +zetaDelta using hn)
  · have hn := ‹AL.find? _ _ = none›; exact h.svc_obj ‹_› (by simpa +zetaDelta using hn)

theorem unsubscribeEvent_lk (id : ConnId) (svc : Cookie) (ev : Nat) (pn : Panic) :
    unsubscribeEvent s id svc ev ≠ .error pn := by
  fun_cases unsubscribeEvent s id svc ev <;> intro he <;> cases he
  · exact h.svc_entry ‹_› ‹_›
  · have hn := ‹AL.find? _ _ = none›; exact h.svc_obj ‹_› (by simpa +zetaDelta using hn)
  · have ho := ‹AL.find? _ _ = some _›; have hn := ‹Option.isNone _ = true›
    exact h.obj_owner (by simpa +zetaDelta using ho) (by simpa +zetaDelta [find_isNone_updConn] using hn)

theorem emitEvent_lk (id : ConnId) (svc : Cookie) (ev : Nat) (p : Payload) (pn : Panic) :
    emitEvent s id svc ev p ≠ .error pn := by
  fun_cases emitEvent s id svc ev p <;> intro he <;> cases he
  exact h.svc_obj ‹_› ‹_›

theorem subscribeService_lk (id : ConnId) (serial : Nat) (svc : Cookie) (pn : Panic) :
    subscribeService s id serial svc ≠ .error pn := by
  fun_cases subscribeService s id serial svc <;> intro he <;> cases he
  cases St.send_fst ‹_›
  have hn := ‹AL.find? (_, _) _ = none›; exact h.svc_entry ‹_› (by simpa using hn)

theorem unsubscribeService_lk (id : ConnId) (svc : Cookie) (pn : Panic) :
    unsubscribeService s id svc ≠ .error pn := by
  fun_cases unsubscribeService s id svc <;> intro he <;> cases he
  exact h.svc_entry ‹_› ‹_›

theorem subscribeAllEvents_lk (id : ConnId) (serial : Option Nat) (svc : Cookie) (pn : Panic) :
    subscribeAllEvents s id serial svc ≠ .error pn := by
  fun_cases subscribeAllEvents s id serial svc <;> intro he <;> cases he
  · exact h.svc_obj ‹_› ‹_›
  · exact h.obj_owner ‹_› ‹_›
  · cases St.send_fst ‹_›
    have hn := ‹AL.find? (_, _) _ = none›; exact h.svc_entry ‹_› (by simpa +zetaDelta using hn)

theorem unsubscribeAllEvents_lk (id : ConnId) (serial : Option Nat) (svc : Cookie) (pn : Panic) :
    unsubscribeAllEvents s id serial svc ≠ .error pn := by
  fun_cases unsubscribeAllEvents s id serial svc <;> intro he <;> cases he
  · exact h.svc_obj ‹_› ‹_›
  · exact h.obj_owner ‹_› ‹_›
  all_goals
    rename_i s1 ok _ s2 hn x
    have e : s1.b.svcs = s.b.svcs := by
      cases serial
      · cases x; rfl
      · cases St.send_fst x; simp
    exact h.svc_entry ‹_› (by simpa +zetaDelta [e] using hn)

theorem createServiceImpl_lk (id : ConnId) (serial : Nat) (oc : Cookie) (uuid : Uuid) (info : Conn → Option SvcInfo) (pn : Panic) :
    createServiceImpl s id serial oc uuid info ≠ .error pn := by
  fun_cases createServiceImpl s id serial oc uuid info <;> intro he <;> cases he
  exact h.obj_entry ‹_› ‹_›

theorem removeEventSubscription_lk (cid : ConnId) (svc : Cookie) (ev : Nat) (pn : Panic) :
    removeEventSubscription s cid svc ev ≠ .error pn := by
  fun_cases removeEventSubscription s cid svc ev <;> intro he <;> cases he
  · have hn := ‹AL.find? (_, _) _ = none›; exact h.svc_entry ‹_› (by simpa +zetaDelta using hn)
  · have hn := ‹AL.find? _ _ = none›; exact h.svc_obj ‹_› (by simpa +zetaDelta using hn)

theorem removeAllEventsSubscription_lk (cid : ConnId) (svc : Cookie) (pn : Panic) :
    removeAllEventsSubscription s cid svc ≠ .error pn := by
  fun_cases removeAllEventsSubscription s cid svc <;> intro he <;> cases he
  · have hn := ‹AL.find? (_, _) _ = none›; exact h.svc_entry ‹_› (by simpa +zetaDelta using hn)
  · have hn := ‹AL.find? _ _ = none›; exact h.svc_obj ‹_› (by simpa +zetaDelta using hn)

theorem removeSubscription_lk (cid : ConnId) (svc : Cookie) (pn : Panic) :
    removeSubscription s cid svc ≠ .error pn := by
  fun_cases removeSubscription s cid svc <;> intro he <;> cases he
  exact h.svc_entry ‹_› ‹_›

end

theorem removeService_ok {pc ps} {s : St} (hcal : Cal none s) (hreg : Reg pc ps s) (c : Cookie) : ∃ s', removeService s c = .ok s' := by
  rw [removeService_eq]
  split
  · exact ⟨_, rfl⟩
  · rename_i oid svu info hu
    obtain ⟨svc, hsv, -⟩ := sk_eq_some.1 (hreg.i5 c oid svu info hu)
    simp only [hsv]
    obtain ⟨s1, hs1, -⟩ := removeService_calls_ok (dropService_cal (c := c) hcal hsv)
    exact ⟨_, by rw [hs1]; rfl⟩

theorem removeObject_svcs_ok {pc} {oid : ObjId} {l : List Cookie} {s : St} (hc : Cal none s) (hr : Reg pc (some (oid, l)) s) :
    ∃ s', removeObject.svcs s l = .ok s' := by
  rw [removeObject_svcs_eq]
  obtain ⟨s', h, -⟩ := foldE_rest_ok (P := fun l s => Cal none s ∧ Reg pc (some (oid, l)) s) (fun a l s hp => by
    obtain ⟨s1, h1⟩ := removeService_ok hp.1 hp.2 a
    obtain ⟨r1, r2, _⟩ := removeService_reg hp.2 h1
    exact ⟨s1, h1, removeService_cal hp.1 h1, RegP.ps_next r1 r2⟩) ⟨hc, hr⟩
  exact ⟨s', h⟩

theorem removeObject_ok {pc} {s : St} (hcal : Cal none s) (hreg : Reg pc none s) (c : Cookie) : ∃ s', removeObject s c = .ok s' := by
  rw [removeObject_eq]
  split
  · exact ⟨_, rfl⟩
  · rename_i u hu
    obtain ⟨obj, hob, _⟩ := hreg.i1 c u hu
    simp only [obv] at hob
    simp only [hob]
    obtain ⟨s1, h1⟩ := removeObject_svcs_ok (oid := ⟨u, c⟩)
      ((dropObject_fp s c u obj.conn).frame Cal.frame (by decide) hcal) (dropObject_reg hreg hu hob)
    exact ⟨_, by rw [h1]; rfl⟩

theorem destroyObject_lk {s : St} (hcal : Cal none s) (hreg : Reg none none s) (id : ConnId) (serial : Nat) (c : Cookie) (p : Panic) :
    destroyObject s id serial c ≠ .error p := by
  fun_cases destroyObject s id serial c <;> intro he <;> cases he
  · exact (RegistryConsistent.of_reg hreg).obj_entry ‹_› ‹_›
  · cases St.send_fst ‹_›
    obtain ⟨s1, h1⟩ := removeObject_ok (s := (s.send id (Rsp.destroyObjectReply serial DestroyObjRes.ok)).1)
      ((Cal.frame.send _ _ _ _) hcal) ((Reg.frame.send _ _ _ _) hreg) c
    have hx := ‹removeObject _ _ = Except.error _›
    rw [h1] at hx; cases hx

theorem destroyService_lk {s : St} (hcal : Cal none s) (hreg : Reg none none s) (id : ConnId) (serial : Nat) (c : Cookie) (p : Panic) :
    destroyService s id serial c ≠ .error p := by
  fun_cases destroyService s id serial c <;> intro he <;> cases he
  · exact (RegistryConsistent.of_reg hreg).svc_obj ‹_› ‹_›
  · cases St.send_fst ‹_›
    obtain ⟨s1, h1⟩ := removeService_ok (s := (s.send id (Rsp.destroyServiceReply serial DestroySvcRes.ok)).1)
      ((Cal.frame.send _ _ _ _) hcal) ((Reg.frame.send _ _ _ _) hreg) c
    have hx := ‹removeService _ _ = Except.error _›
    rw [h1] at hx; cases hx

/-! ### the other handlers. Those of channels and listeners and the ones without a registry lookup fail, if at all, at an
`unreachable!()` or a `debug_assert!` — but `claim_channel_end` looks up the owner of the other end (ownership invariant);
the call handlers and `create_service2` look into the registry again -/

theorem Chan.close_lk (c : Chan) (e : ChanEnd) (site : String) : c.close e ≠ .error (.inconsistent site) := by
  fun_cases Chan.close c e <;> intro he <;> cases he

theorem removeChannelEnd_lk (s : St) (ck : Cookie) (e : ChanEnd) (owner : Option ConnId) (site : String) :
    removeChannelEnd s ck e owner ≠ .error (.inconsistent site) := by
  fun_cases removeChannelEnd s ck e owner <;> intro he <;> cases he
  all_goals exact Chan.close_lk _ _ site ‹_›

theorem createObject_lk (s : St) (id : ConnId) (serial : Nat) (uuid : Uuid) (pn : Panic) :
    createObject s id serial uuid ≠ .error pn := by
  fun_cases createObject s id serial uuid <;> intro he <;> cases he
theorem abortFunctionCall_lk (s : St) (id : ConnId) (serial : Nat) (pn : Panic) :
    abortFunctionCall s id serial ≠ .error pn := by
  fun_cases abortFunctionCall s id serial <;> intro he <;> cases he
theorem queryServiceVersion_lk (s : St) (id : ConnId) (serial : Nat) (svc : Cookie) (pn : Panic) :
    queryServiceVersion s id serial svc ≠ .error pn := by
  fun_cases queryServiceVersion s id serial svc <;> intro he <;> cases he
theorem queryServiceInfo_lk (s : St) (id : ConnId) (serial : Nat) (svc : Cookie) (pn : Panic) :
    queryServiceInfo s id serial svc ≠ .error pn := by
  fun_cases queryServiceInfo s id serial svc <;> intro he <;> cases he
theorem sync_lk (s : St) (id : ConnId) (serial : Nat) (pn : Panic) : sync s id serial ≠ .error pn := by
  fun_cases sync s id serial <;> intro he <;> cases he
theorem createChannel_lk (s : St) (id : ConnId) (serial : Nat) (e : ChanEnd) (cap : Nat) (pn : Panic) :
    createChannel s id serial e cap ≠ .error pn := by
  fun_cases createChannel s id serial e cap <;> intro he <;> cases he
theorem closeChannelEnd_error {s : St} {id : ConnId} {serial : Nat} {ck : Cookie} {e : ChanEnd} {p : Panic}
    (he : closeChannelEnd s id serial ck e = .error p) : ∃ ch claimed, AL.find? ck s.b.channels = some ch ∧
      ch.checkClose id e = (.ok, claimed) ∧
      removeChannelEnd (s.send id (.closeChannelEndReply serial .ok)).1 ck e (if claimed then some id else none) = .error p := by
  revert he
  fun_cases closeChannelEnd s id serial ck e <;> intro he <;> cases he
  cases (congrArg Prod.fst ‹St.send _ _ _ _ = (_, _)› : (s.send _ _ _).1 = _)
  exact ⟨_, _, ‹_›, ‹_›, ‹_›⟩

theorem closeChannelEnd_lk (s : St) (id : ConnId) (serial : Nat) (ck : Cookie) (e : ChanEnd) (site : String) :
    closeChannelEnd s id serial ck e ≠ .error (.inconsistent site) :=
  fun he => let ⟨_, _, _, _, h⟩ := closeChannelEnd_error he; removeChannelEnd_lk _ _ _ _ site h
theorem createBusListener_lk (s : St) (id : ConnId) (serial : Nat) (pn : Panic) :
    createBusListener s id serial ≠ .error pn := by
  fun_cases createBusListener s id serial <;> intro he <;> cases he
theorem destroyBusListener_lk (s : St) (id : ConnId) (serial : Nat) (ck : Cookie) (pn : Panic) :
    destroyBusListener s id serial ck ≠ .error pn := by
  fun_cases destroyBusListener s id serial ck <;> intro he <;> cases he
theorem updListener_lk (s : St) (id : ConnId) (ck : Cookie) (f : Listener → Listener) (pn : Panic) :
    updListener s id ck f ≠ .error pn := by
  fun_cases updListener s id ck f <;> intro he <;> cases he
theorem stopBusListener_lk (s : St) (id : ConnId) (serial : Nat) (ck : Cookie) (pn : Panic) :
    stopBusListener s id serial ck ≠ .error pn := by
  fun_cases stopBusListener s id serial ck <;> intro he <;> cases he

theorem Chan.addCapacity_lk (c : Chan) (conn : ConnId) (cap : Nat) (site : String) :
    c.addCapacity conn cap ≠ .error (.inconsistent site) := by
  fun_cases Chan.addCapacity c conn cap <;> intro he <;> cases he

theorem Chan.sendItem_lk (c : Chan) (conn : ConnId) (site : String) : c.sendItem conn ≠ .error (.inconsistent site) := by
  fun_cases Chan.sendItem c conn <;> intro he <;> cases he

theorem Listener.specificObjects_lk (l : Listener) (site : String) : l.specificObjects ≠ .error (.inconsistent site) := by
  fun_cases Listener.specificObjects l <;> intro he <;> cases he

theorem Listener.specificServices?_lk (l : Listener) (site : String) : l.specificServices? ≠ .error (.inconsistent site) := by
  fun_cases Listener.specificServices? l <;> intro he <;> cases he

theorem addChannelCapacity_error {s : St} {id : ConnId} {ck : Cookie} {cap : Nat} {p : Panic}
    (he : addChannelCapacity s id ck cap = .error p) : ∃ ch, AL.find? ck s.b.channels = some ch ∧
      (ch.addCapacity id cap = .error p ∨
        ch.addCapacity id cap = .ok none ∧ removeChannelEnd s ck .receiver (some id) = .error p) := by
  rw [addChannelCapacity_eq] at he
  split at he
  · cases he
  refine ⟨_, ‹_›, ?_⟩
  split at he
  · cases he; exact .inl ‹_›
  · exact .inr ⟨‹_›, map_error_iff.1 he⟩
  · cases he

theorem addChannelCapacity_lk (s : St) (id : ConnId) (ck : Cookie) (cap : Nat) (site : String) :
    addChannelCapacity s id ck cap ≠ .error (.inconsistent site) := by
  intro he
  obtain ⟨ch, -, h | ⟨-, h⟩⟩ := addChannelCapacity_error he
  · exact Chan.addCapacity_lk _ _ _ site h
  · exact removeChannelEnd_lk _ _ _ _ site h

theorem sendItem_error {s : St} {id : ConnId} {ck : Cookie} {pl : Payload} {p : Panic}
    (he : sendItem s id ck pl = .error p) : ∃ ch, AL.find? ck s.b.channels = some ch ∧
      (ch.sendItem id = .error p ∨
        ch.sendItem id = .ok (.error .receiverUnclaimed) ∧
          (removeChannelEnd s ck .receiver none = .error p ∨
            ∃ t, removeChannelEnd s ck .receiver none = .ok t ∧ removeChannelEnd t ck .sender (some id) = .error p) ∨
        ch.sendItem id = .ok (.error .capacityExhausted) ∧ removeChannelEnd s ck .sender (some id) = .error p) := by
  rw [sendItem_eq] at he
  split at he
  · cases he
  split at he
  · cases he
  refine ⟨_, ‹_›, ?_⟩
  split at he
  · cases he; exact .inl ‹_›
  · refine .inr (.inl ⟨‹_›, ?_⟩)
    rcases bind_error_iff.1 (map_error_iff.1 he) with h | ⟨t, h1, h⟩
    · exact .inl h
    · exact .inr ⟨t, h1, h⟩
  · exact .inr (.inr ⟨‹_›, map_error_iff.1 he⟩)
  · cases he
  · cases he

theorem sendItem_lk (s : St) (id : ConnId) (ck : Cookie) (p : Payload) (site : String) :
    sendItem s id ck p ≠ .error (.inconsistent site) := by
  intro he
  obtain ⟨ch, -, h | ⟨-, h | ⟨_, -, h⟩⟩ | ⟨-, h⟩⟩ := sendItem_error he
  · exact Chan.sendItem_lk _ _ site h
  all_goals exact removeChannelEnd_lk _ _ _ _ site h

theorem startBusListener_error {s : St} {id : ConnId} {serial : Nat} {ck : Cookie} {sc : Scope} {p : Panic}
    (he : startBusListener s id serial ck sc = .error p) : ∃ l, AL.find? ck s.b.listeners = some l ∧
      (({ l with scope := some sc } : Listener).specificObjects = .error p ∨
        ({ l with scope := some sc } : Listener).specificServices? = .error p) := by
  revert he
  fun_cases startBusListener s id serial ck sc <;> intro he <;> cases he
  · exact ⟨_, ‹_›, .inl ‹_›⟩
  · exact ⟨_, ‹_›, .inr ‹_›⟩

theorem startBusListener_lk (s : St) (id : ConnId) (serial : Nat) (ck : Cookie) (sc : Scope) (site : String) :
    startBusListener s id serial ck sc ≠ .error (.inconsistent site) := by
  intro he
  obtain ⟨l, -, h | h⟩ := startBusListener_error he
  · exact Listener.specificObjects_lk _ site h
  · exact Listener.specificServices?_lk _ site h

theorem Chan.claimSender_lk (c : Chan) (conn : ConnId) (site : String) : c.claimSender conn ≠ .error (.inconsistent site) := by
  fun_cases Chan.claimSender c conn <;> intro he <;> cases he

theorem Chan.claimReceiver_lk (c : Chan) (conn : ConnId) (cap : Nat) (site : String) :
    c.claimReceiver conn cap ≠ .error (.inconsistent site) := by
  fun_cases Chan.claimReceiver c conn cap <;> intro he <;> cases he

theorem claimChannelEnd_error {s : St} {id : ConnId} {serial : Nat} {ck : Cookie} {e : ChanEnd} {cap : Nat} {p : Panic}
    (he : claimChannelEnd s id serial ck e cap = .error p) : ∃ ch, AL.find? ck s.b.channels = some ch ∧
      (ch.claim e id cap = .error p ∨ ∃ ch' other r, ch.claim e id cap = .ok (.ok (ch', other, r)) ∧ s.conn? other = none) := by
  rw [claimChannelEnd_eq] at he
  split at he
  · cases he
  split at he
  · cases he
  refine ⟨_, ‹_›, ?_⟩
  split at he
  · cases he; exact .inl ‹_›
  · cases he
  · dsimp only at he
    split at he
    · next hn => exact .inr ⟨_, _, _, ‹_›, by simpa [claimEnd, find_isNone_updConn] using hn⟩
    · cases he

theorem callee_there {s : St} (hcal : Cal none s) (hreg : Reg none none s) {bs : Nat} {call : Call} (hg : s.b.calls.get? bs = some call) :
    AL.find? call.calleeObj s.b.objs ≠ none ∧ AL.find? (call.calleeObj, call.calleeSvc) s.b.svcs ≠ none := by
  obtain ⟨sv, info, o, owner, q1, _, _, q4, _, _⟩ := callee_of_call hcal hreg hg
  rw [q1, q4]; exact ⟨nofun, nofun⟩

theorem callFunctionReply_lk {s : St} (hcal : Cal none s) (hreg : Reg none none s) (id : ConnId) (serial : Nat) (r : CallResult) (site : String) :
    callFunctionReply s id serial r ≠ .error (.inconsistent site) := by
  intro he
  obtain ⟨call, hg, ⟨-, hn⟩ | ⟨-, hn⟩ | ⟨hp, _⟩⟩ := callFunctionReply_error he
  · exact (callee_there hcal hreg hg).1 hn
  · exact (callee_there hcal hreg hg).2 hn
  · cases hp

theorem callFunctionImpl_lk {s : St} (h : RegistryConsistent s.b) (id : ConnId) (serial : Nat) (svc : Cookie) (f : Nat)
    (v : Option Nat) (p : Payload) (pn : Panic) :
    callFunctionImpl s id serial svc f v p ≠ .error pn := by
  fun_cases callFunctionImpl s id serial svc f v p <;> intro he <;> cases he
  · exact h.svc_obj ‹_› ‹_›
  · have hn := ‹St.conn? _ _ = none›
    refine h.obj_owner ‹_› ?_
    simp +zetaDelta only [St.conn?, St.setConn_b_conns, St.setCalls_b_conns, AL.find?_insert] at hn
    split at hn
    · cases hn
    · exact hn
  · have hn := ‹AL.find? (_, _) _ = none›; exact h.svc_entry ‹_› (by simpa +zetaDelta using hn)

theorem callFunction2_lk {s : St} (h : RegistryConsistent s.b) (id : ConnId) (serial : Nat) (svc : Cookie) (f : Nat)
    (v : Option Nat) (p : Payload) (pn : Panic) :
    callFunction2 s id serial svc f v p ≠ .error pn := by
  fun_cases callFunction2 s id serial svc f v p
  · nofun
  · nofun
  · exact callFunctionImpl_lk h _ _ _ _ _ _ _

theorem createService2_lk {s : St} (h : RegistryConsistent s.b) (id : ConnId) (serial : Nat) (oc : Cookie) (uuid : Uuid) (info : Option SvcInfo) (pn : Panic) :
    createService2 s id serial oc uuid info ≠ .error pn := by
  fun_cases createService2 s id serial oc uuid info
  · nofun
  · nofun
  · exact createServiceImpl_lk h _ _ _ _ _ _

theorem claimChannelEnd_other {s : St} (hown : Own none s) {ck : Cookie} {ch ch' : Chan} {e : ChanEnd} {id other : ConnId} {cap : Nat}
    {r : ClaimRes} (hch : AL.find? ck s.b.channels = some ch) (hcl : ch.claim e id cap = .ok (.ok (ch', other, r))) :
    s.conn? other ≠ none :=
  have ⟨_, h1, _⟩ := hown.holder (x := (e.other.kind, ck)) ((own_end hch e.other).trans (Chan.claim_owner hcl).2.2.2)
  fun hn => nomatch h1.symm.trans hn

theorem claimChannelEnd_lk {s : St} (hown : Own none s) (id : ConnId) (serial : Nat) (ck : Cookie) (e : ChanEnd) (cap : Nat) (site : String) :
    claimChannelEnd s id serial ck e cap ≠ .error (.inconsistent site) := by
  intro he
  obtain ⟨ch, hch, h1 | ⟨ch', other, r, hcl, hn⟩⟩ := claimChannelEnd_error he
  · rcases Chan.claim_error h1 with h1 | h1
    · exact Chan.claimSender_lk _ _ site h1
    · exact Chan.claimReceiver_lk _ _ _ site h1
  · exact claimChannelEnd_other hown hch hcl hn

/-! ### the introspection handlers: what can fail there is one of the four introspection lookups -/

theorem registerIntrospection_lk (s : St) (id : ConnId) (tys : Option (List Uuid)) (pn : Panic) :
    registerIntrospection s id tys ≠ .error pn := by
  fun_cases registerIntrospection s id tys <;> intro he <;> cases he

theorem IEntry.queryRandomConn_lk (e : IEntry) (serial : Nat) (site : String) : e.queryRandomConn serial ≠ .error (.inconsistent site) := by
  fun_cases IEntry.queryRandomConn e serial <;> intro he <;> cases he

section
variable {site : String} (hs : site ∉ introspectionSites)
include hs

theorem askIntrospection_lk (s : St) (ty : Uuid) (entry : IEntry) : askIntrospection s ty entry ≠ .error (.inconsistent site) := by
  fun_cases askIntrospection s ty entry <;> intro he <;> cases he
  · exact IEntry.queryRandomConn_lk _ _ _ ‹_›
  · exact hs (by decide)

theorem replyPending_lk (l : List IQuery) (s : St) (r : Option Payload) (m : Bool) : replyPending s l r m ≠ .error (.inconsistent site) := by
  fun_induction replyPending s l r m <;> intro he
  · cases he
  · cases he; exact hs (by decide)
  all_goals exact ‹_ ≠ _› he

theorem queryIntrospection_lk (s : St) (id : ConnId) (serial : Nat) (ty : Uuid) :
    queryIntrospection s id serial ty ≠ .error (.inconsistent site) := by
  fun_cases queryIntrospection s id serial ty <;> intro he <;> cases he
  all_goals exact askIntrospection_lk hs _ _ _ ‹_›

theorem queryIntrospectionReply_lk (s : St) (id : ConnId) (serial : Nat) (r : Option Payload) :
    queryIntrospectionReply s id serial r ≠ .error (.inconsistent site) := by
  fun_cases queryIntrospectionReply s id serial r <;> intro he <;> cases he
  all_goals first
    | exact hs (by decide)
    | exact askIntrospection_lk hs _ _ _ ‹_›
    | exact replyPending_lk hs _ _ _ _ ‹_›

theorem removeIntrospectionConn_go_lk (l : List (Nat × Option Uuid × List IQuery)) (s : St) :
    removeIntrospectionConn.go s l ≠ .error (.inconsistent site) := by
  fun_induction removeIntrospectionConn.go s l <;> intro he
  all_goals first
    | (cases he; done)
    | (cases he; exact hs (by decide))
    | exact ‹_ ≠ _› he
    | exact askIntrospection_lk hs _ _ _ (‹_ = Except.error _›.trans he)
    | exact replyPending_lk hs _ _ _ _ (‹_ = Except.error _›.trans he)

theorem removeIntrospectionConn_lk (s : St) (cid : ConnId) : removeIntrospectionConn s cid ≠ .error (.inconsistent site) :=
  removeIntrospectionConn_go_lk hs _ _

end

/-- the invariants under which the lookups are proved -/
structure LkInv (s : St) : Prop where
  reg : Reg none none s
  cal : Cal none s
  own : Own none s

theorem LkInv.rc {s : St} (h : LkInv s) : RegistryConsistent s.b := RegistryConsistent.of_reg (b := s.b) (w := s.w) (out := s.out) h.reg

/-- the requests whose handlers may panic in some way where the lookup invariants hold: those of the calls' replies, of
channels, `StartBusListener`, and two of introspection -/
def Req.delicate : Req → Bool
  | .callFunctionReply .. | .closeChannelEnd .. | .claimChannelEnd .. | .sendItem .. | .addChannelCapacity ..
  | .startBusListener .. | .queryIntrospection .. | .queryIntrospectionReply .. => true
  | _ => false

theorem handleMessage_plain {s : St} (h : LkInv s) {id : ConnId} {m : Req} {p : Panic} (he : handleMessage s id m = .error p) :
    m.delicate = true := by
  cases m
  case createObject => exact absurd he (createObject_lk _ _ _ _ _)
  case destroyObject => exact absurd he (destroyObject_lk h.cal h.reg _ _ _ _)
  case createService => exact absurd (show createService _ _ _ _ _ _ = _ from he) (createServiceImpl_lk h.rc _ _ _ _ _ _)
  case createService2 => exact absurd he (createService2_lk h.rc _ _ _ _ _ _)
  case destroyService => exact absurd he (destroyService_lk h.cal h.reg _ _ _ _)
  case callFunction => exact absurd he (callFunctionImpl_lk h.rc _ _ _ _ _ _ _)
  case callFunction2 => exact absurd he (callFunction2_lk h.rc _ _ _ _ _ _ _)
  case abortFunctionCall => exact absurd he (abortFunctionCall_lk _ _ _ _)
  case subscribeEvent => exact absurd he (subscribeEvent_lk h.rc _ _ _ _ _)
  case unsubscribeEvent => exact absurd he (unsubscribeEvent_lk h.rc _ _ _ _)
  case emitEvent => exact absurd he (emitEvent_lk h.rc _ _ _ _ _)
  case queryServiceVersion => exact absurd he (queryServiceVersion_lk _ _ _ _ _)
  case queryServiceInfo => exact absurd he (queryServiceInfo_lk _ _ _ _ _)
  case subscribeService => exact absurd he (subscribeService_lk h.rc _ _ _ _)
  case unsubscribeService => exact absurd he (unsubscribeService_lk h.rc _ _ _)
  case subscribeAllEvents => exact absurd he (subscribeAllEvents_lk h.rc _ _ _ _)
  case unsubscribeAllEvents => exact absurd he (unsubscribeAllEvents_lk h.rc _ _ _ _)
  case createChannel => exact absurd he (createChannel_lk _ _ _ _ _ _)
  case sync => exact absurd he (sync_lk _ _ _ _)
  case createBusListener => exact absurd he (createBusListener_lk _ _ _ _)
  case destroyBusListener => exact absurd he (destroyBusListener_lk _ _ _ _ _)
  case addFilter f => exact absurd he (updListener_lk _ _ _ _ _)
  case removeFilter f => exact absurd he (updListener_lk _ _ _ _ _)
  case clearFilters => exact absurd he (updListener_lk _ _ _ _ _)
  case stopBusListener => exact absurd he (stopBusListener_lk _ _ _ _ _)
  case registerIntrospection => exact absurd he (registerIntrospection_lk _ _ _ _)
  case other => cases he
  all_goals rfl

/-- **every request**: a failed `expect("inconsistent state")` lookup can only be one of the introspection code -/
theorem handleMessage_sites {s : St} (h : LkInv s) {id : ConnId} {m : Req} {site : String}
    (he : handleMessage s id m = .error (.inconsistent site)) : site ∈ introspectionSites := by
  have hd := handleMessage_plain h he
  cases m <;> try cases hd
  case callFunctionReply => exact absurd he (callFunctionReply_lk h.cal h.reg _ _ _ _)
  case closeChannelEnd => exact absurd he (closeChannelEnd_lk _ _ _ _ _ _)
  case claimChannelEnd => exact absurd he (claimChannelEnd_lk h.own _ _ _ _ _ _)
  case sendItem => exact absurd he (sendItem_lk _ _ _ _ _)
  case addChannelCapacity => exact absurd he (addChannelCapacity_lk _ _ _ _ _)
  case startBusListener => exact absurd he (startBusListener_lk _ _ _ _ _ _)
  case queryIntrospection => exact Decidable.by_contra fun hs => queryIntrospection_lk hs _ _ _ _ he
  case queryIntrospectionReply => exact Decidable.by_contra fun hs => queryIntrospectionReply_lk hs _ _ _ _ he

theorem removeObjects_ok {id : ConnId} {l : List Cookie} {s : St} (hc : Cal none s) (hr : Reg (some (id, l)) none s) :
    ∃ s', foldE removeObject s l = .ok s' := by
  obtain ⟨s', h, -⟩ := foldE_rest_ok (P := fun l s => Cal none s ∧ Reg (some (id, l)) none s) (fun a l s hp => by
    obtain ⟨s1, h1⟩ := removeObject_ok hp.1 hp.2 a
    obtain ⟨r1, r2⟩ := removeObject_reg hp.2 h1
    exact ⟨s1, h1, removeObject_cal hp.1 h1, RegP.pc_next r1 r2⟩) ⟨hc, hr⟩
  exact ⟨s', h⟩

/-- **The removal of a connection under the lookup invariants**: nothing fails before the channel ends of the connection
are closed; `s4` is the state then, with the channels as they were. -/
theorem shutdownConnection_error {s : St} (h : LkInv s) {id : ConnId} {b : Bool} {p : Panic} (he : shutdownConnection s id b = .error p) :
    ∃ conn s4, s.conn? id = some conn ∧ s4.b.channels = s.b.channels ∧
      (foldE (fun s c => removeChannelEnd s c .sender (some id)) s4 conn.senders >>= fun s5 =>
        foldE (fun s c => removeChannelEnd s c .receiver (some id)) s5 conn.receivers >>= fun s6 =>
          removeIntrospectionConn (queueAborts s6 conn.calls) id) = .error p := by
  rw [shutdownConnection_eq] at he
  split at he
  · cases he
  rename_i conn hconn
  -- what is carried up to the channel ends, and that every update outside these labels keeps it
  let P : St → Prop := fun t => (Reg none none t ∧ Cal none t) ∧ t.b.channels = s.b.channels
  have F : Frame (fun t t' => P t → P t') _ :=
    ((Reg.frame.and Cal.frame).and channels_frame).carries (fun hs hp => ⟨⟨hs.1.1 hp.1.1, hs.1.2 hp.1.2⟩, hs.2.trans hp.2⟩)
  -- the `Shutdown` message, the connection out of the map, its listeners
  have ht := sayShutdown_fp s id b conn
  have htc := sayShutdown_conns s id b conn
  generalize sayShutdown s id b conn = t at he ht htc
  have i0 : (Reg (some (id, conn.objects)) none (conn.busListeners.foldl removeBusListener (t.setConns (AL.erase id t.b.conns))) ∧
      Cal none (conn.busListeners.foldl removeBusListener (t.setConns (AL.erase id t.b.conns)))) ∧
      (conn.busListeners.foldl removeBusListener (t.setConns (AL.erase id t.b.conns))).b.channels = s.b.channels :=
    foldl_inv (P := fun t => (Reg (some (id, conn.objects)) none t ∧ Cal none t) ∧ t.b.channels = s.b.channels)
      (fun t a hp => ⟨⟨(removeBusListener_fp t a).frame Reg.frame (by decide) hp.1.1, (removeBusListener_fp t a).frame Cal.frame (by decide) hp.1.2⟩,
        (removeBusListener_channels t a).trans hp.2⟩)
      ⟨⟨Reg.of_views (RegP.remove_conn (ht.frame Reg.frame (by decide) h.reg) (ro_find (htc ▸ hconn)))
          (fun _ => rfl) (fun _ => rfl) (fun _ => rfl) (fun _ => rfl) (ro_setConns_erase t id),
        Cal.frame.step (.connGone t id) (by decide) (ht.frame Cal.frame (by decide) h.cal)⟩, ht.frame channels_frame⟩
  rcases bind_error_iff.mp he with e1 | ⟨s1, h1, he⟩
  · obtain ⟨s1, h1⟩ := removeObjects_ok i0.1.2 i0.1.1
    rw [h1] at e1; cases e1
  have p1 : P s1 := ⟨⟨removeObjects_reg i0.1.1 h1, foldE_inv (fun _ _ _ hp hr => removeObject_cal hp hr) i0.1.2 h1⟩,
    ((Fp.foldE (fun _ _ _ h => removeObject_fp h) _ _ _ h1).frame channels_frame).trans i0.2⟩
  rcases bind_error_iff.mp he with e2 | ⟨s2, h2, he⟩
  · exact absurd e2 (foldE_no_error (fun _ _ _ hp hr => (removeEventSubscription_fp hr).frame F (by decide) hp)
      (fun _ _ hp => removeEventSubscription_lk (.of_reg hp.1.1) _ _ _ _) p1)
  have p2 := foldE_inv (fun _ _ _ hp hr => (removeEventSubscription_fp hr).frame F (by decide) hp) p1 h2
  rcases bind_error_iff.mp he with e3 | ⟨s3, h3, he⟩
  · exact absurd e3 (foldE_no_error (fun _ _ _ hp hr => (removeAllEventsSubscription_fp hr).frame F (by decide) hp)
      (fun _ _ hp => removeAllEventsSubscription_lk (.of_reg hp.1.1) _ _ _) p2)
  have p3 := foldE_inv (fun _ _ _ hp hr => (removeAllEventsSubscription_fp hr).frame F (by decide) hp) p2 h3
  rcases bind_error_iff.mp he with e4 | ⟨s4, h4, he⟩
  · exact absurd e4 (foldE_no_error (fun _ _ _ hp hr => (removeSubscription_fp hr).frame F (by decide) hp)
      (fun _ _ hp => removeSubscription_lk (.of_reg hp.1.1) _ _ _) p3)
  exact ⟨conn, s4, hconn, (foldE_inv (fun _ _ _ hp hr => (removeSubscription_fp hr).frame F (by decide) hp) p3 h4).2, he⟩

theorem shutdownConnection_sites {s : St} (h : LkInv s) {id : ConnId} {b : Bool} {site : String}
    (he : shutdownConnection s id b = .error (.inconsistent site)) : site ∈ introspectionSites := by
  obtain ⟨conn, s4, -, -, he⟩ := shutdownConnection_error h he
  refine Decidable.by_contra fun hs => ?_
  have ends : ∀ (e : ChanEnd) (l : List Cookie) (t : St),
      foldE (fun s c => removeChannelEnd s c e (some id)) t l ≠ .error (.inconsistent site) := fun e l t =>
    foldE_no_error (P := fun _ => True) (fun _ _ _ _ _ => trivial) (fun t a _ => removeChannelEnd_lk t a e _ site) trivial
  rcases bind_error_iff.mp he with e5 | ⟨s5, -, he⟩
  · exact ends _ _ _ e5
  rcases bind_error_iff.mp he with e6 | ⟨s6, -, he⟩
  · exact ends _ _ _ e6
  · exact removeIntrospectionConn_lk hs _ _ he

theorem LkInv.frame : Frame (fun s t => LkInv s → LkInv t)
    [.objUuids, .objs, .svcUuids, .svcs, .conn .objects, .connGone, .connNew, .calls, .svcs, .svc .calls,
      .channels, .listeners, .conn .senders, .conn .receivers, .conn .busListeners, .connGone, .connNew] :=
  (Reg.frame.and (Cal.frame.and Own.frame)).carries (fun hs h => ⟨hs.1 h.reg, hs.2.1 h.cal, hs.2.2 h.own⟩)

theorem processOne_lkinv {s s' : St} (h : LkInv s) (hr : processOne s = some (.ok s')) : LkInv s' :=
  ⟨processOne_reg h.reg hr, processOne_cal h.cal hr, (processOne_own h.own hr).1⟩

theorem replyToCaller_lk {site' : String} (s : St) (cid : ConnId) (serial : Nat) (r : CallResult) (v : Option Nat) (site : String) :
    replyToCaller site' s cid serial r v ≠ .error (.inconsistent site) :=
  fun he => nomatch (replyToCaller_error he).1

theorem abortCall_lk (s : St) (serial : Nat) (cid : ConnId) (site : String) : abortCall s serial cid ≠ .error (.inconsistent site) := by
  fun_cases abortCall s serial cid <;> intro he <;> cases he

theorem processOne_sites {s : St} (h : LkInv s) {site : String} (he : processOne s = some (.error (.inconsistent site))) :
    site ∈ introspectionSites := by
  obtain ⟨i, t, hp, he⟩ := processOne_item he
  cases i
  case removeConn => exact shutdownConnection_sites ((St.pop_fp hp).frame LkInv.frame (by item_decide) h) he
  case finishCall => exact absurd he (replyToCaller_lk _ _ _ _ _ site)
  case abort => exact absurd he (abortCall_lk _ _ _ site)
  all_goals cases he

theorem processLoop_sites : ∀ (fuel : Nat) (s : St) (site : String), LkInv s → processLoop fuel s = .error (.inconsistent site) →
    site ∈ introspectionSites := by
  intro fuel s site h he
  obtain e | ⟨t, ht, he⟩ := processLoop_error (fun _ _ h => processOne_lkinv h) fuel s _ h he
  · cases e
  · exact processOne_sites ht he

theorem Reachable.own {b : Broker} {w : Work} (h : Reachable b w) : G2 ⟨b, w, []⟩ ∧ Own none ⟨b, w, []⟩ := by
  induction h with
  | init => exact ⟨G2_init, Own.init⟩
  | step _ _ hs ih => exact ⟨step_G2 ih.1 hs, step_own ih.1 ih.2 hs⟩

theorem Reachable.lkinv {b : Broker} {w : Work} (h : Reachable b w) : LkInv ⟨b, w, []⟩ := ⟨h.reg.2, h.cal, h.own.2⟩

theorem handleEvent_lkinv {b : Broker} {w : Work} (h : Reachable b w) (hroom : b.calls.elems.length ≤ u32Max) {e : Event} {s1 : St}
    (h1 : handleEvent ⟨b, w, []⟩ e = .ok s1) : LkInv s1 :=
  ⟨handleEvent_reg h.reg.1 h.reg.2 h1, handleEvent_cal h.cal h.idle.x.d hroom h1, handleEvent_own h.own.1 h.own.2 h1⟩

/-- **One turn of `Broker::run`, from any reachable state with room in the call table, for any event**: if it stops at an
`expect("inconsistent state")`, that is one of the four lookups of the introspection code. -/
theorem step_sites {b : Broker} {w : Work} (h : Reachable b w) (hroom : b.calls.elems.length ≤ u32Max) {e : Event} {site : String}
    (he : step b w e = .error (.inconsistent site)) : site ∈ introspectionSites := by
  rcases step_error he with hp | ⟨s1, h1, hp⟩
  · rcases handleEvent_error hp with ⟨id, m, -, hm⟩ | ⟨_, _, -, hp⟩
    · exact handleMessage_sites h.lkinv hm
    · cases hp
  · exact processLoop_sites _ _ _ (handleEvent_lkinv h hroom h1) hp

theorem removeChannelEnd_np {s : St} (hch : ChInv s) {ck : Cookie} {e : ChanEnd} {owner : Option ConnId}
    (hne : ∀ ch, AL.find? ck s.b.channels = some ch → ch.endState e ≠ .closed) (p : Panic) :
    removeChannelEnd s ck e owner ≠ .error p := by
  intro he
  rw [removeChannelEnd_eq] at he
  split at he
  · simp at he
  · rename_i ch hf
    split at he
    · rename_i p' hc
      exact okAnd_ne_error (close_ok (AllV_find hch hf) (hne ch hf)) p' hc
    · simp at he

theorem checkClose_not_closed {c : Chan} {conn : ConnId} {e : ChanEnd} (h : (c.checkClose conn e).1 = .ok) : c.endState e ≠ .closed := by
  unfold Chan.checkClose at h
  intro hc
  rw [hc] at h; simp at h

theorem closeChannelEnd_np {s : St} (hch : ChInv s) (id : ConnId) (serial : Nat) (ck : Cookie) (e : ChanEnd) (p : Panic) :
    closeChannelEnd s id serial ck e ≠ .error p := by
  intro he
  obtain ⟨ch, claimed, hf, hcc, h⟩ := closeChannelEnd_error he
  refine removeChannelEnd_np (ChInv_of_eq hch (by simp)) (fun ch' hf' => ?_) _ h
  cases hf.symm.trans (by simpa using hf')
  exact checkClose_not_closed (by rw [hcc])

theorem claimChannelEnd_np {s : St} (hch : ChInv s) (hown : Own none s) (id : ConnId) (serial : Nat) (ck : Cookie) (e : ChanEnd) (cap : Nat) (p : Panic) :
    claimChannelEnd s id serial ck e cap ≠ .error p := by
  intro he
  obtain ⟨ch, hf, h1 | ⟨ch', other, r, hcl, hn⟩⟩ := claimChannelEnd_error he
  · rcases Chan.claim_error h1 with h1 | h1
    · exact okAnd_ne_error (claimSender_ok (AllV_find hch hf)) p h1
    · exact okAnd_ne_error (claimReceiver_ok (AllV_find hch hf)) p h1
  · exact claimChannelEnd_other hown hf hcl hn

theorem addChannelCapacity_np {s : St} (hch : ChInv s) (id : ConnId) (ck : Cookie) (cap : Nat) (p : Panic) :
    addChannelCapacity s id ck cap ≠ .error p := by
  intro he
  obtain ⟨ch, hf, h | ⟨hac, h⟩⟩ := addChannelCapacity_error he
  · exact okAnd_ne_error (addCapacity_ok (AllV_find hch hf)) p h
  · -- an overflow: the receiver end is claimed
    refine removeChannelEnd_np hch (fun ch' hf' hc => ?_) _ h
    cases hf.symm.trans hf'
    have := addCapacity_none hac
    rw [show ch.receiver = .closed from hc] at this; cases this

theorem startBusListener_np {s : St} (hl : LInv s) (id : ConnId) (serial : Nat) (ck : Cookie) (sc : Scope) (p : Panic) :
    startBusListener s id serial ck sc ≠ .error p := by
  intro he
  obtain ⟨l, hf, h | h⟩ := startBusListener_error he
  -- the flags of the listener are right, so neither lookup in its filters fails
  all_goals have hok := Listener.setScope_ok (some sc) (AllV_find (P := Listener.OK) hl hf)
  · rw [Listener.specificObjects_ok hok] at h; cases h
  · rw [Listener.specificServices?_ok hok] at h; cases h

theorem callFunctionReply_np {s : St} {sv} (hx : XrefP sv s) (hcal : Cal none s) (hreg : Reg none none s) (id : ConnId) (serial : Nat)
    (r : CallResult) (p : Panic) : callFunctionReply s id serial r ≠ .error p := by
  intro he
  obtain ⟨call, hg, ⟨-, hn⟩ | ⟨-, hn⟩ | ⟨-, hna, caller, hc, hn⟩⟩ := callFunctionReply_error he
  · exact (callee_there hcal hreg hg).1 hn
  · exact (callee_there hcal hreg hg).2 hn
  · exact hx.caller_has_entry hg hna (ck_of_find hc) hn

theorem sendItem_np {s : St} (hch : ChInv s) (id : ConnId) (ck : Cookie) (pl : Payload) (p : Panic) :
    sendItem s id ck pl ≠ .error p := by
  intro he
  obtain ⟨ch, hf, h | ⟨hsi, h⟩ | ⟨hsi, h⟩⟩ := sendItem_error he
  · exact okAnd_ne_error (sendItem_ok (AllV_find hch hf)) p h
  · -- the receiver end is unclaimed, the sender end claimed: neither is closed, also after the first has gone
    obtain ⟨cap, hsender⟩ := sendItem_claimed hsi (by simp)
    rcases h with h | ⟨t, h1, h⟩
    · refine removeChannelEnd_np hch (fun ch' hf' hc => ?_) _ h
      cases hf.symm.trans hf'
      cases (sendItem_runclaimed hsi).symm.trans (show ch.receiver = .closed from hc)
    · refine removeChannelEnd_np (removeChannelEnd_ChInv hch h1) (fun ch1 hf1 hc => ?_) _ h
      obtain ⟨ch0, hf0, hoth⟩ := (removeChannelEnd_channels h1).2 ch1 hf1
      cases hf.symm.trans hf0
      rw [show ch1.endState ChanEnd.receiver.other = ch1.sender from rfl, show ch1.sender = .closed from hc,
        show ch.endState ChanEnd.receiver.other = ch.sender from rfl, hsender] at hoth
      cases hoth
  · -- no capacity left: the sender end is claimed
    obtain ⟨cap, hsender⟩ := sendItem_claimed hsi (by simp)
    refine removeChannelEnd_np hch (fun ch' hf' hc => ?_) _ h
    cases hf.symm.trans hf'
    rw [show ch.sender = .closed from hc] at hsender; cases hsender

theorem Reachable.clinv {b : Broker} {w : Work} (h : Reachable b w) : CLInv ⟨b, w, []⟩ := by
  induction h with
  | init => exact CLInv_init
  | step _ _ hs ih => exact step_CLInv ih hs

/-- `registerIntrospection` cannot panic either (`registerIntrospection_lk`): only the two introspection queries are left out -/
theorem handleMessage_np_of_not_query {b : Broker} {w : Work} (h : Reachable b w) (id : ConnId) (m : Req) (p : Panic)
    (hq : ∀ serial ty, m ≠ .queryIntrospection serial ty) (hr : ∀ serial r, m ≠ .queryIntrospectionReply serial r) :
    handleMessage ⟨b, w, []⟩ id m ≠ .error p := by
  intro he
  have hi := h.lkinv
  have hcl := h.clinv
  have hd := handleMessage_plain hi he
  cases m <;> try cases hd
  case callFunctionReply => exact absurd he (callFunctionReply_np h.idle.x hi.cal hi.reg _ _ _ _)
  case closeChannelEnd => exact absurd he (closeChannelEnd_np hcl.1 _ _ _ _ _)
  case claimChannelEnd => exact absurd he (claimChannelEnd_np hcl.1 hi.own _ _ _ _ _ _)
  case sendItem => exact absurd he (sendItem_np hcl.1 _ _ _ _)
  case addChannelCapacity => exact absurd he (addChannelCapacity_np hcl.1 _ _ _ _)
  case startBusListener => exact absurd he (startBusListener_np hcl.2 _ _ _ _ _)
  case queryIntrospection serial ty => exact absurd rfl (hq serial ty)
  case queryIntrospectionReply serial r => exact absurd rfl (hr serial r)

/-- **No request other than the three about introspection makes the broker panic in any way** — no failed lookup, no
`unreachable!()`, no `debug_assert!` — in any reachable state. -/
theorem handleMessage_np {b : Broker} {w : Work} (h : Reachable b w) (id : ConnId) (m : Req) (p : Panic)
    (hm : ∀ tys, m ≠ .registerIntrospection tys) (hq : ∀ serial ty, m ≠ .queryIntrospection serial ty)
    (hr : ∀ serial r, m ≠ .queryIntrospectionReply serial r) :
    handleMessage ⟨b, w, []⟩ id m ≠ .error p :=
  handleMessage_np_of_not_query h id m p hq hr

end Aldrin.Broker
