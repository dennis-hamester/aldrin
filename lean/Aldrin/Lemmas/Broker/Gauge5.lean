/-
The registry maps with their gauges (C09, C03): the gauges for connections, objects and services equal the sizes
of the maps, both views of objects / services have the same size, keys are unique and cookies fresh.
-/
import Aldrin.Lemmas.Broker.Frame5
import Aldrin.Lemmas.Broker.Gauge
import Aldrin.Lemmas.Broker.Outcomes
import Aldrin.Lemmas.Broker.Turn

namespace Aldrin.Broker
open Generated

/-- size bookkeeping of a map whose keys are chosen by clients (uuids, connection ids) -/
structure MapL {K V : Type} [DecidableEq K] (g : Nat) (m : List (K × V)) : Prop where
  size : g = m.length
  nodup : AL.NodupKeys m

theorem MapL_nil {K V : Type} [DecidableEq K] : MapL 0 ([] : List (K × V)) := ⟨rfl, AL.nodupKeys_nil⟩

theorem MapL_of_keys {K V : Type} [DecidableEq K] {g : Nat} {m m' : List (K × V)} (h : MapL g m)
    (hk : m'.map Prod.fst = m.map Prod.fst) : MapL g m' :=
  ⟨by rw [h.size]; have := congrArg List.length hk; simpa using this.symm, by unfold AL.NodupKeys at *; rw [hk]; exact h.nodup⟩

theorem MapL_insert_new {K V : Type} [DecidableEq K] {g : Nat} {m : List (K × V)} {k : K} {v : V} (h : MapL g m)
    (hk : AL.find? k m = none) : MapL (g + 1) (AL.insert k v m) :=
  ⟨by rw [AL.length_insert_of_none hk, h.size], AL.nodupKeys_insert h.nodup⟩

theorem MapL_insert_new' {K V : Type} [DecidableEq K] {g : Nat} {m : List (K × V)} {k : K} {v : V} (h : MapL g m)
    (hk : (AL.find? k m).isSome = false) : MapL (g + 1) (AL.insert k v m) :=
  MapL_insert_new h (by cases hf : AL.find? k m <;> simp_all)

theorem MapL_insert_same {K V : Type} [DecidableEq K] {g : Nat} {m : List (K × V)} {k : K} {v v' : V} (h : MapL g m)
    (hk : AL.find? k m = some v') : MapL g (AL.insert k v m) :=
  MapL_of_keys h (AL.keys_insert_of_some hk)

theorem MapL_erase {K V : Type} [DecidableEq K] {g : Nat} {m : List (K × V)} {k : K} {v' : V} (h : MapL g m)
    (hk : AL.find? k m = some v') : MapL (g - 1) (AL.erase k m) := by
  have := AL.length_erase_of_some h.nodup hk
  exact ⟨by rw [h.size]; omega, AL.nodupKeys_erase h.nodup⟩

/-- `dc` / `d` = number of connections / objects already taken out of their maps whose gauge decrement is still to come
(`shutdown_connection` and `remove_object` decrement at their end, after removing what the connection owned / the
object's services). The subtraction is the truncating one of the model's decrement, so `G5o 1 0` before
`numConnections - 1` is `G5o 0 0` after it and no lower bound on a gauge is ever needed. -/
def G5o (dc d : Nat) (s : St) : Prop :=
  MapL (s.b.stats.numConnections - dc) s.b.conns ∧
  MapG (s.b.stats.numObjects - d) s.b.nextCookie s.b.objUuids ∧ MapL (s.b.stats.numObjects - d) s.b.objs ∧
  MapG s.b.stats.numServices s.b.nextCookie s.b.svcUuids ∧ MapL s.b.stats.numServices s.b.svcs

def G5 (s : St) : Prop := G5o 0 0 s

theorem G5o_of_same5 {dc d : Nat} {s s' : St} (h : G5o dc d s) (hs : Same5 s s') : G5o dc d s' := by
  obtain ⟨h1, h2, h3, h4, h5, h6, h7, h8, h9⟩ := hs
  obtain ⟨g1, g2, g3, g4, g5⟩ := h
  unfold G5o
  rw [h1, h2, h6, h7, h8]
  exact ⟨MapL_of_keys g1 h5, MapG_mono g2 h9, MapL_of_keys g3 h3, MapG_mono g4 h9, MapL_of_keys g5 h4⟩

theorem G5o.frame (dc d : Nat) : Frame (fun s t => G5o dc d s → G5o dc d t)
    [.objUuids, .svcUuids, .objs, .svcs, .connGone, .connNew, .stat .numConnections, .stat .numObjects, .stat .numServices] :=
  Same5.frame.carries (fun hs h => G5o_of_same5 h hs)

theorem createObject_G5 {s : St} {id serial uuid r} (h : G5 s) (hr : createObject s id serial uuid = .ok r) : G5 r.1 := by
  rcases createObject_outcome hr with hf | ⟨conn, hconn, hnew, hr⟩
  · exact hf.frame (G5o.frame 0 0) (by decide) h
  · rw [hr]
    obtain ⟨g1, g2, g3, g4, g5⟩ := h
    exact ⟨MapL_of_keys (m := s.b.conns) (by simpa [addObject] using g1) (by simp [addObject]), by simpa [addObject] using MapG_insert_fresh g2 (Nat.lt_succ_self _),
      by simpa [addObject] using MapL_insert_new g3 hnew, by simpa [addObject] using MapG_mono g4 (Nat.le_succ _),
      by simpa [addObject] using g5⟩

/-- the service is out of its two maps and the gauge says so; the entry of its object has a new value, if it is there -/
theorem dropService_G5o {dc d : Nat} {s : St} {c : Cookie} {oid : ObjId} {svu : Uuid} {vu vs} (h : G5o dc d s)
    (hu : AL.find? c s.b.svcUuids = some vu) (hs : AL.find? (oid.uuid, svu) s.b.svcs = some vs) :
    G5o dc d ((dropService s c oid svu).stat fun st => { st with numServices := st.numServices - 1 }) := by
  obtain ⟨g1, g2, g3, g4, g5⟩ := h
  unfold G5o
  simp only [St.stat_b_stats, St.stat_b_conns, St.stat_b_nextCookie, St.stat_b_objUuids, St.stat_b_objs, St.stat_b_svcUuids, St.stat_b_svcs]
  rw [dropService_b_conns, dropService_b_stats, dropService_b_objUuids, dropService_b_nextCookie, dropService_b_svcUuids, dropService_b_svcs]
  refine ⟨g1, g2, MapL_of_keys g3 ?_, MapG_erase g4 hu, MapL_erase g5 hs⟩
  rw [dropService_b_objs]
  split
  · next ho => exact AL.keys_insert_of_some ho
  · rfl

theorem Same5.stat_numServices {s s' : St} (h : Same5 s s') (f : Nat → Nat) :
    Same5 (s.stat fun st => { st with numServices := f st.numServices }) (s'.stat fun st => { st with numServices := f st.numServices }) := by
  obtain ⟨z1, z2, z3, z4, z5, z6, z7, z8, z9⟩ := h
  exact ⟨z1, z2, z3, z4, z5, z6, z7, congrArg f z8, z9⟩

theorem removeService_G5o {dc d : Nat} {s s' : St} {c : Cookie} (h : G5o dc d s) (hr : removeService s c = .ok s') : G5o dc d s' := by
  rcases removeService_outcome hr with ⟨-, rfl⟩ | ⟨oid, svu, info, svc, s1, hu, hsv, hc, rfl⟩
  · exact h
  -- after `dropService` nothing the gauges look at changes but the gauge of services, which catches up at the end
  refine G5o_of_same5 (dropService_G5o h hu hsv) (Same5.stat_numServices (((removeService_calls_fp _ _ _ hc).frame Same5.frame).trans ?_) (· - 1))
  refine Fp.frame (W := [.conn .subs, .servicesDestroyed]) (Fp.foldl (fun u cid hu => ?_) _ _ (.refl s1)) Same5.frame
  split
  · exact (hu.setConn .subs ‹_›).step (by decide) (.servicesDestroyed _ _)
  · exact hu

theorem removeObject_G5o {dc : Nat} {s s' : St} {c : Cookie} (h : G5o dc 0 s) (hr : removeObject s c = .ok s') : G5o dc 0 s' := by
  rcases removeObject_outcome hr with ⟨-, rfl⟩ | ⟨u, obj, t, hu, ho, hs, rfl⟩
  · exact h
  obtain ⟨g1, g2, g3, g4, g5⟩ := h
  -- the object is out of both maps; its gauge follows when its services are gone
  have hA : G5o dc 1 (dropObject s c u obj.conn) :=
    ⟨MapL_of_keys (m := s.b.conns) (by simpa [dropObject] using g1) (by simp [dropObject]),
      by simpa [dropObject] using MapG_erase g2 hu, by simpa [dropObject] using MapL_erase g3 ho,
      by simpa [dropObject] using g4, by simpa [dropObject] using g5⟩
  obtain ⟨z1, z2, z3, z4, z5⟩ := foldE_inv (P := G5o dc 1) (fun _ _ _ hp hr => removeService_G5o hp hr) hA hs
  exact ⟨by simpa using z1, by simpa using z2, by simpa using z3, by simpa using z4, by simpa using z5⟩

theorem createServiceImpl_G5 {s : St} {id serial oc uuid info r} (h : G5 s) (hr : createServiceImpl s id serial oc uuid info = .ok r) :
    G5 r.1 := by
  rcases createServiceImpl_outcome hr with hf | ⟨conn, objUuid, obj, inf, -, -, hnew, hobj, -, hr⟩
  · exact hf.frame (G5o.frame 0 0) (by decide) h
  · -- a new entry under the next cookie and under the new name; the entry of the object gets a new value
    rw [hr]
    obtain ⟨g1, g2, g3, g4, g5⟩ := h
    exact ⟨by simpa [addService] using g1, by simpa [addService] using MapG_mono g2 (Nat.le_succ _),
      by simpa [addService] using MapL_insert_same g3 hobj, by simpa [addService] using MapG_insert_fresh g4 (Nat.lt_succ_self _),
      by simpa [addService] using MapL_insert_new g5 hnew⟩

theorem createService2_G5 {s : St} {id serial oc uuid info r} (h : G5 s) (hr : createService2 s id serial oc uuid info = .ok r) : G5 r.1 := by
  rcases createService2_outcome hr with hr | ⟨_, hr⟩
  · rw [hr]; exact h
  · exact createServiceImpl_G5 h hr

theorem shutdownConnection_G5 {s s' : St} {id b} (h : G5 s) (hr : shutdownConnection s id b = .ok s') : G5 s' := by
  rcases shutdownConnection_ok hr with ⟨-, rfl⟩ | ⟨⟨st⟩⟩
  · exact h
  · -- once the connection is out of the map its gauge is one ahead, until the very end
    have a0 : G5o 1 0 (st.told.setConns (AL.erase id st.told.b.conns)) := by
      obtain ⟨g1, g2, g3, g4, g5⟩ := (st.told_fp.frame (G5o.frame 0 0)) h
      exact ⟨MapL_erase g1 (st.told_conns ▸ st.entry : AL.find? id st.told.b.conns = some st.conn), g2, g3, g4, g5⟩
    have a1 := foldE_inv (P := G5o 1 0) (fun _ _ _ hp hr => removeObject_G5o hp hr)
      (foldl_inv (P := G5o 1 0) (fun u c hu => ((removeBusListener_fp u c).frame (G5o.frame 1 0)) hu) a0) st.objects
    have a5 := ((Fp.foldE (fun _ _ _ h => removeChannelEnd_fp h) _ _ _ st.senders).frame (G5o.frame 1 0))
      ((st.subs.frame (G5o.frame 1 0)) a1)
    have a6 := ((Fp.foldE (fun _ _ _ h => removeChannelEnd_fp h) _ _ _ st.receivers).frame (G5o.frame 1 0)) a5
    obtain ⟨z1, z2, z3, z4, z5⟩ := ((Fp.foldl (W := [.abortCalls]) (fun _ _ ht => ht.step (by decide) (.abortCalls _ _))
      st.conn.calls _ (.refl st.noReceivers)).frame (G5o.frame 1 0)) a6
    exact ((removeIntrospectionConn_fp st.rest).frame (G5o.frame 0 0)) ⟨by simpa [queueAborts] using z1, z2, z3, z4, z5⟩

theorem handleMessage_G5 {s : St} {id : ConnId} {m : Req} {r} (h : G5 s) (hr : handleMessage s id m = .ok r) : G5 r.1 := by
  cases m
  case createObject => exact createObject_G5 h hr
  case destroyObject => exact destroyObject_inv (G5o.frame 0 0) (fun _ _ _ => removeObject_G5o) h hr
  case createService => exact createServiceImpl_G5 (info := fun _ => some _) h hr
  case createService2 => exact createService2_G5 h hr
  case destroyService => exact destroyService_inv (G5o.frame 0 0) (fun _ _ _ => removeService_G5o) h hr
  all_goals exact ((handleMessage_fp hr).frame (G5o.frame 0 0)) h

theorem handleEvent_G5 {s s' : St} {e : Event} (h : G5 s) (hr : handleEvent s e = .ok s') : G5 s' := by
  cases e
  case newConn id v =>
    obtain ⟨hnew, rfl⟩ := handleEvent_newConn_ok hr
    obtain ⟨g1, g2, g3, g4, g5⟩ := h
    exact ⟨by simpa using MapL_insert_new (v := ({ version := v } : Conn)) g1 hnew, g2, g3, g4, g5⟩
  case msg id m =>
    obtain ⟨r, hm, hf⟩ := handleEvent_msg_ok hr
    exact (hf.frame (G5o.frame 0 0)) (handleMessage_G5 h hm)
  all_goals exact ((handleEvent_fp hr).frame (G5o.frame 0 0)) h

theorem processOne_G5 {s s' : St} (h : G5 s) (hr : processOne s = some (.ok s')) : G5 s' :=
  processOne_inv (G5o.frame 0 0) h hr fun _ _ _ => shutdownConnection_G5

theorem step_G5 {b b' : Broker} {w w' : Work} {e : Event} {out : List Out}
    (h : G5 ⟨b, w, []⟩) (hr : step b w e = .ok (b', w', out)) : G5 ⟨b', w', []⟩ :=
  (step_inv (fun _ h1 => handleEvent_G5 h h1) (fun _ _ hp h1 => processOne_G5 hp h1) hr : G5 ⟨b', w', out⟩)

theorem G5_init : G5 ⟨{}, {}, []⟩ := ⟨MapL_nil, MapG_nil _, MapL_nil, MapG_nil _, MapL_nil⟩

theorem run_G5 : ∀ (es : List Event) (b b' : Broker) (w w' : Work) (outs : List (List Out)),
    G5 ⟨b, w, []⟩ → run b w es = .ok (b', w', outs) → G5 ⟨b', w', []⟩ :=
  run_inv (P := fun b w => G5 ⟨b, w, []⟩) (fun _ _ _ _ _ _ h hr => step_G5 h hr)

end Aldrin.Broker
