/-
What the four bus-listener requests do to the listener table and what they put into the requester's queue, and that
nothing else touches another connection's listeners.
-/
import Aldrin.Lemmas.Broker.Alive
import Aldrin.Lemmas.Broker.Inv
import Aldrin.Lemmas.Broker.Replies

namespace Aldrin.Broker
open Aldrin.Client (SKind)

/-- the entries of the listener table that are not `id`'s were there before, unchanged -/
def LSub (id : ConnId) (s s' : St) : Prop :=
  ∀ ck l, AL.find? ck s'.b.listeners = some l → l.conn = id ∨ AL.find? ck s.b.listeners = some l

theorem LSub.trans {id : ConnId} {a b c : St} (h1 : LSub id a b) (h2 : LSub id b c) : LSub id a c := by
  intro ck l hl
  rcases h2 ck l hl with h | h
  · exact Or.inl h
  · exact h1 ck l h

/-- entries only vanish -/
def LShrink (s s' : St) : Prop := ∀ ck l, AL.find? ck s'.b.listeners = some l → AL.find? ck s.b.listeners = some l

theorem LShrink.refl (s : St) : LShrink s s := fun _ _ h => h
theorem LShrink.trans {a b c : St} (h1 : LShrink a b) (h2 : LShrink b c) : LShrink a c := fun ck l h => h1 ck l (h2 ck l h)
theorem LShrink.of_eq {s s' : St} (h : s'.b.listeners = s.b.listeners) : LShrink s s' := by
  intro ck l hl; rw [h] at hl; exact hl

theorem LStep.shrink {s s' : St} (h : LStep (fun _ => False) s s') : LShrink s s' :=
  fun ck l hl => (h.sub ck l hl).resolve_left id

theorem not_not_flag {b : Bool} (h : ¬(!b) = true) : b = true := by simpa using h
theorem not_flag {b : Bool} (h : (!b) = true) : b = false := by simpa using h

/-- `create_bus_listener`: not delivered and nothing registered, or a reply with a cookie never used before and a
listener of `id` without scope. -/
theorem createBusListener_spec {s s' : St} {id n} {ok : Bool} (h : createBusListener s id n = .ok (s', ok)) :
    (sf s'.out = sf s.out ∧ s'.b.listeners = s.b.listeners) ∨
    (sf s'.out = sf s.out ++ [⟨id, .createBusListenerReply n s.b.nextCookie, none⟩] ∧
      s'.b.listeners = AL.insert s.b.nextCookie { conn := id } s.b.listeners ∧ aliveB s id = true) := by
  ok_paths createBusListener s id n at h
  · exact .inl ⟨rfl, rfl⟩
  · have hb := not_flag ‹_›
    left; simp [St.send_out, St.send_snd, (St.send_snd ..).symm.trans hb]
  · have hb := not_not_flag ‹_›
    have ha : aliveB s id = true := by simpa using (St.send_snd ..).symm.trans hb
    right; simp +zetaDelta [St.send_out, St.send_snd, ha]

theorem destroyBusListener_spec {s s' : St} {id n ck} {ok : Bool} (h : destroyBusListener s id n ck = .ok (s', ok)) :
    (sf s'.out = sf s.out ∧ s'.b.listeners = s.b.listeners) ∨
    (sf s'.out = sf s.out ++ [⟨id, .destroyBusListenerReply n .invalid, none⟩] ∧ s'.b.listeners = s.b.listeners ∧ aliveB s id = true) ∨
    (sf s'.out = sf s.out ++ [⟨id, .destroyBusListenerReply n .ok, none⟩] ∧
      (∃ l, AL.find? ck s.b.listeners = some l ∧ l.conn = id) ∧ LShrink s s' ∧ AL.find? ck s'.b.listeners = none ∧ aliveB s id = true) := by
  have invalid : ∀ t : St, t = (s.send id (.destroyBusListenerReply n .invalid)).1 →
      (sf t.out = sf s.out ∧ t.b.listeners = s.b.listeners) ∨
      (sf t.out = sf s.out ++ [⟨id, .destroyBusListenerReply n .invalid, none⟩] ∧ t.b.listeners = s.b.listeners ∧ aliveB s id = true) := by
    rintro _ rfl
    cases h1 : aliveB s id
    · left; simp [St.send_out, St.send_snd, h1]
    · right; simp [St.send_out, St.send_snd, h1]
  ok_paths destroyBusListener s id n ck at h
  · exact .inl ⟨rfl, rfl⟩
  · exact (invalid _ rfl).imp_right .inl
  · have hb := not_flag ‹_›
    left; simp [St.send_out, St.send_snd, (St.send_snd ..).symm.trans hb]
  · have ha : aliveB s id = true := (St.send_snd ..).symm.trans (not_not_flag ‹_›)
    right; right
    refine ⟨by simp [removeBusListener, ‹AL.find? ck _ = _›, St.send_out, St.send_snd, ha], ⟨_, ‹_›, ‹_›⟩, ?_, ?_, ha⟩
    · exact LShrink.trans (LShrink.of_eq (by simp)) (removeBusListener_l _ _).shrink
    · simp [removeBusListener, ‹AL.find? ck _ = _›]
  · exact (invalid _ rfl).imp_right .inl

theorem stopBusListener_spec {s s' : St} {id n ck} {ok : Bool} (h : stopBusListener s id n ck = .ok (s', ok)) :
    (sf s'.out = sf s.out ∧ (s'.b.listeners = s.b.listeners ∨ aliveB s id = false)) ∨
    (∃ r, r ≠ ListenerRes.ok ∧ sf s'.out = sf s.out ++ [⟨id, .stopBusListenerReply n r, none⟩] ∧ s'.b.listeners = s.b.listeners ∧ aliveB s id = true) ∨
    (∃ l, AL.find? ck s.b.listeners = some l ∧ l.conn = id ∧ l.scope.isSome = true ∧
      s'.b.listeners = AL.insert ck { l with scope := none } s.b.listeners ∧
      sf s'.out = sf s.out ++ [⟨id, .stopBusListenerReply n .ok, none⟩] ∧ aliveB s id = true) := by
  have refuse : ∀ (r : ListenerRes) (t : St), r ≠ .ok → t = (s.send id (.stopBusListenerReply n r)).1 →
      (sf t.out = sf s.out ∧ (t.b.listeners = s.b.listeners ∨ aliveB s id = false)) ∨
      (∃ r, r ≠ ListenerRes.ok ∧ sf t.out = sf s.out ++ [⟨id, .stopBusListenerReply n r, none⟩] ∧ t.b.listeners = s.b.listeners ∧ aliveB s id = true) := by
    rintro r _ hr rfl
    cases h1 : aliveB s id
    · left; simp [St.send_out, St.send_snd, h1]
    · exact .inr ⟨r, hr, by simp [St.send_out, St.send_snd, h1], by simp, rfl⟩
  ok_paths stopBusListener s id n ck at h
  · exact .inl ⟨rfl, .inl rfl⟩
  · exact (refuse .invalid _ nofun rfl).imp_right .inl
  · exact (refuse .invalid _ nofun rfl).imp_right .inl
  · next l hl hc hsc _ =>
    cases h1 : aliveB s id
    · exact .inl ⟨by simp +zetaDelta [St.send_out, St.send_snd, h1], .inr rfl⟩
    · exact .inr (.inr ⟨l, hl, by simpa using hc, hsc, by simp +zetaDelta, by simp +zetaDelta [St.send_out, St.send_snd, h1], rfl⟩)
  · exact (refuse .notStarted _ nofun rfl).imp_right .inl

theorem sendAll_alive : ∀ (l : List Rsp) (s : St) (id : ConnId), aliveB s id = true →
    (sendAll s id l).1.out = s.out ++ l.map (fun m => ⟨id, m, none⟩) ∧ (sendAll s id l).1.b.listeners = s.b.listeners := by
  intro l
  induction l with
  | nil => intro s id _; simp [sendAll]
  | cons a l ih =>
    intro s id ha
    simp only [sendAll]
    have ha' : aliveB (s.send id a).1 id = true := by rw [aliveB_send]; exact ha
    obtain ⟨i1, i2⟩ := ih (s.send id a).1 id ha'
    simp [St.send_snd, ha, i1, i2, St.send_out]

/-- `start_bus_listener`: a refusal, or the listener gets its scope and the requester gets the reply followed, if the
scope includes what exists, by the tagged created-events and the marker, in this order and nothing else. -/
theorem startBusListener_spec {s s' : St} {id n ck sc} {ok : Bool} (h : startBusListener s id n ck sc = .ok (s', ok)) :
    (sf s'.out = sf s.out ∧ (s'.b.listeners = s.b.listeners ∨ aliveB s id = false)) ∨
    (∃ r, r ≠ ListenerRes.ok ∧ sf s'.out = sf s.out ++ [⟨id, .startBusListenerReply n r, none⟩] ∧ s'.b.listeners = s.b.listeners ∧ aliveB s id = true) ∨
    (∃ l, AL.find? ck s.b.listeners = some l ∧ l.conn = id ∧ l.scope = none ∧ aliveB s id = true ∧
      s'.b.listeners = AL.insert ck { l with scope := some sc } s.b.listeners ∧
      ∃ cur : List Rsp, (∀ m ∈ cur, ∃ e, m = .emitBusEvent (some ck) e) ∧
        sf s'.out = sf s.out ++ ⟨id, .startBusListenerReply n .ok, none⟩ ::
          (if sc = .new then [] else (cur ++ [Rsp.busListenerCurrentFinished ck]).map (fun m => (⟨id, m, none⟩ : Out)))) := by
  have refuse : ∀ (r : ListenerRes) (t : St), r ≠ .ok → t = (s.send id (.startBusListenerReply n r)).1 →
      (sf t.out = sf s.out ∧ (t.b.listeners = s.b.listeners ∨ aliveB s id = false)) ∨
      (∃ r, r ≠ ListenerRes.ok ∧ sf t.out = sf s.out ++ [⟨id, .startBusListenerReply n r, none⟩] ∧ t.b.listeners = s.b.listeners ∧ aliveB s id = true) := by
    rintro r _ hr rfl
    cases h1 : aliveB s id
    · left; simp [St.send_out, St.send_snd, h1]
    · exact .inr ⟨r, hr, by simp [St.send_out, St.send_snd, h1], by simp, rfl⟩
  ok_paths startBusListener s id n ck sc at h
  · exact .inl ⟨rfl, .inl rfl⟩
  · exact (refuse .invalid _ nofun rfl).imp_right .inl
  · exact (refuse .invalid _ nofun rfl).imp_right .inl
  · exact (refuse .alreadyStarted _ nofun rfl).imp_right .inl
  · -- the reply could not be sent
    have hb := not_flag ‹_›
    have ha : aliveB s id = false := by simpa +zetaDelta using (St.send_snd ..).symm.trans hb
    exact .inl ⟨by simp +zetaDelta [St.send_out, St.send_snd, ha], .inr ha⟩
  · -- scope `new`: the reply only
    next l hl hc hsc _ _ hnew _ _ =>
    have hb := not_not_flag ‹_›
    have ha : aliveB s id = true := by simpa +zetaDelta using (St.send_snd ..).symm.trans hb
    refine .inr (.inr ⟨l, hl, by simpa using hc, by simpa using hsc, ha, by simp +zetaDelta, [], by simp, ?_⟩)
    subst hnew; simp +zetaDelta [St.send_out, St.send_snd, ha]
  · -- the reply, the created-events, the marker
    next l hl hc hsc L S hnew so ss _ _ _ _ =>
    have hb := not_not_flag ‹_›
    have hal : aliveB S id = true := (St.send_snd ..).symm.trans hb
    generalize hS1 : (S.send id (.startBusListenerReply n .ok)).1 = S1 at *
    have ha : aliveB S1 id = true := by rw [← hS1, aliveB_send]; exact hal
    obtain ⟨i1, i2⟩ := sendAll_alive (currentObjMsgs S1.b L ck so ++ currentSvcMsgs S1.b L ck ss ++ [.busListenerCurrentFinished ck]) S1 id ha
    refine .inr (.inr ⟨l, hl, by simpa using hc, by simpa using hsc, by simpa +zetaDelta using hal, by rw [i2, ← hS1]; simp +zetaDelta,
      currentObjMsgs S1.b L ck so ++ currentSvcMsgs S1.b L ck ss, ?_, ?_⟩)
    · intro m hm
      rcases List.mem_append.mp hm with hm | hm
      · exact currentObjMsgs_ns _ _ _ _ m hm
      · exact currentSvcMsgs_ns _ _ _ _ m hm
    · have hall : ∀ x ∈ (currentObjMsgs S1.b L ck so ++ currentSvcMsgs S1.b L ck ss ++
          [Rsp.busListenerCurrentFinished ck]).map (fun m => (⟨id, m, none⟩ : Out)), x.strict = true := by
        intro x hx
        obtain ⟨m, hm, rfl⟩ := List.mem_map.mp hx
        rcases currentMsgs_tagged hm with ⟨e, rfl⟩ | rfl <;> rfl
      rw [i1, sf_append, sf_of_all hall, ← hS1, St.send_out, hal, if_pos rfl]
      simp +zetaDelta [hnew]

theorem LSub.insert {id : ConnId} {s s' : St} {ck : Cookie} {l : Listener} (h : s'.b.listeners = AL.insert ck l s.b.listeners)
    (hc : l.conn = id) : LSub id s s' := by
  intro ck' l' hl
  rw [h, AL.find?_insert] at hl
  split at hl
  · simp only [Option.some.injEq] at hl; subst hl; exact Or.inl hc
  · exact Or.inr hl

@[simp] theorem Listener.addFilter_conn (l : Listener) (f : Filter) : (l.addFilter f).conn = l.conn := rfl
@[simp] theorem Listener.removeFilter_conn (l : Listener) (f : Filter) : (l.removeFilter f).conn = l.conn := rfl
@[simp] theorem Listener.clearFilters_conn (l : Listener) : l.clearFilters.conn = l.conn := rfl
@[simp] theorem Listener.addFilter_scope (l : Listener) (f : Filter) : (l.addFilter f).scope = l.scope := rfl
@[simp] theorem Listener.removeFilter_scope (l : Listener) (f : Filter) : (l.removeFilter f).scope = l.scope := rfl
@[simp] theorem Listener.clearFilters_scope (l : Listener) : l.clearFilters.scope = l.scope := rfl

/-- the requests that read or change the listener table -/
def Req.isListenerReq : Req → Bool
  | .createBusListener .. | .destroyBusListener .. | .startBusListener .. | .stopBusListener ..
  | .addFilter .. | .removeFilter .. | .clearFilters .. => true
  | _ => false

theorem handleMessage_listeners_eq {s s' : St} {id : ConnId} {m : Req} {ok : Bool} (hm : m.isListenerReq = false)
    (hr : handleMessage s id m = .ok (s', ok)) : s'.b.listeners = s.b.listeners := by
  cases m <;> first | exact Bool.noConfusion hm | exact (handleMessage_fp hr).frame listeners_frame

theorem handleMessage_lsub {s s' : St} {id : ConnId} {m : Req} {ok : Bool}
    (hr : handleMessage s id m = .ok (s', ok)) : LSub id s s' := (handleMessage_cl hr).2.sub

theorem processLoop_shrink (fuel : Nat) (s s' : St) : processLoop fuel s = .ok s' → LShrink s s' :=
  processLoop_inv (P := LShrink s) (fun _ _ hp h => hp.trans (processOne_cl h).2.shrink) fuel s s' (.refl s)

end Aldrin.Broker
