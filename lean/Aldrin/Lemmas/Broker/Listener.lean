/-
Bus listener component (`broker/src/bus_listener.rs`): the cached flags equal their recomputation
from the filter set for every history of add / remove / clear, so the two enumeration strategies of
`start_bus_listener` are selected consistently and their `unreachable!()` arms are dead.
-/
import Aldrin.Lemmas.Broker.AL
import Aldrin.Model.Broker.Parts

namespace Aldrin.Broker

/-- the cached flags are what a recomputation from the filters gives; the filters form a set -/
def Listener.OK (l : Listener) : Prop :=
  l.allObjects = l.filters.any Filter.isAnyObject ∧
  l.specificServices = l.filters.all Filter.isSpecificService ∧
  l.filters.Nodup

theorem any_sinsert {α : Type} [DecidableEq α] (p : α → Bool) (a : α) (s : List α) :
    (sinsert a s).any p = (s.any p || p a) := by
  unfold sinsert
  split
  · rename_i h
    simp only [List.contains_iff_mem] at h
    cases hp : p a
    · simp
    · simp only [Bool.or_true, List.any_eq_true]; exact ⟨a, h, hp⟩
  · simp [List.any_append]

theorem all_sinsert {α : Type} [DecidableEq α] (p : α → Bool) (a : α) (s : List α) :
    (sinsert a s).all p = (s.all p && p a) := by
  unfold sinsert
  split
  · rename_i h
    simp only [List.contains_iff_mem] at h
    cases hp : p a
    · simp only [Bool.and_false, List.all_eq_false]; exact ⟨a, h, by simp [hp]⟩
    · simp
  · simp [List.all_append]

theorem Listener.new_ok (c : ConnId) : ({ conn := c } : Listener).OK := by simp [Listener.OK]

theorem Listener.addFilter_ok {l : Listener} (f : Filter) (h : l.OK) : (l.addFilter f).OK := by
  obtain ⟨h1, h2, h3⟩ := h
  refine ⟨?_, ?_, nodup_sinsert _ _ h3⟩
  · simp [Listener.addFilter, any_sinsert, h1]
  · simp [Listener.addFilter, all_sinsert, h2]

theorem Listener.removeFilter_ok {l : Listener} (f : Filter) (h : l.OK) : (l.removeFilter f).OK := by
  exact ⟨rfl, rfl, nodup_sremove _ _ h.2.2⟩

theorem Listener.clearFilters_ok (l : Listener) : (l.clearFilters).OK := by simp [Listener.OK, Listener.clearFilters]

theorem Listener.setScope_ok {l : Listener} (sc : Option Scope) (h : l.OK) : ({ l with scope := sc } : Listener).OK := h

inductive FOp where
  | add (f : Filter) | remove (f : Filter) | clear
  deriving Repr

def Listener.applyF (l : Listener) : FOp → Listener
  | .add f => l.addFilter f
  | .remove f => l.removeFilter f
  | .clear => l.clearFilters

/-- history form: whatever sequence of filter operations is applied to a new listener, the flags are right -/
theorem Listener.history_ok (c : ConnId) (ops : List FOp) : (ops.foldl Listener.applyF { conn := c }).OK := by
  suffices ∀ l : Listener, l.OK → (ops.foldl Listener.applyF l).OK from this _ (Listener.new_ok c)
  induction ops with
  | nil => intro l h; exact h
  | cons op ops ih =>
    intro l h
    apply ih
    cases op
    · exact Listener.addFilter_ok _ h
    · exact Listener.removeFilter_ok _ h
    · exact Listener.clearFilters_ok _

theorem Filter.objectUuid?_some {f : Filter} {u : Uuid} (h : f.objectUuid? = some u) : f = .object (some u) := by
  cases f with
  | object o => cases o <;> cases h; rfl
  | service a b => cases h

theorem Filter.servicePair?_some {f : Filter} {o s : Uuid} (h : f.servicePair? = some (o, s)) : f = .service (some o) (some s) := by
  cases f with
  | object o => cases h
  | service a b => cases a <;> cases b <;> cases h; rfl

/-- the flag-guarded `unreachable!()` arms are dead and the enumeration strategy is chosen by the
filter set alone -/
theorem Listener.specificObjects_ok {l : Listener} (h : l.OK) :
    l.specificObjects = .ok (if l.filters.any Filter.isAnyObject then none
      else some (l.filters.filterMap Filter.objectUuid?)) := by
  unfold Listener.specificObjects
  rw [h.1]
  split <;> simp_all

theorem Listener.specificServices?_ok {l : Listener} (h : l.OK) :
    l.specificServices? = .ok (if l.filters.all Filter.isSpecificService
      then some (l.filters.filterMap Filter.servicePair?)
      else none) := by
  unfold Listener.specificServices?
  rw [h.2.1]
  by_cases hall : l.filters.all Filter.isSpecificService = true
  · have : l.filters.any Filter.isUnspecificService = false := by
      rw [List.any_eq_false]
      intro f hf
      have := List.all_eq_true.mp hall f hf
      cases f with
      | object o => exact nofun
      | service o s => cases o <;> cases s <;> first | exact Bool.false_ne_true | cases this
    simp only [hall, this, Bool.not_true, Bool.false_eq_true, ↓reduceIte]
  · simp [hall]

/-- `matches_object` is the plain filter semantics -/
theorem Listener.matchesObject_spec {l : Listener} (h : l.OK) (o : ObjId) :
    l.matchesObject o = l.filters.any (·.matchesObject o) := by
  unfold Listener.matchesObject
  rw [h.1]
  cases hany : l.filters.any Filter.isAnyObject
  · simp
  · simp only [Bool.true_or]
    symm
    rw [List.any_eq_true] at hany ⊢
    obtain ⟨f, hf, hp⟩ := hany
    refine ⟨f, hf, ?_⟩
    cases f with
    | object u => cases u <;> simp_all [Filter.isAnyObject, Filter.matchesObject]
    | service a b => simp [Filter.isAnyObject] at hp

/-- specific path for objects: when no any-object filter is present, an object matches iff its uuid is
listed, and the list has no duplicates (one event per object) -/
theorem Listener.specificObjects_complete {l : Listener} (h : l.OK) (hno : l.filters.any Filter.isAnyObject = false) (o : ObjId) :
    l.matchesObject o = true ↔
      o.uuid ∈ l.filters.filterMap Filter.objectUuid? := by
  rw [Listener.matchesObject_spec h, List.any_eq_true]
  simp only [List.mem_filterMap]
  constructor
  · rintro ⟨f, hf, hm⟩
    refine ⟨f, hf, ?_⟩
    cases f with
    | object u =>
      cases u with
      | none =>
        have := List.any_eq_false.mp hno _ hf
        simp [Filter.isAnyObject] at this
      | some u => simp_all [Filter.matchesObject, Filter.objectUuid?]
    | service a b => simp [Filter.matchesObject] at hm
  · rintro ⟨f, hf, hm⟩
    refine ⟨f, hf, ?_⟩
    cases f with
    | object u => cases u <;> simp_all [Filter.matchesObject, Filter.objectUuid?]
    | service a b => simp [Filter.objectUuid?] at hm

theorem Listener.specificServices_complete {l : Listener} (hall : l.filters.all Filter.isSpecificService = true) (s : SvcId) :
    l.matchesService s = true ↔
      (s.obj.uuid, s.uuid) ∈ l.filters.filterMap Filter.servicePair? := by
  unfold Listener.matchesService
  rw [List.any_eq_true]
  simp only [List.mem_filterMap]
  constructor
  · rintro ⟨f, hf, hm⟩
    refine ⟨f, hf, ?_⟩
    have := List.all_eq_true.mp hall f hf
    cases f with
    | object u => cases this
    | service a b =>
      cases a <;> cases b <;> first | cases this | skip
      simp only [Filter.matchesService, Bool.and_eq_true, decide_eq_true_eq] at hm
      rw [Filter.servicePair?, hm.1, hm.2]
  · rintro ⟨f, hf, hm⟩
    refine ⟨f, hf, ?_⟩
    rw [Filter.servicePair?_some hm]
    simp only [Filter.matchesService, decide_true, Bool.and_self]

theorem nodup_filterMap_inj {α β : Type} (f : α → Option β) (l : List α) (hl : l.Nodup)
    (hinj : ∀ a ∈ l, ∀ b ∈ l, ∀ x, f a = some x → f b = some x → a = b) : (l.filterMap f).Nodup := by
  induction l with
  | nil => simp
  | cons a l ih =>
    simp only [List.nodup_cons] at hl
    simp only [List.filterMap_cons]
    have ih' := ih hl.2 (fun a ha b hb x => hinj a (List.mem_cons_of_mem _ ha) b (List.mem_cons_of_mem _ hb) x)
    split
    · exact ih'
    · rename_i x hx
      simp only [List.nodup_cons]
      refine ⟨?_, ih'⟩
      intro hm
      obtain ⟨b, hb, hbx⟩ := List.mem_filterMap.mp hm
      have := hinj a (List.mem_cons_self) b (List.mem_cons_of_mem _ hb) x hx hbx
      subst this
      exact hl.1 hb

/-- the specific lists have no duplicates: one tagged event per listed entity -/
theorem Listener.specificObjects_nodup {l : Listener} (h : l.OK) :
    (l.filters.filterMap Filter.objectUuid?).Nodup := by
  apply nodup_filterMap_inj _ _ h.2.2
  intro a _ b _ x ha hb
  rw [Filter.objectUuid?_some ha, Filter.objectUuid?_some hb]

theorem Listener.specificServices_nodup {l : Listener} (h : l.OK) :
    (l.filters.filterMap Filter.servicePair?).Nodup := by
  apply nodup_filterMap_inj _ _ h.2.2
  intro a _ b _ x ha hb
  rw [Filter.servicePair?_some ha, Filter.servicePair?_some hb]

end Aldrin.Broker
