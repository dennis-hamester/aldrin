/-
Channel component (`broker/src/broker/channel.rs`): the end state machine and credit accounting, method by method.
For each method: what it returns on a channel within the invariant (`Chan.OK`; none of its `debug_assert!` /
`unreachable!` sites is reached), and what a result that is there says about the channel it came from (`_shape`, no
invariant needed); `okAnd` is "does not panic, and the result satisfies"; `Chan.claim` is the two claim methods as one.
The arithmetic of the two credits is done once, in `sendItem_credit` / `addCapacity_credit`. At the end a channel
established between two connections over every history of sends and grants (`COp`, `crun`), with ghost counters of what
was granted, announced and forwarded (`Ghost`): the accounting `Acct` holds throughout (`crun_acct`).
-/
import Aldrin.Model.Broker.Parts

namespace Aldrin.Broker
open Generated

def EndState.isClaimed : EndState → Bool
  | .claimed _ _ => true
  | _ => false

def endOwner : EndState → Option ConnId
  | .claimed o _ => some o
  | _ => none

theorem endOwner_eq_some {st : EndState} {o : ConnId} (h : endOwner st = some o) : ∃ cap, st = .claimed o cap := by
  cases st <;> cases h; exact ⟨_, rfl⟩

def ChanEnd.other : ChanEnd → ChanEnd
  | .sender => .receiver
  | .receiver => .sender

/-- two end states of the same kind (unclaimed, claimed, closed) and owner -/
def EndState.like : EndState → EndState → Prop
  | .claimed x _, .claimed y _ => x = y
  | a, b => a = b

theorem EndState.like.owner {a b : EndState} (h : a.like b) : endOwner b = endOwner a := by
  cases a <;> cases b <;> simp_all [EndState.like, endOwner]

/-- A channel kept in the broker's map has at least one claimed end. -/
def Chan.WF (c : Chan) : Prop := c.sender.isClaimed = true ∨ c.receiver.isClaimed = true

/-- Credit relation: the credit announced to the sender never exceeds what the receiver granted, and
at or below the low-water mark the two are equal. A claimed sender whose receiver is not claimed yet
has no credit. -/
def Chan.J (c : Chan) : Prop :=
  match c.sender, c.receiver with
  | .claimed _ sc, .claimed _ rc => sc ≤ rc ∧ (sc ≤ lowCapacity → sc = rc)
  | .claimed _ sc, .unclaimed => sc = 0
  | _, _ => True

def Chan.OK (c : Chan) : Prop := c.WF ∧ c.J

theorem lowCapacity_eq : lowCapacity = 4 := rfl

/-- `x` does not panic and its result satisfies `P` -/
def okAnd {α : Type} (x : Except Panic α) (P : α → Prop) : Prop :=
  match x with
  | .ok a => P a
  | .error _ => False

@[simp] theorem okAnd_ok {α : Type} (a : α) (P : α → Prop) : okAnd (.ok a) P ↔ P a := Iff.rfl
@[simp] theorem okAnd_error {α : Type} (e : Panic) (P : α → Prop) : okAnd (.error e : Except Panic α) P ↔ False := Iff.rfl

theorem okAnd_iff {α : Type} {x : Except Panic α} {P : α → Prop} : okAnd x P ↔ ∃ a, x = .ok a ∧ P a := by
  cases x <;> simp

theorem okAnd.ok {α : Type} {x : Except Panic α} {P : α → Prop} (h : okAnd x P) : ∃ a, x = .ok a :=
  (okAnd_iff.mp h).imp fun _ => And.left

theorem okAnd_ne_error {α : Type} {x : Except Panic α} {P : α → Prop} (h : okAnd x P) (p : Panic) : x ≠ .error p := by
  obtain ⟨a, ha, _⟩ := okAnd_iff.mp h
  rw [ha]; simp

theorem okAnd_mono {α : Type} {x : Except Panic α} {P Q : α → Prop} (h : okAnd x P) (hpq : ∀ a, P a → Q a) : okAnd x Q := by
  cases x <;> simp_all

theorem okAnd.of_eq {α : Type} {x : Except Panic α} {P : α → Prop} {a : α} (h : okAnd x P) (hx : x = .ok a) : P a := by
  subst hx; exact h

theorem ite_eq_cases {α : Type} {c : Prop} [Decidable c] {a b x : α} (h : (if c then a else b) = x) :
    (c ∧ a = x) ∨ (¬c ∧ b = x) := by
  split at h
  · exact .inl ⟨‹_›, h⟩
  · exact .inr ⟨‹_›, h⟩

/-- `Chan.J` of a channel with both ends claimed: the sender's credit never exceeds the receiver's, and once it is
low the broker has announced the difference, so the two are equal. -/
def Credit (sc rc : Nat) : Prop := sc ≤ rc ∧ (sc ≤ lowCapacity → sc = rc)

theorem Chan.OK.established {s r : ConnId} {sc rc : Nat} (h : Credit sc rc) : (⟨.claimed s sc, .claimed r rc⟩ : Chan).OK :=
  ⟨.inl rfl, h⟩

theorem Chan.OK.credit {s r : ConnId} {sc rc : Nat} (h : (⟨.claimed s sc, .claimed r rc⟩ : Chan).OK) : Credit sc rc := h.2

theorem Chan.OK.both (s r : ConnId) (cap : Nat) : (⟨.claimed s cap, .claimed r cap⟩ : Chan).OK :=
  .established ⟨Nat.le_refl _, fun _ => rfl⟩

theorem Chan.WF.elim {P : Prop} {a b : EndState} (h : (⟨a, b⟩ : Chan).WF) (ha : a.isClaimed = false) (hb : b.isClaimed = false) : P := by
  rcases h with h | h
  · rw [ha] at h; cases h
  · rw [hb] at h; cases h

theorem withClaimedSender_ok (o : ConnId) : (Chan.withClaimedSender o).OK := ⟨.inl rfl, rfl⟩

theorem withClaimedReceiver_ok (o : ConnId) (cap : Nat) : (Chan.withClaimedReceiver o cap).OK := ⟨.inr rfl, trivial⟩

/-- claiming the sender succeeds exactly when that end is unclaimed; it takes over the receiver's credit -/
theorem claimSender_result (c : Chan) (conn : ConnId) (h : c.WF) :
    (c.sender = .unclaimed → ∃ o cap, c.receiver = .claimed o cap ∧
        c.claimSender conn = .ok (.ok ({ c with sender := .claimed conn cap }, o, cap))) ∧
    ((∃ o k, c.sender = .claimed o k) → c.claimSender conn = .ok (.error .alreadyClaimed)) ∧
    (c.sender = .closed → c.claimSender conn = .ok (.error .invalidChannel)) := by
  obtain ⟨snd, rcv⟩ := c
  cases snd with
  | claimed _ _ => exact ⟨nofun, fun _ => rfl, nofun⟩
  | closed => exact ⟨nofun, nofun, fun _ => rfl⟩
  | unclaimed =>
    cases rcv with
    | claimed r cap => exact ⟨fun _ => ⟨r, cap, rfl, rfl⟩, nofun, nofun⟩
    | unclaimed => exact h.elim rfl rfl
    | closed => exact h.elim rfl rfl

theorem claimReceiver_result (c : Chan) (conn : ConnId) (cap : Nat) (h : c.WF) :
    (c.receiver = .unclaimed → ∃ o k, c.sender = .claimed o k ∧
        c.claimReceiver conn cap = .ok (.ok (⟨.claimed o cap, .claimed conn cap⟩, o))) ∧
    ((∃ o k, c.receiver = .claimed o k) → c.claimReceiver conn cap = .ok (.error .alreadyClaimed)) ∧
    (c.receiver = .closed → c.claimReceiver conn cap = .ok (.error .invalidChannel)) := by
  obtain ⟨snd, rcv⟩ := c
  cases rcv with
  | claimed _ _ => exact ⟨nofun, fun _ => rfl, nofun⟩
  | closed => exact ⟨nofun, nofun, fun _ => rfl⟩
  | unclaimed =>
    cases snd with
    | claimed s k => exact ⟨fun _ => ⟨s, k, rfl, rfl⟩, nofun, nofun⟩
    | unclaimed => exact h.elim rfl rfl
    | closed => exact h.elim rfl rfl

theorem claimSender_ok {c : Chan} {conn : ConnId} (h : c.OK) :
    okAnd (c.claimSender conn) (fun r => ∀ c' o cap, r = .ok (c', o, cap) → c'.OK) := by
  obtain ⟨h1, h2, h3⟩ := claimSender_result c conn h.1
  cases hs : c.sender with
  | unclaimed =>
    obtain ⟨o, cap, hr, he⟩ := h1 hs
    rw [he]
    intro c' o' k e; cases e
    obtain ⟨snd, rcv⟩ := c
    cases hr; exact .both ..
  | claimed o k => rw [h2 ⟨o, k, hs⟩]; exact fun _ _ _ e => nomatch e
  | closed => rw [h3 hs]; exact fun _ _ _ e => nomatch e

theorem claimReceiver_ok {c : Chan} {conn : ConnId} {cap : Nat} (h : c.OK) :
    okAnd (c.claimReceiver conn cap) (fun r => ∀ c' o, r = .ok (c', o) → c'.OK) := by
  obtain ⟨h1, h2, h3⟩ := claimReceiver_result c conn cap h.1
  cases hs : c.receiver with
  | unclaimed =>
    obtain ⟨o, k, -, he⟩ := h1 hs
    rw [he]
    intro c' o' e; cases e; exact .both ..
  | claimed o k => rw [h2 ⟨o, k, hs⟩]; exact fun _ _ e => nomatch e
  | closed => rw [h3 hs]; exact fun _ _ e => nomatch e

theorem Chan.claimSender_shape {c c' : Chan} {conn other : ConnId} {cap : Nat} (h : c.claimSender conn = .ok (.ok (c', other, cap))) :
    c.sender = .unclaimed ∧ c.receiver = .claimed other cap ∧ c' = { c with sender := .claimed conn cap } := by
  unfold Chan.claimSender at h
  split at h
  · cases h
  · cases h
  · split at h
    · cases h; exact ⟨‹_›, ‹_›, rfl⟩
    · cases h

theorem Chan.claimReceiver_shape {c c' : Chan} {conn other : ConnId} {cap : Nat} (h : c.claimReceiver conn cap = .ok (.ok (c', other))) :
    c.receiver = .unclaimed ∧ ∃ k, c.sender = .claimed other k ∧ c' = ⟨.claimed other cap, .claimed conn cap⟩ := by
  unfold Chan.claimReceiver at h
  split at h
  · cases h
  · cases h
  · split at h
    · cases h; exact ⟨‹_›, _, ‹_›, rfl⟩
    · cases h

/-- `Channel::claim_sender` / `claim_receiver` as one: the channel with the end claimed, the owner of the other end, the
answer -/
def Chan.claim (ch : Chan) (e : ChanEnd) (id : ConnId) (cap : Nat) : Except Panic (Except ClaimRes (Chan × ConnId × ClaimRes)) :=
  match e with
  | .sender => match ch.claimSender id with
    | .error p => .error p
    | .ok (.error r) => .ok (.error r)
    | .ok (.ok (ch', other, c)) => .ok (.ok (ch', other, .senderClaimed c))
  | .receiver => match ch.claimReceiver id cap with
    | .error p => .error p
    | .ok (.error r) => .ok (.error r)
    | .ok (.ok (ch', other)) => .ok (.ok (ch', other, .receiverClaimed))

/-- a claim that succeeds: the end was unclaimed and the other end claimed by `other`; afterwards both are claimed, with the
same credit, and the answer is of the kind of the end -/
theorem Chan.claim_shape {ch ch' : Chan} {e : ChanEnd} {id other : ConnId} {cap : Nat} {r : ClaimRes}
    (h : ch.claim e id cap = .ok (.ok (ch', other, r))) :
    ch.endState e = .unclaimed ∧ (∃ co, ch.endState e.other = .claimed other co) ∧
    (∃ c, ch'.endState e = .claimed id c ∧ ch'.endState e.other = .claimed other c) ∧
    ((e = .sender ∧ ∃ c, r = .senderClaimed c) ∨ (e = .receiver ∧ r = .receiverClaimed)) := by
  unfold Chan.claim at h
  cases e <;> dsimp only at h <;> split at h <;> cases h
  · obtain ⟨h1, h2, rfl⟩ := Chan.claimSender_shape ‹_›
    exact ⟨h1, ⟨_, h2⟩, ⟨_, rfl, h2⟩, .inl ⟨rfl, _, rfl⟩⟩
  · obtain ⟨h1, k, h2, rfl⟩ := Chan.claimReceiver_shape ‹_›
    exact ⟨h1, ⟨k, h2⟩, ⟨cap, rfl, rfl⟩, .inr ⟨rfl, rfl⟩⟩

theorem Chan.claim_owner {ch ch' : Chan} {e : ChanEnd} {id other : ConnId} {cap : Nat} {r : ClaimRes}
    (h : ch.claim e id cap = .ok (.ok (ch', other, r))) :
    endOwner (ch.endState e) = none ∧ endOwner (ch'.endState e) = some id ∧
      endOwner (ch'.endState e.other) = some other ∧ endOwner (ch.endState e.other) = some other := by
  obtain ⟨h0, ⟨co, h1⟩, ⟨c, h2, h3⟩, -⟩ := Chan.claim_shape h
  rw [h0, h1, h2, h3]; exact ⟨rfl, rfl, rfl, rfl⟩

theorem Chan.claim_preserves {ch ch' : Chan} {e : ChanEnd} {id other : ConnId} {cap : Nat} {r : ClaimRes}
    (h : ch.claim e id cap = .ok (.ok (ch', other, r))) : ch'.OK := by
  obtain ⟨-, -, ⟨c, h1, h2⟩, -⟩ := Chan.claim_shape h
  obtain ⟨snd, rcv⟩ := ch'
  cases e <;> cases (h1 : _ = EndState.claimed id c) <;> cases (h2 : _ = EndState.claimed other c) <;> exact .both ..

theorem Chan.claim_error {ch : Chan} {e : ChanEnd} {id : ConnId} {cap : Nat} {p : Panic} (h : ch.claim e id cap = .error p) :
    ch.claimSender id = .error p ∨ ch.claimReceiver id cap = .error p := by
  unfold Chan.claim at h
  cases e <;> dsimp only at h <;> split at h <;> cases h
  · exact .inl ‹_›
  · exact .inr ‹_›

theorem Chan.claim_refused {ch : Chan} {e : ChanEnd} {id : ConnId} {cap : Nat} {r : ClaimRes} (h : ch.claim e id cap = .ok (.error r)) :
    r = .alreadyClaimed ∨ r = .invalidChannel := by
  obtain ⟨snd, rcv⟩ := ch
  cases e <;> cases snd <;> cases rcv <;> cases h <;> first | exact .inl rfl | exact .inr rfl

theorem checkClose_spec (c : Chan) (conn : ConnId) (e : ChanEnd) :
    ((c.checkClose conn e).1 = .ok ↔ (c.endState e = .unclaimed ∨ ∃ k, c.endState e = .claimed conn k)) ∧
    ((c.checkClose conn e).1 = .foreignChannel ↔ ∃ o k, c.endState e = .claimed o k ∧ o ≠ conn) ∧
    ((c.checkClose conn e).1 = .invalidChannel ↔ c.endState e = .closed) ∧
    ((c.checkClose conn e).2 = true ↔ (c.endState e).isClaimed = true) := by
  unfold Chan.checkClose
  cases h : c.endState e <;> simp [EndState.isClaimed]
  split <;> simp_all

theorem checkClose_pre {c : Chan} {conn : ConnId} {e : ChanEnd} {claimed : Bool} (h : c.checkClose conn e = (.ok, claimed)) :
    ∀ o', endOwner (c.endState e) = some o' → (if claimed then some conn else none) = some o' := by
  obtain ⟨h1, -, -, h4⟩ := checkClose_spec c conn e
  rw [h] at h1 h4
  intro o' ho
  cases hs : c.endState e with
  | claimed o k =>
    rw [hs] at ho h1 h4
    obtain ⟨k', hk⟩ := (h1.1 rfl).resolve_left nofun
    cases hk; cases ho
    have hc : claimed = true := h4.2 rfl
    rw [hc]; rfl
  | _ => rw [hs] at ho; cases ho

/-- closing an end that is not closed yet never hits one of the `unreachable!()` arms; the channel
survives (an owner to notify is returned) exactly when the other end is claimed, and it is then
well-formed again -/
theorem close_ok {c : Chan} {e : ChanEnd} (h : c.OK) (he : c.endState e ≠ .closed) :
    okAnd (c.close e) (fun r => r.1.endState e = .closed ∧ r.1.endState e.other = c.endState e.other ∧
      (∀ o, r.2 = some o → r.1.OK ∧ ∃ k, c.endState e.other = .claimed o k) ∧
      (r.2 = none ↔ (c.endState e.other).isClaimed = false)) := by
  obtain ⟨snd, rcv⟩ := c
  -- on given end states `close` computes: the end is closed already, or no end is claimed, or the result is there to be read off
  cases e <;> cases snd <;> cases rcv
  all_goals first
    | exact absurd rfl he
    | exact h.1.elim rfl rfl
    | (refine ⟨rfl, rfl, ?_, ?_⟩ <;> simp [EndState.isClaimed, Chan.OK, Chan.WF, Chan.J, Chan.endState, ChanEnd.other])

/-- `Channel::close` that ends well: the end was not closed and is now; the other end is as it was, and its owner is to
be told -/
theorem Chan.close_shape {ch ch' : Chan} {e : ChanEnd} {other : Option ConnId} (h : ch.close e = .ok (ch', other)) :
    ch.endState e ≠ .closed ∧ ch'.endState e = .closed ∧ ch'.endState e.other = ch.endState e.other ∧
      other = endOwner (ch.endState e.other) := by
  obtain ⟨snd, rcv⟩ := ch
  unfold Chan.close at h
  cases e <;> cases snd <;> cases rcv <;> cases h <;> exact ⟨nofun, rfl, rfl, rfl⟩

/-- an owner to tell comes only with a channel that is within the invariant again: the end that stays is claimed -/
theorem close_preserves {c c' : Chan} {e : ChanEnd} {o : ConnId} (h : c.OK) (hc : c.close e = .ok (c', some o)) : c'.OK := by
  obtain ⟨-, -, hown, -⟩ := (close_ok h (Chan.close_shape hc).1).of_eq hc
  exact (hown o rfl).1

/-- `send_item` by the sender of an established channel within the credit relation: neither assertion fails -/
theorem sendItem_established {s r : ConnId} {sc rc : Nat} (h : Credit sc rc) :
    (⟨.claimed s sc, .claimed r rc⟩ : Chan).sendItem s =
      if sc = 0 then .ok (.error .capacityExhausted)
      else if sc - 1 ≤ lowCapacity ∧ rc - 1 > sc - 1 then
        .ok (.ok (⟨.claimed s (rc - 1), .claimed r (rc - 1)⟩, r, some (rc - 1 - (sc - 1))))
      else .ok (.ok (⟨.claimed s (sc - 1), .claimed r (rc - 1)⟩, r, none)) := by
  simp only [Chan.sendItem, ne_eq, not_true_eq_false, ↓reduceIte]
  obtain ⟨hle, hlow⟩ := h
  by_cases hz : sc = 0
  · have : rc = 0 := by omega
    simp only [hz, this, ↓reduceIte, not_true_eq_false]
  · have : rc ≠ 0 := by omega
    simp only [hz, this, ↓reduceIte]

theorem sendItem_credit {s r : ConnId} {sc rc : Nat} (h : Credit sc rc) (h0 : sc ≠ 0) :
    ∃ sc' add, Chan.sendItem ⟨.claimed s sc, .claimed r rc⟩ s =
        .ok (.ok (⟨.claimed s sc', .claimed r (rc - 1)⟩, r, add)) ∧
      sc' = sc - 1 + add.getD 0 ∧ Credit sc' (rc - 1) := by
  rw [sendItem_established h, if_neg h0]
  have := h.1
  split
  · exact ⟨_, _, rfl, by simp only [Option.getD]; omega, Nat.le_refl _, fun _ => rfl⟩
  · exact ⟨_, _, rfl, rfl, by omega, by omega⟩

theorem sendItem_ok {c : Chan} {conn : ConnId} (h : c.OK) :
    okAnd (c.sendItem conn) (fun r => ∀ c' o add, r = .ok (c', o, add) → c'.OK) := by
  obtain ⟨snd, rcv⟩ := c
  cases snd with
  | unclaimed => exact fun _ _ _ e => nomatch e
  | closed => exact fun _ _ _ e => nomatch e
  | claimed s sc =>
    by_cases hc : s = conn
    · subst hc
      cases rcv with
      | unclaimed => simp only [Chan.sendItem, ne_eq, not_true_eq_false, ↓reduceIte]; exact fun _ _ _ e => nomatch e
      | closed => simp only [Chan.sendItem, ne_eq, not_true_eq_false, ↓reduceIte]; exact fun _ _ _ e => nomatch e
      | claimed r rc =>
        have hj := h.credit
        by_cases h0 : sc = 0
        · rw [sendItem_established hj, if_pos h0]; exact fun _ _ _ e => nomatch e
        · obtain ⟨sc', add, he, -, hj'⟩ := sendItem_credit (s := s) (r := r) hj h0
          rw [he]; intro c' o add' e; cases e; exact .established hj'
    · simp only [Chan.sendItem, ne_eq, hc, not_false_eq_true, ↓reduceIte]
      exact fun _ _ _ e => nomatch e

theorem sendItem_preserves {c c' : Chan} {conn o : ConnId} {add : Option Nat} (h : c.OK)
    (hs : c.sendItem conn = .ok (.ok (c', o, add))) : c'.OK :=
  (sendItem_ok h).of_eq hs c' o add rfl

theorem sendItem_within_credit {c : Chan} {s r : ConnId} {sc rc : Nat} (h : c.OK)
    (hs : c.sender = .claimed s sc) (hr : c.receiver = .claimed r rc) (hpos : 0 < sc) :
    ∃ c' add, c.sendItem s = .ok (.ok (c', r, add)) := by
  obtain ⟨snd, rcv⟩ := c
  cases hs; cases hr
  obtain ⟨_, add, he, -⟩ := sendItem_credit (s := s) (r := r) h.credit (Nat.pos_iff_ne_zero.1 hpos)
  exact ⟨_, add, he⟩

/-- what `Channel::send_item` returns: `InvalidSender`, or the sender end is claimed by `conn` and the answer goes by
the receiver end; a channel it returns has both ends claimed as before -/
theorem Chan.sendItem_shape {c : Chan} {conn : ConnId} {x} (h : c.sendItem conn = .ok x) :
    x = .error .invalidSender ∨ ∃ scap, c.sender = .claimed conn scap ∧
      ((x = .error .receiverUnclaimed ∧ c.receiver = .unclaimed) ∨ (x = .error .receiverClosed ∧ c.receiver = .closed) ∨
       ∃ r rcap, c.receiver = .claimed r rcap ∧
         (x = .error .capacityExhausted ∨ ∃ a b add, x = .ok (⟨.claimed conn a, .claimed r b⟩, r, add))) := by
  unfold Chan.sendItem at h
  split at h
  · rename_i s scap hs
    by_cases hsc : s = conn
    · subst hsc
      rw [if_neg (fun hne => hne rfl)] at h
      refine .inr ⟨scap, hs, ?_⟩
      split at h
      · cases h; exact .inl ⟨rfl, ‹_›⟩
      · cases h; exact .inr (.inl ⟨rfl, ‹_›⟩)
      · refine .inr (.inr ⟨_, _, ‹_›, ?_⟩)
        rcases ite_eq_cases h with ⟨-, h⟩ | ⟨-, h⟩
        · rcases ite_eq_cases h with ⟨-, h⟩ | ⟨-, h⟩
          · cases h
          · cases h; exact .inl rfl
        · rcases ite_eq_cases h with ⟨-, h⟩ | ⟨-, h⟩
          · cases h
          · rcases ite_eq_cases h with ⟨-, h⟩ | ⟨-, h⟩ <;> cases h <;> exact .inr ⟨_, _, _, rfl⟩
    · rw [if_pos hsc] at h; cases h; exact .inl rfl
  · cases h; exact .inl rfl

theorem sendItem_owner {c c' : Chan} {conn r : ConnId} {add : Option Nat} (h : c.sendItem conn = .ok (.ok (c', r, add))) :
    endOwner c'.sender = endOwner c.sender ∧ endOwner c'.receiver = endOwner c.receiver := by
  obtain hx | ⟨scap, hs, ⟨hx, -⟩ | ⟨hx, -⟩ | ⟨r', rcap, hr, hx | ⟨a, b, add', hx⟩⟩⟩ := Chan.sendItem_shape h
  all_goals cases hx
  rw [hs, hr]; exact ⟨rfl, rfl⟩

theorem sendItem_claimed {c : Chan} {conn : ConnId} {x} (h : c.sendItem conn = .ok x) (hx : x ≠ .error .invalidSender) :
    ∃ cap, c.sender = .claimed conn cap := by
  obtain hx' | ⟨scap, hs, -⟩ := Chan.sendItem_shape h
  · exact absurd hx' hx
  · exact ⟨scap, hs⟩

theorem sendItem_sender {c : Chan} {conn : ConnId} {x} (h : c.sendItem conn = .ok x) (hx : x ≠ .error .invalidSender) :
    endOwner c.sender = some conn := by
  obtain ⟨cap, hs⟩ := sendItem_claimed h hx
  rw [hs]; rfl

theorem sendItem_runclaimed {c : Chan} {conn : ConnId} (h : c.sendItem conn = .ok (.error .receiverUnclaimed)) : c.receiver = .unclaimed := by
  obtain hx | ⟨scap, hs, ⟨-, hr⟩ | ⟨hx, -⟩ | ⟨r', rcap, hr, hx | ⟨a, b, add', hx⟩⟩⟩ := Chan.sendItem_shape h
  all_goals first | exact hr | cases hx

/-- `add_capacity` by the receiver of a channel within the credit relation: the assertion holds -/
theorem addCapacity_established {s r : ConnId} {sc rc cap : Nat} (hc : cap ≠ 0) (h : Credit sc rc) :
    (⟨.claimed s sc, .claimed r rc⟩ : Chan).addCapacity r cap =
      if rc + cap > u32Max then .ok none
      else if sc ≤ lowCapacity then .ok (some (⟨.claimed s (rc + cap), .claimed r (rc + cap)⟩, some (s, rc + cap - sc)))
      else .ok (some (⟨.claimed s sc, .claimed r (rc + cap)⟩, none)) := by
  simp only [Chan.addCapacity, hc, ne_eq, not_true_eq_false, ↓reduceIte]
  split
  · rfl
  · split
    · have : rc + cap > sc := by have := h.1; omega
      simp only [this, not_true_eq_false, ↓reduceIte]
    · rfl

theorem addCapacity_credit {s r : ConnId} {sc rc g : Nat} (h : Credit sc rc) (hov : rc + g ≤ u32Max) :
    ∃ sc' fwd, Chan.addCapacity ⟨.claimed s sc, .claimed r rc⟩ r g =
        .ok (some (⟨.claimed s sc', .claimed r (rc + g)⟩, fwd)) ∧
      sc' = sc + (fwd.map (·.2)).getD 0 ∧ Credit sc' (rc + g) := by
  by_cases hg : g = 0
  · subst hg; exact ⟨sc, none, by simp [Chan.addCapacity], rfl, h⟩
  rw [addCapacity_established hg h, if_neg (Nat.not_lt.2 hov)]
  have := h.1
  split
  · exact ⟨_, _, rfl, by simp only [Option.map, Option.getD]; omega, Nat.le_refl _, fun _ => rfl⟩
  · exact ⟨_, _, rfl, rfl, by omega, by omega⟩

theorem addCapacity_overflows {snd : EndState} {r : ConnId} {rc cap : Nat} (hc : cap ≠ 0) (hov : rc + cap > u32Max) :
    (⟨snd, .claimed r rc⟩ : Chan).addCapacity r cap = .ok none := by
  simp only [Chan.addCapacity, hc, ne_eq, not_true_eq_false, ↓reduceIte, hov]

theorem addCapacity_taken {snd : EndState} {r : ConnId} {rc cap : Nat} (h : (⟨snd, .claimed r rc⟩ : Chan).OK)
    (hov : rc + cap ≤ u32Max) :
    ∃ c' fwd, (⟨snd, .claimed r rc⟩ : Chan).addCapacity r cap = .ok (some (c', fwd)) ∧ c'.OK := by
  cases snd with
  | claimed s sc =>
    obtain ⟨sc', fwd, he, -, hj⟩ := addCapacity_credit (s := s) (r := r) (g := cap) h.credit hov
    exact ⟨_, _, he, .established hj⟩
  | unclaimed | closed =>
    by_cases hc : cap = 0
    · exact ⟨_, none, by simp only [Chan.addCapacity, hc, ↓reduceIte], h⟩
    · exact ⟨⟨_, .claimed r (rc + cap)⟩, none,
        by simp only [Chan.addCapacity, hc, ne_eq, not_true_eq_false, ↓reduceIte, Nat.not_lt.2 hov]; rfl, .inr rfl, by trivial⟩

theorem addCapacity_ok {c : Chan} {conn : ConnId} {cap : Nat} (h : c.OK) :
    okAnd (c.addCapacity conn cap) (fun r => ∀ c' f, r = some (c', f) → c'.OK) := by
  have same : ∀ c' f, (some (c, none) : Option (Chan × Option (ConnId × Nat))) = some (c', f) → c'.OK :=
    fun _ _ e => by cases e; exact h
  by_cases hc : cap = 0
  · simp only [Chan.addCapacity, hc, ↓reduceIte]; exact same
  · obtain ⟨snd, rcv⟩ := c
    cases rcv with
    | unclaimed => simp only [Chan.addCapacity, hc, ↓reduceIte]; exact same
    | closed => simp only [Chan.addCapacity, hc, ↓reduceIte]; exact same
    | claimed r rc =>
      by_cases ho : r = conn
      · subst ho
        by_cases hov : rc + cap ≤ u32Max
        · obtain ⟨c', fwd, he, hok⟩ := addCapacity_taken h hov
          rw [he]; intro _ _ e; cases e; exact hok
        · rw [addCapacity_overflows hc (Nat.not_le.1 hov)]; exact nofun
      · simp only [Chan.addCapacity, hc, ne_eq, ho, not_false_eq_true, ↓reduceIte]; exact same

theorem addCapacity_preserves {c c' : Chan} {conn : ConnId} {cap : Nat} {f} (h : c.OK)
    (ha : c.addCapacity conn cap = .ok (some (c', f))) : c'.OK :=
  (addCapacity_ok h).of_eq ha c' f rfl

/-- `Channel::add_capacity` with a channel to store: every end keeps its kind and owner; capacity is forwarded only
between two claimed ends, to the owner of the sender end -/
theorem Chan.addCapacity_shape {ch ch' : Chan} {id : ConnId} {cap : Nat} {fwd : Option (ConnId × Nat)}
    (h : ch.addCapacity id cap = .ok (some (ch', fwd))) :
    (∀ e, (ch.endState e).like (ch'.endState e)) ∧ ∀ sid diff, fwd = some (sid, diff) →
      (∃ c, ch.sender = .claimed sid c) ∧ ∃ r c, ch.receiver = .claimed r c := by
  have same : ∀ e, (ch.endState e).like (ch.endState e) := fun e => by cases ch.endState e <;> rfl
  revert h
  fun_cases Chan.addCapacity ch id cap <;> intro h <;> cases h
  -- the channel comes back as it is,
  all_goals try exact ⟨same, nofun⟩
  -- or the receiver end has the new capacity and the sender end catches up and is told, or is as it was (claimed or not)
  · exact ⟨fun e => by cases e <;> simp only [Chan.endState, *] <;> rfl,
      by rintro sid diff ⟨⟩; exact ⟨⟨_, ‹_›⟩, _, _, ‹_›⟩⟩
  · exact ⟨fun e => by cases e <;> simp only [Chan.endState, *] <;> rfl, nofun⟩
  · exact ⟨fun e => by cases e <;> simp only [Chan.endState, *] <;> first | rfl | exact same .sender, nofun⟩

theorem addCapacity_owner {c c' : Chan} {conn : ConnId} {cap : Nat} {fwd} (h : c.addCapacity conn cap = .ok (some (c', fwd))) :
    endOwner c'.sender = endOwner c.sender ∧ endOwner c'.receiver = endOwner c.receiver :=
  ⟨((Chan.addCapacity_shape h).1 .sender).owner, ((Chan.addCapacity_shape h).1 .receiver).owner⟩

theorem addCapacity_none {c : Chan} {conn : ConnId} {cap : Nat} (h : c.addCapacity conn cap = .ok none) :
    endOwner c.receiver = some conn := by
  unfold Chan.addCapacity at h
  rcases ite_eq_cases h with ⟨-, h⟩ | ⟨-, h⟩
  · cases h
  split at h
  · rename_i r rcap hr
    rcases ite_eq_cases h with ⟨-, h⟩ | ⟨hrc, -⟩
    · cases h
    · rw [hr, Decidable.of_not_not hrc]; rfl
  · cases h

inductive COp where
  | send
  | add (cap : Nat)
  deriving Repr

/-- ghost counters: capacity granted by the receiver, capacity announced to the sender, items forwarded -/
structure Ghost where
  granted : Nat
  announced : Nat
  forwarded : Nat
  deriving Repr

/-- run sender-side sends and receiver-side grants on a channel established between `s` and `r`;
refused operations leave the channel unchanged (the broker then closes an end, which ends the history) -/
def crun (s r : ConnId) : Chan → Ghost → List COp → Except Panic (Chan × Ghost)
  | c, g, [] => .ok (c, g)
  | c, g, .send :: ops =>
    match c.sendItem s with
    | .error p => .error p
    | .ok (.error _) => crun s r c g ops
    | .ok (.ok (c', _, add)) =>
      crun s r c' { g with forwarded := g.forwarded + 1, announced := g.announced + add.getD 0 } ops
  | c, g, .add cap :: ops =>
    match c.addCapacity r cap with
    | .error p => .error p
    | .ok none => crun s r c g ops
    | .ok (some (c', fwd)) =>
      crun s r c' { g with granted := g.granted + cap, announced := g.announced + (fwd.map (·.2)).getD 0 } ops

/-- the stored capacities are exactly the unspent parts of what was announced / granted -/
def Acct (s r : ConnId) (c : Chan) (g : Ghost) : Prop :=
  ∃ sc rc, c = ⟨.claimed s sc, .claimed r rc⟩ ∧
    sc + g.forwarded = g.announced ∧ rc + g.forwarded = g.granted ∧ sc ≤ rc ∧ (sc ≤ 4 → sc = rc)

theorem acct_send {s r : ConnId} {c : Chan} {g : Ghost} (h : Acct s r c g) :
    (∃ e, c.sendItem s = .ok (.error e)) ∨
    ∃ c' add, c.sendItem s = .ok (.ok (c', r, add)) ∧
      Acct s r c' { g with forwarded := g.forwarded + 1, announced := g.announced + add.getD 0 } := by
  obtain ⟨sc, rc, rfl, h1, h2, (hcr : Credit sc rc)⟩ := h
  by_cases h0 : sc = 0
  · exact .inl ⟨_, by rw [sendItem_established hcr, if_pos h0]⟩
  · obtain ⟨sc', add, he, hsc, hcr'⟩ := sendItem_credit (s := s) (r := r) hcr h0
    have := hcr.1
    exact .inr ⟨_, _, he, sc', rc - 1, rfl, by dsimp only; omega, by dsimp only; omega, hcr'⟩

theorem acct_add {s r : ConnId} {c : Chan} {g : Ghost} {cap : Nat} (h : Acct s r c g) :
    c.addCapacity r cap = .ok none ∨
    ∃ c' fwd, c.addCapacity r cap = .ok (some (c', fwd)) ∧
      Acct s r c' { g with granted := g.granted + cap, announced := g.announced + (fwd.map (·.2)).getD 0 } := by
  obtain ⟨sc, rc, rfl, h1, h2, (hcr : Credit sc rc)⟩ := h
  by_cases hc : cap = 0
  · subst hc
    exact .inr ⟨_, none, rfl, sc, rc, rfl, h1, h2, hcr⟩
  by_cases hov : rc + cap ≤ u32Max
  · obtain ⟨sc', fwd, he, hsc, hcr'⟩ := addCapacity_credit (s := s) (r := r) hcr hov
    exact .inr ⟨_, _, he, sc', rc + cap, rfl, by dsimp only; omega, by dsimp only; omega, hcr'⟩
  · exact .inl (by rw [addCapacity_established hc hcr, if_pos (Nat.not_le.1 hov)])

/-- For every history of sends and grants on an established channel: no panic site of `channel.rs`
is reached and the accounting relation is kept. -/
theorem crun_acct (s r : ConnId) (ops : List COp) (c : Chan) (g : Ghost) (h : Acct s r c g) :
    ∃ c' g', crun s r c g ops = .ok (c', g') ∧ Acct s r c' g' := by
  induction ops generalizing c g with
  | nil => exact ⟨c, g, rfl, h⟩
  | cons op ops ih =>
    cases op with
    | send =>
      rcases acct_send h with ⟨e, he⟩ | ⟨c', add, he, ha⟩
      · simp only [crun, he]; exact ih c g h
      · simp only [crun, he]; exact ih _ _ ha
    | add cap =>
      rcases acct_add (cap := cap) h with he | ⟨c', fwd, he, ha⟩
      · simp only [crun, he]; exact ih c g h
      · simp only [crun, he]; exact ih _ _ ha

theorem acct_bounds {s r : ConnId} {c : Chan} {g : Ghost} (h : Acct s r c g) :
    g.forwarded ≤ g.announced ∧ g.announced ≤ g.granted := by
  obtain ⟨sc, rc, _, h1, h2, h3, _⟩ := h; omega

end Aldrin.Broker
