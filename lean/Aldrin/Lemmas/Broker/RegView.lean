/-
The views of the state the registry invariant (`Lemmas/Broker/Reg.lean`) is stated on — the two object maps, the cookie
view of the services, for every service entry its own cookie and the cookie of its object (`sk`), for every connection the
list of objects it owns (`ro`) —, how the state update primitives act on them, and the relation `SameReg`: they are as they were.
-/
import Aldrin.Lemmas.Broker.CallConn

namespace Aldrin.Broker

/-- the objects a connection owns, as the connection lists them -/
def ro (s : St) (c : ConnId) : Option (List Cookie) :=
  match AL.find? c s.b.conns with
  | some conn => some conn.objects
  | none => none

/-- a service entry's own cookie and the cookie of its object -/
def skl (m : List ((Uuid × Uuid) × Svc)) (k : Uuid × Uuid) : Option (Cookie × Cookie) :=
  match AL.find? k m with
  | some v => some (v.cookie, v.objCookie)
  | none => none

def sk (s : St) (k : Uuid × Uuid) : Option (Cookie × Cookie) := skl s.b.svcs k

theorem ro_eq (s : St) (c : ConnId) : ro s c = (s.conn? c).map (·.objects) := by
  unfold ro St.conn?; cases AL.find? c s.b.conns <;> rfl

theorem skl_eq (m : List ((Uuid × Uuid) × Svc)) (k : Uuid × Uuid) : skl m k = (AL.find? k m).map fun v => (v.cookie, v.objCookie) := by
  unfold skl; cases AL.find? k m <;> rfl

@[simp, grind =] theorem ro_setObjUuids (s : St) (x : List (Cookie × Uuid)) (c : ConnId) : ro (s.setObjUuids x) c = ro s c := rfl
@[simp, grind =] theorem ro_setObjs (s : St) (x : List (Uuid × Obj)) (c : ConnId) : ro (s.setObjs x) c = ro s c := rfl
@[simp, grind =] theorem ro_setSvcUuids (s : St) (x : List (Cookie × (ObjId × Uuid × SvcInfo))) (c : ConnId) : ro (s.setSvcUuids x) c = ro s c := rfl
@[simp, grind =] theorem ro_setSvcs (s : St) (x : List ((Uuid × Uuid) × Svc)) (c : ConnId) : ro (s.setSvcs x) c = ro s c := rfl
@[simp, grind =] theorem ro_setCalls (s : St) (x : SerialMap Call) (c : ConnId) : ro (s.setCalls x) c = ro s c := rfl
@[simp, grind =] theorem ro_setChannels (s : St) (x : List (Cookie × Chan)) (c : ConnId) : ro (s.setChannels x) c = ro s c := rfl
@[simp, grind =] theorem ro_setListeners (s : St) (x : List (Cookie × Listener)) (c : ConnId) : ro (s.setListeners x) c = ro s c := rfl
@[simp, grind =] theorem ro_setIntrospection (s : St) (x : List (Uuid × IEntry)) (c : ConnId) : ro (s.setIntrospection x) c = ro s c := rfl
@[simp, grind =] theorem ro_setIqueries (s : St) (x : SerialMap Uuid) (c : ConnId) : ro (s.setIqueries x) c = ro s c := rfl
@[simp, grind =] theorem ro_setNextCookie (s : St) (x : Cookie) (c : ConnId) : ro (s.setNextCookie x) c = ro s c := rfl
@[simp, grind =] theorem ro_setWShutdownNow (s : St) (x : Bool) (c : ConnId) : ro (s.setWShutdownNow x) c = ro s c := rfl
@[simp, grind =] theorem ro_setWShutdownIdle (s : St) (x : Bool) (c : ConnId) : ro (s.setWShutdownIdle x) c = ro s c := rfl
@[simp, grind =] theorem ro_setWRemoveConns (s : St) (x : List (ConnId × Bool)) (c : ConnId) : ro (s.setWRemoveConns x) c = ro s c := rfl
@[simp, grind =] theorem ro_setWRemoveCalls (s : St) (x : List (Nat × ConnId × CallResult)) (c : ConnId) : ro (s.setWRemoveCalls x) c = ro s c := rfl
@[simp, grind =] theorem ro_setWServicesDestroyed (s : St) (x : List (ConnId × Cookie)) (c : ConnId) : ro (s.setWServicesDestroyed x) c = ro s c := rfl
@[simp, grind =] theorem ro_setWUnsubscribeEvent (s : St) (x : List (ConnId × Cookie × Nat)) (c : ConnId) : ro (s.setWUnsubscribeEvent x) c = ro s c := rfl
@[simp, grind =] theorem ro_setWUnsubscribeAll (s : St) (x : List (ConnId × Cookie)) (c : ConnId) : ro (s.setWUnsubscribeAll x) c = ro s c := rfl
@[simp, grind =] theorem ro_setWCreateObject (s : St) (x : List ObjId) (c : ConnId) : ro (s.setWCreateObject x) c = ro s c := rfl
@[simp, grind =] theorem ro_setWDestroyObject (s : St) (x : List ObjId) (c : ConnId) : ro (s.setWDestroyObject x) c = ro s c := rfl
@[simp, grind =] theorem ro_setWCreateService (s : St) (x : List SvcId) (c : ConnId) : ro (s.setWCreateService x) c = ro s c := rfl
@[simp, grind =] theorem ro_setWDestroyService (s : St) (x : List SvcId) (c : ConnId) : ro (s.setWDestroyService x) c = ro s c := rfl
@[simp, grind =] theorem ro_setWAbortCalls (s : St) (x : List (Nat × ConnId)) (c : ConnId) : ro (s.setWAbortCalls x) c = ro s c := rfl
@[simp, grind =] theorem ro_setOut (s : St) (x : List Out) (c : ConnId) : ro (s.setOut x) c = ro s c := rfl
@[simp, grind =] theorem ro_stat (s : St) (f : Stats → Stats) (c : ConnId) : ro (s.stat f) c = ro s c := rfl
@[simp, grind =] theorem ro_pushRemoveConn (s : St) (id : ConnId) (b : Bool) (c : ConnId) : ro (s.pushRemoveConn id b) c = ro s c := rfl
@[simp, grind =] theorem ro_freshCookie (s : St) (c : ConnId) : ro s.freshCookie.1 c = ro s c := rfl
@[simp, grind =] theorem sk_setObjUuids (s : St) (x : List (Cookie × Uuid)) (k : Uuid × Uuid) : sk (s.setObjUuids x) k = sk s k := rfl
@[simp, grind =] theorem sk_setObjs (s : St) (x : List (Uuid × Obj)) (k : Uuid × Uuid) : sk (s.setObjs x) k = sk s k := rfl
@[simp, grind =] theorem sk_setSvcUuids (s : St) (x : List (Cookie × (ObjId × Uuid × SvcInfo))) (k : Uuid × Uuid) : sk (s.setSvcUuids x) k = sk s k := rfl
@[simp, grind =] theorem sk_setCalls (s : St) (x : SerialMap Call) (k : Uuid × Uuid) : sk (s.setCalls x) k = sk s k := rfl
@[simp, grind =] theorem sk_setChannels (s : St) (x : List (Cookie × Chan)) (k : Uuid × Uuid) : sk (s.setChannels x) k = sk s k := rfl
@[simp, grind =] theorem sk_setListeners (s : St) (x : List (Cookie × Listener)) (k : Uuid × Uuid) : sk (s.setListeners x) k = sk s k := rfl
@[simp, grind =] theorem sk_setIntrospection (s : St) (x : List (Uuid × IEntry)) (k : Uuid × Uuid) : sk (s.setIntrospection x) k = sk s k := rfl
@[simp, grind =] theorem sk_setIqueries (s : St) (x : SerialMap Uuid) (k : Uuid × Uuid) : sk (s.setIqueries x) k = sk s k := rfl
@[simp, grind =] theorem sk_setNextCookie (s : St) (x : Cookie) (k : Uuid × Uuid) : sk (s.setNextCookie x) k = sk s k := rfl
@[simp, grind =] theorem sk_setWShutdownNow (s : St) (x : Bool) (k : Uuid × Uuid) : sk (s.setWShutdownNow x) k = sk s k := rfl
@[simp, grind =] theorem sk_setWShutdownIdle (s : St) (x : Bool) (k : Uuid × Uuid) : sk (s.setWShutdownIdle x) k = sk s k := rfl
@[simp, grind =] theorem sk_setWRemoveConns (s : St) (x : List (ConnId × Bool)) (k : Uuid × Uuid) : sk (s.setWRemoveConns x) k = sk s k := rfl
@[simp, grind =] theorem sk_setWRemoveCalls (s : St) (x : List (Nat × ConnId × CallResult)) (k : Uuid × Uuid) : sk (s.setWRemoveCalls x) k = sk s k := rfl
@[simp, grind =] theorem sk_setWServicesDestroyed (s : St) (x : List (ConnId × Cookie)) (k : Uuid × Uuid) : sk (s.setWServicesDestroyed x) k = sk s k := rfl
@[simp, grind =] theorem sk_setWUnsubscribeEvent (s : St) (x : List (ConnId × Cookie × Nat)) (k : Uuid × Uuid) : sk (s.setWUnsubscribeEvent x) k = sk s k := rfl
@[simp, grind =] theorem sk_setWUnsubscribeAll (s : St) (x : List (ConnId × Cookie)) (k : Uuid × Uuid) : sk (s.setWUnsubscribeAll x) k = sk s k := rfl
@[simp, grind =] theorem sk_setWCreateObject (s : St) (x : List ObjId) (k : Uuid × Uuid) : sk (s.setWCreateObject x) k = sk s k := rfl
@[simp, grind =] theorem sk_setWDestroyObject (s : St) (x : List ObjId) (k : Uuid × Uuid) : sk (s.setWDestroyObject x) k = sk s k := rfl
@[simp, grind =] theorem sk_setWCreateService (s : St) (x : List SvcId) (k : Uuid × Uuid) : sk (s.setWCreateService x) k = sk s k := rfl
@[simp, grind =] theorem sk_setWDestroyService (s : St) (x : List SvcId) (k : Uuid × Uuid) : sk (s.setWDestroyService x) k = sk s k := rfl
@[simp, grind =] theorem sk_setWAbortCalls (s : St) (x : List (Nat × ConnId)) (k : Uuid × Uuid) : sk (s.setWAbortCalls x) k = sk s k := rfl
@[simp, grind =] theorem sk_setOut (s : St) (x : List Out) (k : Uuid × Uuid) : sk (s.setOut x) k = sk s k := rfl
@[simp, grind =] theorem sk_stat (s : St) (f : Stats → Stats) (k : Uuid × Uuid) : sk (s.stat f) k = sk s k := rfl
@[simp, grind =] theorem sk_pushRemoveConn (s : St) (id : ConnId) (b : Bool) (k : Uuid × Uuid) : sk (s.pushRemoveConn id b) k = sk s k := rfl
@[simp, grind =] theorem sk_freshCookie (s : St) (k : Uuid × Uuid) : sk s.freshCookie.1 k = sk s k := rfl

@[simp, grind =] theorem sk_setConns (s : St) (x : List (ConnId × Conn)) (k : Uuid × Uuid) : sk (s.setConns x) k = sk s k := rfl
@[simp, grind =] theorem sk_setConn (s : St) (id : ConnId) (c : Conn) (k : Uuid × Uuid) : sk (s.setConn id c) k = sk s k := rfl
@[simp, grind =] theorem sk_updConn (s : St) (id : ConnId) (f : Conn → Conn) (k : Uuid × Uuid) : sk (s.updConn id f) k = sk s k := by
  unfold St.updConn; split <;> rfl
@[simp, grind =] theorem sk_send (s : St) (to : ConnId) (m : Rsp) (v : Option Nat) (k : Uuid × Uuid) : sk (s.send to m v).1 k = sk s k := by
  simp [sk]
@[simp, grind =] theorem sk_sendOrRemove (s : St) (to : ConnId) (m : Rsp) (v : Option Nat) (k : Uuid × Uuid) : sk (s.sendOrRemove to m v) k = sk s k := by
  simp [sk]

theorem sk_of_svcs {s s' : St} (h : s'.b.svcs = s.b.svcs) (k : Uuid × Uuid) : sk s' k = sk s k := by simp [sk, h]

theorem sk_setSvcs (s : St) (x : List ((Uuid × Uuid) × Svc)) (k : Uuid × Uuid) : sk (s.setSvcs x) k = skl x k := rfl

theorem skl_insert_same {m : List ((Uuid × Uuid) × Svc)} {k0 : Uuid × Uuid} {old new : Svc} (h : AL.find? k0 m = some old)
    (h1 : new.cookie = old.cookie) (h2 : new.objCookie = old.objCookie) (k : Uuid × Uuid) :
    skl (AL.insert k0 new m) k = skl m k := by
  rw [skl_eq, skl_eq]; exact AL.map_find?_insert_same h (by rw [h1, h2]) k

theorem ro_of_conns {s s' : St} (h : s'.b.conns = s.b.conns) (c : ConnId) : ro s' c = ro s c :=
  view_of_conns ro_eq h c

theorem sk_setSvcs_insert (s : St) (k0 : Uuid × Uuid) (v : Svc) (k : Uuid × Uuid) :
    sk (s.setSvcs (AL.insert k0 v s.b.svcs)) k = if k0 = k then some (v.cookie, v.objCookie) else sk s k := by
  simp only [sk, skl, St.setSvcs_b_svcs, AL.find?_insert]
  by_cases h : k0 = k <;> simp [h]

theorem sk_setSvcs_erase (s : St) (k0 : Uuid × Uuid) (k : Uuid × Uuid) :
    sk (s.setSvcs (AL.erase k0 s.b.svcs)) k = if k0 = k then none else sk s k := by
  simp only [sk, skl, St.setSvcs_b_svcs, AL.find?_erase]
  by_cases h : k0 = k <;> simp [h]

theorem sk_find {s : St} {k : Uuid × Uuid} {v : Svc} (h : AL.find? k s.b.svcs = some v) : sk s k = some (v.cookie, v.objCookie) := by
  simp [sk, skl, h]
theorem sk_find_none {s : St} {k : Uuid × Uuid} (h : AL.find? k s.b.svcs = none) : sk s k = none := by
  simp [sk, skl, h]

theorem sk_eq_some {s : St} {k : Uuid × Uuid} {sc oc : Cookie} :
    sk s k = some (sc, oc) ↔ ∃ sv, AL.find? k s.b.svcs = some sv ∧ sv.cookie = sc ∧ sv.objCookie = oc := by
  rw [sk, skl_eq, Option.map_eq_some_iff]; simp only [Prod.mk.injEq]

theorem sk_setSvcs_same {s : St} {k0 : Uuid × Uuid} {old new : Svc} (h : AL.find? k0 s.b.svcs = some old)
    (h1 : new.cookie = old.cookie) (h2 : new.objCookie = old.objCookie) (k : Uuid × Uuid) :
    sk (s.setSvcs (AL.insert k0 new s.b.svcs)) k = sk s k :=
  skl_insert_same h h1 h2 k

@[simp] theorem Svc.subscribeEvent_cookie (s : Svc) (ev : Nat) (c : ConnId) : (s.subscribeEvent ev c).1.cookie = s.cookie :=
  (Svc.agree_subscribeEvent s ev c).cookie
@[simp] theorem Svc.subscribeEvent_objCookie (s : Svc) (ev : Nat) (c : ConnId) : (s.subscribeEvent ev c).1.objCookie = s.objCookie :=
  (Svc.agree_subscribeEvent s ev c).objCookie
@[simp] theorem Svc.unsubscribeEvent_cookie (s : Svc) (ev : Nat) (c : ConnId) : (s.unsubscribeEvent ev c).1.cookie = s.cookie :=
  (Svc.agree_unsubscribeEvent s ev c).cookie
@[simp] theorem Svc.unsubscribeEvent_objCookie (s : Svc) (ev : Nat) (c : ConnId) : (s.unsubscribeEvent ev c).1.objCookie = s.objCookie :=
  (Svc.agree_unsubscribeEvent s ev c).objCookie
@[simp] theorem Svc.subscribeAll_cookie (s : Svc) (c : ConnId) : (s.subscribeAll c).1.cookie = s.cookie := rfl
@[simp] theorem Svc.subscribeAll_objCookie (s : Svc) (c : ConnId) : (s.subscribeAll c).1.objCookie = s.objCookie := rfl
@[simp] theorem Svc.unsubscribeAll_cookie (s : Svc) (c : ConnId) : (s.unsubscribeAll c).1.cookie = s.cookie := rfl
@[simp] theorem Svc.unsubscribeAll_objCookie (s : Svc) (c : ConnId) : (s.unsubscribeAll c).1.objCookie = s.objCookie := rfl

@[simp, grind =] theorem ro_setConn (s : St) (id : ConnId) (new : Conn) (c : ConnId) :
    ro (s.setConn id new) c = if id = c then some new.objects else ro s c :=
  view_setConn ro_eq s id new c

theorem ro_find {s : St} {id : ConnId} {conn : Conn} (h : AL.find? id s.b.conns = some conn) : ro s id = some conn.objects :=
  view_conn ro_eq h

theorem ro_find_none {s : St} {id : ConnId} (h : AL.find? id s.b.conns = none) : ro s id = none := by
  rw [ro_eq, St.conn?_def, h]; rfl

theorem ro_eq_some {s : St} {c : ConnId} {l : List Cookie} :
    ro s c = some l ↔ ∃ conn, AL.find? c s.b.conns = some conn ∧ conn.objects = l := by
  rw [ro_eq]; exact Option.map_eq_some_iff

theorem ro_updConn_same (s : St) (id : ConnId) (f : Conn → Conn) (hf : ∀ x, (f x).objects = x.objects) (c : ConnId) :
    ro (s.updConn id f) c = ro s c := by
  rw [view_updConn ro_eq]
  split
  · next h => cases h; rw [ro_eq]; cases s.conn? id <;> simp [hf]
  · rfl

@[simp] theorem Conn.subscribeEvent_objects (c : Conn) (svc : Cookie) (ev : Nat) : (c.subscribeEvent svc ev).objects = c.objects := rfl
@[simp] theorem Conn.unsubscribeEvent_objects (c : Conn) (svc : Cookie) (ev : Nat) : (c.unsubscribeEvent svc ev).objects = c.objects :=
  (Conn.agree_unsubscribeEvent c svc ev).objects (by decide)
@[simp] theorem Conn.unsubscribeAllOf_objects (c : Conn) (svc : Cookie) : (c.unsubscribeAllOf svc).objects = c.objects := rfl

@[simp, grind =] theorem ro_send (s : St) (to : ConnId) (m : Rsp) (v : Option Nat) (c : ConnId) : ro (s.send to m v).1 c = ro s c :=
  ro_of_conns (by simp) c
@[simp, grind =] theorem ro_sendOrRemove (s : St) (to : ConnId) (m : Rsp) (v : Option Nat) (c : ConnId) : ro (s.sendOrRemove to m v) c = ro s c :=
  ro_of_conns (by simp) c

/-- the views the registry invariant is stated on are the same in both states -/
def SameReg (s s' : St) : Prop :=
  s'.b.objUuids = s.b.objUuids ∧ s'.b.objs = s.b.objs ∧ s'.b.svcUuids = s.b.svcUuids ∧
  (∀ k, sk s' k = sk s k) ∧ (∀ c, ro s' c = ro s c)

theorem SameReg.refl (s : St) : SameReg s s := ⟨rfl, rfl, rfl, fun _ => rfl, fun _ => rfl⟩
theorem SameReg.trans {a b c : St} (h1 : SameReg a b) (h2 : SameReg b c) : SameReg a c :=
  ⟨h2.1.trans h1.1, h2.2.1.trans h1.2.1, h2.2.2.1.trans h1.2.2.1, fun k => (h2.2.2.2.1 k).trans (h1.2.2.2.1 k),
    fun k => (h2.2.2.2.2 k).trans (h1.2.2.2.2 k)⟩

theorem ro_frame : Frame (fun s s' => ∀ c, ro s' c = ro s c) [.conn .objects, .connGone, .connNew] :=
  Frame.ofConns (f := Option.map Conn.objects) (r := fun a b => b = a) ro_eq _
    (refl := fun _ => rfl) (trans := fun h1 h2 => h2.trans h1)
    (part := fun _ hφ _ _ ha => congrArg some (ha.objects (by simpa using hφ)))
    (dead := fun _ _ => rfl)
    (gone := fun h => absurd (by decide) h) (new := fun h => absurd (by decide) h)

theorem SameReg.frame : Frame SameReg [.objUuids, .objs, .svcUuids, .svcs, .conn .objects, .connGone, .connNew] := by
  refine ⟨SameReg.refl, SameReg.trans, fun h hb => ?_⟩
  have hro := ro_frame.step h fun hm => hb (List.mem_append_right [Prim.objUuids, .objs, .svcUuids, .svcs] hm)
  cases h
  case objUuids | objs | svcUuids | svcs => simp at hb
  case svc => exact ⟨rfl, rfl, rfl, sk_setSvcs_same ‹_› (Svc.agree.cookie ‹_›) (Svc.agree.objCookie ‹_›), hro⟩
  case connDead => exact ⟨by simp, by simp, by simp, sk_of_svcs (by simp), hro⟩
  all_goals exact ⟨rfl, rfl, rfl, fun _ => rfl, hro⟩

@[simp, grind =] theorem ro_removeBusListener (s : St) (k : Cookie) (c : ConnId) : ro (removeBusListener s k) c = ro s c :=
  ((removeBusListener_fp s k).frame ro_frame :) c

end Aldrin.Broker
