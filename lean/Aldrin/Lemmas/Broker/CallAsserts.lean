/-
The three `debug_assert!`s of `ConnectionState::remove_call` (in `call_function_reply`, `abort_call` and the deferred
`remove_function_call` items) under the cross-reference invariant of the call tables, and the states a turn of
`Broker::run` passes through (`InTurn`), all of which satisfy the invariant.
-/
import Aldrin.Lemmas.Broker.Xref2

namespace Aldrin.Broker
open Generated

theorem ne_error_ite {α : Type} {c : Prop} [Decidable c] {x y : Except Panic α} {p : Panic}
    (hx : c → x ≠ .error p) (hy : ¬c → y ≠ .error p) : (if c then x else y) ≠ .error p := by
  split
  · exact hx ‹_›
  · exact hy ‹_›

theorem XrefP.caller_has_entry {sv} {s : St} (hx : XrefP sv s) {bs : Nat} {call : Call} {t : CallTbl} {al : Bool}
    (hg : s.b.calls.get? bs = some call) (hna : call.aborted = false)
    (hk : ck s call.callerConn = some (t, al)) : AL.find? call.callerSerial t ≠ none := by
  obtain ⟨callee, hf⟩ := XP.caller_entry hx hg hna hk
  rw [hf]; nofun

theorem callFunctionReply_error {s : St} {id : ConnId} {serial : Nat} {r : CallResult} {p : Panic}
    (he : callFunctionReply s id serial r = .error p) : ∃ call, s.b.calls.get? serial = some call ∧
      ((p = .inconsistent "call_function_reply: objs" ∧ AL.find? call.calleeObj s.b.objs = none) ∨
       (p = .inconsistent "call_function_reply: svcs" ∧ AL.find? (call.calleeObj, call.calleeSvc) s.b.svcs = none) ∨
       (p = .debugAssert "remove_call" ∧ call.aborted = false ∧ ∃ caller, AL.find? call.callerConn s.b.conns = some caller ∧
          AL.find? call.callerSerial caller.calls = none)) := by
  rw [callFunctionReply_eq] at he
  split at he
  · cases he
  split at he
  · cases he
  refine ⟨_, ‹_›, ?_⟩
  split at he
  · cases he; exact .inl ⟨rfl, ‹_›⟩
  split at he
  · cases he
  split at he
  · cases he; exact .inr (.inl ⟨rfl, ‹_›⟩)
  split at he
  · cases he
  · next hab =>
    obtain ⟨rfl, c, hc, hn⟩ := replyToCaller_error (map_error_iff.1 he)
    exact .inr (.inr ⟨rfl, Bool.eq_false_iff.mpr hab, c, by simpa [dropCall] using hc, hn⟩)

/-- the `debug_assert!` of `ConnectionState::remove_call` in `call_function_reply` cannot fail -/
theorem reply_remove_call_assert_holds {sv} {s : St} (hx : XrefP sv s) (id : ConnId) (serial : Nat) (r : CallResult) :
    callFunctionReply s id serial r ≠ .error (.debugAssert "remove_call") := by
  intro he
  obtain ⟨call, hg, ⟨hp, _⟩ | ⟨hp, _⟩ | ⟨-, hna, caller, hc, hn⟩⟩ := callFunctionReply_error he
  · cases hp
  · cases hp
  · exact hx.caller_has_entry hg hna (ck_of_find hc) hn

/-- The state is written `s.setWAbortCalls rest` because that is what `St.pop` hands to the item; nothing ties `bs`, `cid`,
`rest` to the queue of `s`, and the invariant is used of `s` only through `caller_has_entry`, which does not look at the queues. -/
theorem abortCall_np {sv} {s : St} (hx : XrefP sv s) (bs : Nat) (cid : ConnId) (rest : List (Nat × ConnId)) (p : Panic) :
    abortCall (s.setWAbortCalls rest) bs cid ≠ .error p := by
  rw [abortCall_eq]
  split
  · nofun
  next call hcall =>
  refine ne_error_ite (fun _ => nofun) (fun hab he => ?_)
  obtain ⟨-, caller, hc, hn⟩ := replyToCaller_error he
  have hk := ck_of_find hc
  rw [(notifyCallee_frame _ cid bs).1 call.callerConn] at hk
  exact hx.caller_has_entry (by simpa using hcall) (Bool.eq_false_iff.mpr hab) (by simpa using hk) hn

/-- the `debug_assert!` of `ConnectionState::remove_call` in `abort_call` cannot fail -/
theorem abort_remove_call_assert_holds {sv} {s : St} (hx : XrefP sv s) (bs : Nat) (cid : ConnId) (rest : List (Nat × ConnId)) :
    abortCall (s.setWAbortCalls rest) bs cid ≠ .error (.debugAssert "abort_call: remove_call") :=
  abortCall_np hx bs cid rest _

/-- the condition the `debug_assert!` of the deferred `remove_function_call` item checks -/
theorem loop_remove_call_assert_holds {s : St} (hx : Xref s) {serial : Nat} {cid : ConnId} {result : CallResult}
    {rest : List (Nat × ConnId × CallResult)} (hq : s.w.removeCalls = (serial, cid, result) :: rest) {conn : Conn}
    (hc : AL.find? cid s.b.conns = some conn) : AL.find? serial conn.calls ≠ none := by
  have hk : ck s cid = some (conn.calls, conn.alive) := ck_of_find hc
  obtain ⟨bs, callee, hf, _⟩ := hx.c serial cid result (by rw [hq]; exact List.mem_cons_self) _ _ hk
  rw [hf]; nofun

theorem removedCallReply_np {s : St} (hx : Xref s) {serial : Nat} {cid : ConnId} {result : CallResult}
    {rest : List (Nat × ConnId × CallResult)} (hq : s.w.removeCalls = (serial, cid, result) :: rest) (p : Panic) :
    replyToCaller "remove_function_call: remove_call" (s.setWRemoveCalls rest) cid serial result none ≠ .error p := by
  intro he
  obtain ⟨-, c, hc, hn⟩ := replyToCaller_error he
  exact loop_remove_call_assert_holds hx hq hc hn

/-- the states a turn of `Broker::run` passes through: after the handler, and after every step of the work loop -/
inductive InTurn : St → Prop
  | handled {b : Broker} {w : Work} {e : Event} {s : St} :
      Reachable b w → b.calls.elems.length ≤ u32Max → handleEvent ⟨b, w, []⟩ e = .ok s → InTurn s
  | worked {s s' : St} : InTurn s → processOne s = some (.ok s') → InTurn s'

theorem InTurn.xref {s : St} (h : InTurn s) : Xref s := by
  induction h with
  | handled hr hroom he => exact handleEvent_xref hr.idle.x hr.idle.r hr.idle.a hroom he
  | worked _ hp ih => exact processOne_xref ih hp

end Aldrin.Broker
