/-
The bus events of the cascade: what `remove_service` defers for the bus listeners (`removeService_bus`: one
`ServiceDestroyed` with the service's id, and exactly that cookie unregistered) and what the loop of `remove_object` over the
listed services defers (`removeObject_svcs_bus`: one per listed service, in the order of the list). The statements about
`remove_object` itself and about the work-loop items are in `Props/C03.lean`.
-/
import Aldrin.Lemmas.Broker.SvcCalls
import Aldrin.Lemmas.Lists

namespace Aldrin.Broker

/-- the parts of the state the bus events of the cascade depend on -/
def busPart (s : St) : List (Cookie × (ObjId × Uuid × SvcInfo)) × List SvcId × List ObjId :=
  (s.b.svcUuids, s.w.destroyService, s.w.destroyObject)

def SameBus (s s' : St) : Prop := busPart s' = busPart s

theorem SameBus.parts {s s' : St} (h : SameBus s s') :
    s'.b.svcUuids = s.b.svcUuids ∧ s'.w.destroyService = s.w.destroyService ∧ s'.w.destroyObject = s.w.destroyObject :=
  ⟨congrArg (·.1) h, congrArg (·.2.1) h, congrArg (·.2.2) h⟩

theorem SameBus.frame : Frame SameBus [.svcUuids, .destroyService, .destroyObject] := by
  refine ⟨fun _ => rfl, fun h1 h2 => Eq.trans h2 h1, fun h hb => ?_⟩
  cases h
  case svcUuids | destroyService | destroyObject => simp at hb
  case connDead => simp [SameBus, busPart]
  all_goals rfl

/-- the `ServiceDestroyed` a cookie stands for, if it is registered -/
def svcItem (m : List (Cookie × (ObjId × Uuid × SvcInfo))) (c : Cookie) : Option SvcId :=
  match AL.find? c m with
  | some (o, u, _) => some ⟨o, u, c⟩
  | none => none

theorem removeService_bus {s s' : St} {c : Cookie} (hr : removeService s c = .ok s') :
    (∀ c', AL.find? c' s'.b.svcUuids = if c = c' then none else AL.find? c' s.b.svcUuids) ∧
    s'.w.destroyService = (svcItem s.b.svcUuids c).toList ++ s.w.destroyService ∧
    s'.w.destroyObject = s.w.destroyObject := by
  rcases removeService_outcome hr with ⟨hnone, rfl⟩ | ⟨oid, svu, info, svc, s1, hu, -, h1, rfl⟩
  · refine ⟨fun c' => ?_, by simp [svcItem, hnone], rfl⟩
    split
    · subst_vars; exact hnone
    · rfl
  · -- only the first stage touches what the bus events depend on
    obtain ⟨a1, a2, a3⟩ := ((removeService_calls_fp _ _ _ h1).frame SameBus.frame).parts
    obtain ⟨b1, b2, b3⟩ := ((dropSubscribers_fp s1 c svc.subscribedConnIds).frame SameBus.frame).parts
    refine ⟨fun c' => ?_, ?_, ?_⟩
    · rw [b1, a1, dropService_b_svcUuids, AL.find?_erase]
    · rw [b2, a2, (dropService_w_destroy s c oid svu).1]; simp [svcItem, hu]
    · rw [b3, a3, (dropService_w_destroy s c oid svu).2]

theorem removeObject_svcs_bus : ∀ (l : List Cookie) (s s' : St), l.Nodup → removeObject.svcs s l = .ok s' →
    (∀ c', AL.find? c' s'.b.svcUuids = if c' ∈ l then none else AL.find? c' s.b.svcUuids) ∧
    s'.w.destroyService = (l.filterMap (svcItem s.b.svcUuids)).reverse ++ s.w.destroyService ∧
    s'.w.destroyObject = s.w.destroyObject := by
  intro l
  induction l with
  | nil => intro s s' _ h; simp only [removeObject.svcs, Except.ok.injEq] at h; subst h; simp
  | cons a l ih =>
    intro s s' hnd h
    have hnd' := List.nodup_cons.1 hnd
    simp only [removeObject.svcs] at h
    split at h
    · simp at h
    · rename_i s1 h1
      obtain ⟨a1, a2, a3⟩ := removeService_bus h1
      obtain ⟨b1, b2, b3⟩ := ih _ _ hnd'.2 h
      have hitem : ∀ c', c' ∈ l → svcItem s1.b.svcUuids c' = svcItem s.b.svcUuids c' := by
        intro c' hc'
        have : a ≠ c' := fun e => hnd'.1 (e ▸ hc')
        simp only [svcItem, a1 c', this, ↓reduceIte]
      refine ⟨?_, ?_, by rw [b3, a3]⟩
      · intro c'
        rw [b1 c', a1 c']
        by_cases hc : c' ∈ l
        · simp [hc]
        · by_cases hac : a = c'
          · simp [hac]
          · have : ¬ c' = a := fun e => hac e.symm
            simp [hc, hac, this]
      · rw [b2, a2, filterMap_congr hitem]
        cases hsi : svcItem s.b.svcUuids a <;> simp [List.filterMap_cons, hsi]

end Aldrin.Broker
