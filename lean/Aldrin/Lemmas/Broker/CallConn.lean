/-
What the book-keeping of calls looks at in a connection — its table of pending calls and whether its task still takes
messages (`ck`) — is left alone by every function of the broker model except the call handlers, `abort_call` and the
deferred `remove_function_call` items (`CkLe`, `CkEq`; `SameF` for the call table and the two deferred lists about calls).
-/
import Aldrin.Lemmas.Broker.Alive

namespace Aldrin.Broker

abbrev CallTbl := List (Nat × (Nat × ConnId))

/-- a connection's table of pending calls and its `alive` flag -/
def ck (s : St) (c : ConnId) : Option (CallTbl × Bool) :=
  match AL.find? c s.b.conns with
  | some conn => some (conn.calls, conn.alive)
  | none => none

/-- every connection that is there afterwards was there before, with the same table and flag -/
def CkLe (s s' : St) : Prop := ∀ c v, ck s' c = some v → ck s c = some v

theorem CkLe.refl (s : St) : CkLe s s := fun _ _ h => h
theorem CkLe.trans {a b c : St} (h1 : CkLe a b) (h2 : CkLe b c) : CkLe a c := fun x v h => h1 x v (h2 x v h)

theorem ck_eq (s : St) (c : ConnId) : ck s c = (s.conn? c).map fun k => (k.calls, k.alive) := by
  unfold ck St.conn?; cases AL.find? c s.b.conns <;> rfl

theorem ck_of_find {s : St} {c : ConnId} {conn : Conn} (h : AL.find? c s.b.conns = some conn) : ck s c = some (conn.calls, conn.alive) := by
  simp [ck, h]
theorem ck_of_find_none {s : St} {c : ConnId} (h : AL.find? c s.b.conns = none) : ck s c = none := by
  simp [ck, h]

theorem ck_eq_some {s : St} {c : ConnId} {t : CallTbl} {a : Bool} :
    ck s c = some (t, a) ↔ ∃ conn, AL.find? c s.b.conns = some conn ∧ conn.calls = t ∧ conn.alive = a := by
  cases h : AL.find? c s.b.conns with
  | none => simp [ck_of_find_none h]
  | some conn => simp [ck_of_find h]

theorem ck_of_conns {s s' : St} (h : s'.b.conns = s.b.conns) (c : ConnId) : ck s' c = ck s c :=
  view_of_conns ck_eq h c

theorem CkLe.of_conns {s s' : St} (h : s'.b.conns = s.b.conns) : CkLe s s' := by
  intro c v; rw [ck_of_conns h]; exact fun x => x

@[simp, grind =] theorem ck_setObjUuids (s : St) (x : List (Cookie × Uuid)) (c : ConnId) : ck (s.setObjUuids x) c = ck s c := rfl
@[simp, grind =] theorem ck_setObjs (s : St) (x : List (Uuid × Obj)) (c : ConnId) : ck (s.setObjs x) c = ck s c := rfl
@[simp, grind =] theorem ck_setSvcUuids (s : St) (x : List (Cookie × (ObjId × Uuid × SvcInfo))) (c : ConnId) : ck (s.setSvcUuids x) c = ck s c := rfl
@[simp, grind =] theorem ck_setSvcs (s : St) (x : List ((Uuid × Uuid) × Svc)) (c : ConnId) : ck (s.setSvcs x) c = ck s c := rfl
@[simp, grind =] theorem ck_setCalls (s : St) (x : SerialMap Call) (c : ConnId) : ck (s.setCalls x) c = ck s c := rfl
@[simp, grind =] theorem ck_setChannels (s : St) (x : List (Cookie × Chan)) (c : ConnId) : ck (s.setChannels x) c = ck s c := rfl
@[simp, grind =] theorem ck_setListeners (s : St) (x : List (Cookie × Listener)) (c : ConnId) : ck (s.setListeners x) c = ck s c := rfl
@[simp, grind =] theorem ck_setIntrospection (s : St) (x : List (Uuid × IEntry)) (c : ConnId) : ck (s.setIntrospection x) c = ck s c := rfl
@[simp, grind =] theorem ck_setIqueries (s : St) (x : SerialMap Uuid) (c : ConnId) : ck (s.setIqueries x) c = ck s c := rfl
@[simp, grind =] theorem ck_setNextCookie (s : St) (x : Cookie) (c : ConnId) : ck (s.setNextCookie x) c = ck s c := rfl
@[simp, grind =] theorem ck_setWShutdownNow (s : St) (x : Bool) (c : ConnId) : ck (s.setWShutdownNow x) c = ck s c := rfl
@[simp, grind =] theorem ck_setWShutdownIdle (s : St) (x : Bool) (c : ConnId) : ck (s.setWShutdownIdle x) c = ck s c := rfl
@[simp, grind =] theorem ck_setWRemoveConns (s : St) (x : List (ConnId × Bool)) (c : ConnId) : ck (s.setWRemoveConns x) c = ck s c := rfl
@[simp, grind =] theorem ck_setWRemoveCalls (s : St) (x : List (Nat × ConnId × CallResult)) (c : ConnId) : ck (s.setWRemoveCalls x) c = ck s c := rfl
@[simp, grind =] theorem ck_setWServicesDestroyed (s : St) (x : List (ConnId × Cookie)) (c : ConnId) : ck (s.setWServicesDestroyed x) c = ck s c := rfl
@[simp, grind =] theorem ck_setWUnsubscribeEvent (s : St) (x : List (ConnId × Cookie × Nat)) (c : ConnId) : ck (s.setWUnsubscribeEvent x) c = ck s c := rfl
@[simp, grind =] theorem ck_setWUnsubscribeAll (s : St) (x : List (ConnId × Cookie)) (c : ConnId) : ck (s.setWUnsubscribeAll x) c = ck s c := rfl
@[simp, grind =] theorem ck_setWCreateObject (s : St) (x : List ObjId) (c : ConnId) : ck (s.setWCreateObject x) c = ck s c := rfl
@[simp, grind =] theorem ck_setWDestroyObject (s : St) (x : List ObjId) (c : ConnId) : ck (s.setWDestroyObject x) c = ck s c := rfl
@[simp, grind =] theorem ck_setWCreateService (s : St) (x : List SvcId) (c : ConnId) : ck (s.setWCreateService x) c = ck s c := rfl
@[simp, grind =] theorem ck_setWDestroyService (s : St) (x : List SvcId) (c : ConnId) : ck (s.setWDestroyService x) c = ck s c := rfl
@[simp, grind =] theorem ck_setWAbortCalls (s : St) (x : List (Nat × ConnId)) (c : ConnId) : ck (s.setWAbortCalls x) c = ck s c := rfl
@[simp, grind =] theorem ck_setOut (s : St) (x : List Out) (c : ConnId) : ck (s.setOut x) c = ck s c := rfl
@[simp, grind =] theorem ck_stat (s : St) (f : Stats → Stats) (c : ConnId) : ck (s.stat f) c = ck s c := rfl
@[simp, grind =] theorem ck_pushRemoveConn (s : St) (id : ConnId) (b : Bool) (c : ConnId) : ck (s.pushRemoveConn id b) c = ck s c := rfl
@[simp, grind =] theorem ck_freshCookie (s : St) (c : ConnId) : ck s.freshCookie.1 c = ck s c := rfl

@[simp, grind =] theorem ck_setConn (s : St) (id : ConnId) (new : Conn) (c : ConnId) :
    ck (s.setConn id new) c = if id = c then some (new.calls, new.alive) else ck s c :=
  view_setConn ck_eq s id new c

@[simp] theorem Conn.subscribeEvent_calls (c : Conn) (svc : Cookie) (ev : Nat) : (c.subscribeEvent svc ev).calls = c.calls := rfl
@[simp] theorem Conn.unsubscribeEvent_calls (c : Conn) (svc : Cookie) (ev : Nat) : (c.unsubscribeEvent svc ev).calls = c.calls :=
  (Conn.agree_unsubscribeEvent c svc ev).calls (by decide)
@[simp] theorem Conn.unsubscribeAllOf_calls (c : Conn) (svc : Cookie) : (c.unsubscribeAllOf svc).calls = c.calls := rfl

@[simp, grind =] theorem ck_send (s : St) (to : ConnId) (m : Rsp) (v : Option Nat) (c : ConnId) : ck (s.send to m v).1 c = ck s c :=
  ck_of_conns (by simp) c
@[simp, grind =] theorem ck_sendOrRemove (s : St) (to : ConnId) (m : Rsp) (v : Option Nat) (c : ConnId) : ck (s.sendOrRemove to m v) c = ck s c :=
  ck_of_conns (by simp) c

theorem Conn.agree.ck {φ k k'} (h : Conn.agree φ k k') (hb : φ ≠ .alive ∧ φ ≠ .calls) : (k'.calls, k'.alive) = (k.calls, k.alive) := by
  rw [h.calls hb.2, h.alive hb.1]

theorem CkLe.frame : Frame CkLe [.conn .alive, .conn .calls, .connDead, .connNew] :=
  Frame.ofConns (f := Option.map fun k => (k.calls, k.alive)) (r := fun a b => ∀ v, b = some v → a = some v) ck_eq _
    (refl := fun _ _ h => h) (trans := fun h1 h2 v h => h1 v (h2 v h))
    (part := fun _ hφ _ _ ha v h => by rw [← h]; exact congrArg some (ha.ck (by simpa using hφ)).symm)
    (dead := fun h => absurd (by decide) h)
    (gone := fun _ _ _ => nofun)
    (new := fun h => absurd (by decide) h)

/-- every connection has the table of pending calls and the flag it had, and no connection came or went -/
def CkEq (s s' : St) : Prop := ∀ c, ck s' c = ck s c

theorem CkEq.refl (s : St) : CkEq s s := fun _ => rfl
theorem CkEq.trans {a b c : St} (h1 : CkEq a b) (h2 : CkEq b c) : CkEq a c := fun x => (h2 x).trans (h1 x)
theorem CkEq.le {s s' : St} (h : CkEq s s') : CkLe s s' := fun c v hv => (h c) ▸ hv

theorem CkEq.frame : Frame CkEq [.conn .alive, .conn .calls, .connDead, .connNew, .connGone] :=
  Frame.ofConns (f := Option.map fun k => (k.calls, k.alive)) (r := fun a b => b = a) ck_eq _
    (refl := fun _ => rfl) (trans := fun h1 h2 => h2.trans h1)
    (part := fun _ hφ _ _ ha => congrArg some (ha.ck (by simpa using hφ)))
    (dead := fun h => absurd (by decide) h) (gone := fun h => absurd (by decide) h) (new := fun h => absurd (by decide) h)

@[simp, grind =] theorem ck_removeBusListener (s : St) (k : Cookie) (c : ConnId) : ck (removeBusListener s k) c = ck s c :=
  ((removeBusListener_fp s k).frame CkEq.frame :) c

@[grind →] theorem destroyObject_cke {s s' : St} {id serial c} {ok : Bool} : destroyObject s id serial c = .ok (s', ok) → CkEq s s' :=
  fun h => (destroyObject_fp h).frame CkEq.frame

@[grind →] theorem destroyService_cke {s s' : St} {id serial c} {ok : Bool} : destroyService s id serial c = .ok (s', ok) → CkEq s s' :=
  fun h => (destroyService_fp h).frame CkEq.frame

@[grind →] theorem abortFunctionCall_cke {s s' : St} {id serial} {ok : Bool} : abortFunctionCall s id serial = .ok (s', ok) → CkEq s s' :=
  fun h => (abortFunctionCall_fp h).frame CkEq.frame

def SameF (s s' : St) : Prop := s'.b.calls = s.b.calls ∧ s'.w.removeCalls = s.w.removeCalls ∧ s'.w.abortCalls = s.w.abortCalls

theorem SameF.refl (s : St) : SameF s s := ⟨rfl, rfl, rfl⟩
theorem SameF.trans {a b c : St} (h1 : SameF a b) (h2 : SameF b c) : SameF a c :=
  ⟨h2.1.trans h1.1, h2.2.1.trans h1.2.1, h2.2.2.trans h1.2.2⟩

theorem SameF.frame : Frame SameF [.calls, .removeCalls, .abortCalls] := by
  refine ⟨SameF.refl, SameF.trans, fun h hb => ?_⟩
  cases h
  case calls | removeCalls | abortCalls => simp at hb
  case connDead => simp [SameF]
  all_goals exact ⟨rfl, rfl, rfl⟩

@[simp, grind =] theorem removeBusListener_b_calls (s : St) (c : Cookie) : (removeBusListener s c).b.calls = s.b.calls :=
  ((removeBusListener_fp s c).frame SameF.frame).1
@[simp, grind =] theorem removeBusListener_w_removeCalls (s : St) (c : Cookie) : (removeBusListener s c).w.removeCalls = s.w.removeCalls :=
  ((removeBusListener_fp s c).frame SameF.frame).2.1
@[simp, grind =] theorem removeBusListener_w_abortCalls (s : St) (c : Cookie) : (removeBusListener s c).w.abortCalls = s.w.abortCalls :=
  ((removeBusListener_fp s c).frame SameF.frame).2.2

end Aldrin.Broker
