/-
A connection lists a channel end or a bus listener once: `ConnectionState::{senders, receivers, bus_listeners}` are hash
sets in the implementation; in the model they are lists that are only ever changed by `sinsert` / `sremove` (which is
what `Conn.agree` says of an entry that is replaced), and that keeps them free of duplicates (`NdInv`): every update of
the state but the arrival of a connection keeps `NdInv` (`NdInv.frame`). Needed where the model walks such a list and the
second visit of an entry would meet a changed state (the teardown of a connection closes every listed end).
-/
import Aldrin.Lemmas.Broker.OwnView
import Aldrin.Lemmas.Broker.Turn

namespace Aldrin.Broker
open Generated

def NdLists (t : List Cookie × List Cookie × List Cookie) : Prop := t.1.Nodup ∧ t.2.1.Nodup ∧ t.2.2.Nodup

/-- every connection lists its sender ends, receiver ends and bus listeners once -/
def NdInv (s : St) : Prop := ∀ c t, cv s c = some t → NdLists t

theorem NdInv.of_conns {s s' : St} (h : NdInv s) (hc : s'.b.conns = s.b.conns) : NdInv s' :=
  fun c t ht => h c t (by rw [← cv_of_conns hc c]; exact ht)

theorem NdInv.init : NdInv ⟨{}, {}, []⟩ := by intro c t h; simp [cv, AL.find?] at h

theorem NdInv.upd {s s' : St} {id : ConnId} (h : NdInv s)
    (hcv : ∀ c, cv s' c = if id = c then (cv s' id) else cv s c) (hid : ∀ t, cv s' id = some t → NdLists t) : NdInv s' := by
  intro c t ht
  by_cases hc : id = c
  · subst hc; exact hid t ht
  · rw [hcv c] at ht; simp [hc] at ht; exact h c t ht

theorem Conn.agree.ndLists {φ k k'} (h : Conn.agree φ k k') (hn : NdLists (k.senders, k.receivers, k.busListeners)) :
    NdLists (k'.senders, k'.receivers, k'.busListeners) := by
  cases φ
  case senders => exact ⟨h.2.nodup hn.1, h.receivers nofun ▸ hn.2.1, h.busListeners nofun ▸ hn.2.2⟩
  case receivers => exact ⟨h.senders nofun ▸ hn.1, h.2.nodup hn.2.1, h.busListeners nofun ▸ hn.2.2⟩
  case busListeners => exact ⟨h.senders nofun ▸ hn.1, h.receivers nofun ▸ hn.2.1, h.2.nodup hn.2.2⟩
  all_goals exact ⟨h.senders nofun ▸ hn.1, h.receivers nofun ▸ hn.2.1, h.busListeners nofun ▸ hn.2.2⟩

theorem NdInv.frame : Frame (fun s t => NdInv s → NdInv t) [.connNew] :=
  (Frame.ofConns (f := Option.map Conn.lists) (r := fun a b => (∀ t, a = some t → NdLists t) → ∀ t, b = some t → NdLists t) cv_eq _
    (refl := fun _ h => h) (trans := fun h1 h2 h => h2 (h1 h))
    (part := fun _ _ k _ ha hk _ e => Option.some.inj e ▸ ha.ndLists (hk k.lists rfl))
    (dead := fun _ _ h => h)
    (gone := fun _ _ _ _ => nofun)
    (new := fun h => absurd (by decide) h)).carries fun hc h c => hc c (h c)

theorem handleMessage_nd {s : St} {id : ConnId} {m : Req} {r} (h : NdInv s) (hr : handleMessage s id m = .ok r) : NdInv r.1 := by
  cases m <;> exact ((handleMessage_fp hr).frame NdInv.frame :) h

theorem handleEvent_nd {s s' : St} {e : Event} (h : NdInv s) (hr : handleEvent s e = .ok s') : NdInv s' :=
  handleEvent_inv NdInv.frame h (fun _ _ _ _ hm => handleMessage_nd h hm)
    (fun id v _ _ c x hx => by
      rw [cv_setConn] at hx
      split at hx
      · cases hx; exact ⟨List.nodup_nil, List.nodup_nil, List.nodup_nil⟩
      · exact h c x hx)
    (fun id _ => NdInv.frame.step (.connDead s id) (by decide) h) hr

theorem processOne_nd {s s' : St} (h : NdInv s) (hr : processOne s = some (.ok s')) : NdInv s' :=
  ((processOne_fp hr).frame NdInv.frame :) h

end Aldrin.Broker
