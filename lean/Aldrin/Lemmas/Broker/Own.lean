/-
The ownership invariant `OwnP` (`Lemmas/Broker/XOwn.lean`) on states of the broker model (`Own`): a connection holds a
channel end it has claimed and a bus listener it has created; who holds something lists it
(`ConnectionState::{senders, receivers, bus_listeners}`), and what a connection lists it holds; for every history (`run_own`).

Names: `own s` is the view "who holds what" (of type `OwnView`, `XOwn.lean`), `co s` what every connection lists, computed
from `cv` (which is what `OwnView.lean` is about), `Own pc s` the invariant.
-/
import Aldrin.Lemmas.Broker.Outcomes
import Aldrin.Lemmas.Broker.OwnView
import Aldrin.Lemmas.Broker.XOwn
import Aldrin.Lemmas.Broker.Gauge
import Aldrin.Lemmas.Broker.Turn

namespace Aldrin.Broker
open Generated

def ChanEnd.kind : ChanEnd → HKind
  | .sender => .snd
  | .receiver => .rcv

/-- who holds what: claimed channel ends and bus listeners -/
def own (s : St) : OwnView
  | (.snd, ck) => match AL.find? ck s.b.channels with
    | some c => endOwner c.sender
    | none => none
  | (.rcv, ck) => match AL.find? ck s.b.channels with
    | some c => endOwner c.receiver
    | none => none
  | (.lsn, ck) => match AL.find? ck s.b.listeners with
    | some l => some l.conn
    | none => none

def holds (t : List Cookie × List Cookie × List Cookie) : List Hold :=
  t.1.map (fun c => (HKind.snd, c)) ++ t.2.1.map (fun c => (HKind.rcv, c)) ++ t.2.2.map (fun c => (HKind.lsn, c))

theorem mem_holds (t : List Cookie × List Cookie × List Cookie) (x : Hold) :
    x ∈ holds t ↔ (x.1 = .snd ∧ x.2 ∈ t.1) ∨ (x.1 = .rcv ∧ x.2 ∈ t.2.1) ∨ (x.1 = .lsn ∧ x.2 ∈ t.2.2) := by
  obtain ⟨k, c⟩ := x
  simp only [holds, List.mem_append, List.mem_map, Prod.mk.injEq]
  cases k <;> simp

/-- what a connection lists -/
def co (s : St) (c : ConnId) : Option (List Hold) := (cv s c).map holds

def Own (pc : Option (ConnId × List Hold)) (s : St) : Prop := OwnP pc (own s) (co s)

variable {pc : Option (ConnId × List Hold)}

/-- nobody has come to hold anything -/
def OwnLe (s s' : St) : Prop := ∀ x o, own s' x = some o → own s x = some o
def OwnEq (s s' : St) : Prop := ∀ x, own s' x = own s x

theorem OwnLe.refl (s : St) : OwnLe s s := fun _ _ h => h
theorem OwnLe.trans {a b c : St} (h1 : OwnLe a b) (h2 : OwnLe b c) : OwnLe a c := fun x o h => h1 x o (h2 x o h)
theorem OwnEq.le {s s' : St} (h : OwnEq s s') : OwnLe s s' := fun x o hx => (h x) ▸ hx
theorem OwnEq.refl (s : St) : OwnEq s s := fun _ => rfl
theorem OwnEq.trans {a b c : St} (h1 : OwnEq a b) (h2 : OwnEq b c) : OwnEq a c := fun x => (h2 x).trans (h1 x)

theorem OwnEq.of_eq {s s' : St} (h1 : s'.b.channels = s.b.channels) (h2 : s'.b.listeners = s.b.listeners) : OwnEq s s' := by
  intro x; obtain ⟨k, c⟩ := x; cases k <;> simp [own, h1, h2]

theorem co_of_cve {s s' : St} (h : CvEq s s') (c : ConnId) : co s' c = co s c := by simp [co, h c]

theorem Own.of_views {s' : St} {OWN : OwnView} {CO : CoView} (h : OwnP pc OWN CO) (h1 : ∀ x, own s' x = OWN x) (h2 : ∀ c, co s' c = CO c) :
    Own pc s' := by
  unfold Own
  have e1 : own s' = OWN := funext h1
  have e2 : co s' = CO := funext h2
  rw [e1, e2]; exact h

theorem Own.of_frame {s s' : St} (h : Own pc s) (h1 : OwnEq s s') (h2 : CvEq s s') : Own pc s' :=
  Own.of_views h h1 (co_of_cve h2)

theorem Own.frame : Frame (fun s t => Own pc s → Own pc t)
    [.channels, .listeners, .conn .senders, .conn .receivers, .conn .busListeners, .connGone, .connNew] :=
  (channels_frame.and (listeners_frame.and CvEq.frame)).carries (fun hs h => h.of_frame (OwnEq.of_eq hs.1 hs.2.1) hs.2.2)

theorem Own.init : Own none ⟨{}, {}, []⟩ := by
  refine Own.of_views OwnP.init ?_ ?_
  · intro x; obtain ⟨k, c⟩ := x; cases k <;> rfl
  · intro c; rfl

theorem co_find {s : St} {id : ConnId} {conn : Conn} (h : AL.find? id s.b.conns = some conn) :
    co s id = some (holds (conn.senders, conn.receivers, conn.busListeners)) := by
  simp [co, cv, h]
theorem co_find_none {s : St} {id : ConnId} (h : AL.find? id s.b.conns = none) : co s id = none := by
  simp [co, cv, h]

theorem Own.holder {s : St} (h : Own none s) {x : Hold} {o : ConnId} (hx : own s x = some o) :
    ∃ conn, AL.find? o s.b.conns = some conn ∧ x ∈ holds (conn.senders, conn.receivers, conn.busListeners) := by
  obtain ⟨L, hl, hm⟩ := OwnP.listed h hx
  cases hc : AL.find? o s.b.conns with
  | none => rw [co_find_none hc] at hl; cases hl
  | some conn => rw [co_find hc] at hl; cases hl; exact ⟨conn, rfl, hm⟩

theorem own_chan {s : St} {ck : Cookie} {ch : Chan} (h : AL.find? ck s.b.channels = some ch) :
    own s (.snd, ck) = endOwner ch.sender ∧ own s (.rcv, ck) = endOwner ch.receiver := by
  simp [own, h]

theorem own_chan_none {s : St} {ck : Cookie} (h : AL.find? ck s.b.channels = none) (e : ChanEnd) : own s (e.kind, ck) = none := by
  cases e <;> simp [own, ChanEnd.kind, h]

theorem own_end {s : St} {ck : Cookie} {ch : Chan} (h : AL.find? ck s.b.channels = some ch) (e : ChanEnd) :
    own s (e.kind, ck) = endOwner (ch.endState e) := by
  cases e
  · exact (own_chan h).1
  · exact (own_chan h).2

theorem Own.listed_end {s : St} (h : Own pc s) {id : ConnId} {conn : Conn} (hc : AL.find? id s.b.conns = some conn) {e : ChanEnd}
    {ck : Cookie} (hm : ck ∈ (match e with | .sender => conn.senders | .receiver => conn.receivers)) :
    ∃ ch cap, AL.find? ck s.b.channels = some ch ∧ ch.endState e = .claimed id cap := by
  have hx : (e.kind, ck) ∈ holds (conn.senders, conn.receivers, conn.busListeners) := by
    rw [mem_holds]; cases e
    · exact Or.inl ⟨rfl, hm⟩
    · exact Or.inr (Or.inl ⟨rfl, hm⟩)
  have ho := h.o2 id _ _ (co_find hc) hx
  cases hf : AL.find? ck s.b.channels with
  | none => rw [own_chan_none hf e] at ho; cases ho
  | some ch =>
    rw [own_end hf e] at ho
    obtain ⟨cap, hcap⟩ := endOwner_eq_some ho
    exact ⟨ch, cap, rfl, hcap⟩

/-- who holds what after the channel `ck` got the value `ch'`; the ends in either order (`e`) -/
theorem own_setChannel {t s : St} {ck : Cookie} {ch' : Chan} (hl : t.b.listeners = s.b.listeners)
    (hc : t.b.channels = AL.insert ck ch' s.b.channels) (e : ChanEnd) :
    own t = upd (upd (own s) (e.other.kind, ck) (endOwner (ch'.endState e.other))) (e.kind, ck) (endOwner (ch'.endState e)) := by
  funext x
  obtain ⟨k, c⟩ := x
  cases e <;> cases k <;>
    simp only [own, hl, hc, AL.find?_insert, ChanEnd.kind, ChanEnd.other, Chan.endState, upd_apply, Prod.mk.injEq, reduceCtorEq,
      false_and, true_and, ↓reduceIte]
  all_goals (by_cases hk : ck = c <;> simp [hk])

theorem own_dropChannel {t s : St} {ck : Cookie} (hl : t.b.listeners = s.b.listeners)
    (hc : t.b.channels = AL.erase ck s.b.channels) (e : ChanEnd) :
    own t = upd (upd (own s) (e.other.kind, ck) none) (e.kind, ck) none := by
  funext x
  obtain ⟨k, c⟩ := x
  cases e <;> cases k <;>
    simp only [own, hl, hc, AL.find?_erase, ChanEnd.kind, ChanEnd.other, upd_apply, Prod.mk.injEq, reduceCtorEq,
      false_and, true_and, ↓reduceIte]
  all_goals (by_cases hk : ck = c <;> simp [hk])

theorem own_setListener {t s : St} {ck : Cookie} {l : Listener} (hc : t.b.channels = s.b.channels)
    (hl : t.b.listeners = AL.insert ck l s.b.listeners) : own t = upd (own s) (.lsn, ck) (some l.conn) := by
  funext x
  obtain ⟨k, c⟩ := x
  cases k <;> simp only [own, hc, hl, AL.find?_insert, upd_apply, Prod.mk.injEq, reduceCtorEq, false_and, true_and, ↓reduceIte]
  by_cases hk : ck = c <;> simp [hk]

theorem own_dropListener {t s : St} {ck : Cookie} (hc : t.b.channels = s.b.channels)
    (hl : t.b.listeners = AL.erase ck s.b.listeners) : own t = upd (own s) (.lsn, ck) none := by
  funext x
  obtain ⟨k, c⟩ := x
  cases k <;> simp only [own, hc, hl, AL.find?_erase, upd_apply, Prod.mk.injEq, reduceCtorEq, false_and, true_and, ↓reduceIte]
  by_cases hk : ck = c <;> simp [hk]

theorem OwnLe.eq_none {s t : St} {x : Hold} (h : OwnLe s t) (hx : own s x = none) : own t x = none :=
  Option.eq_none_iff_forall_ne_some.2 fun o ho => nomatch hx.symm.trans (h x o ho)

theorem OwnLe.of_upd {s t : St} {x : Hold} (hv : own t = upd (own s) x none) : own t x = none ∧ OwnLe s t :=
  ⟨by rw [hv]; exact upd_self, fun y o hy => (upd_none_eq_some ((congrFun hv y).symm.trans hy)).2⟩

theorem holds_dropEnd (e : ChanEnd) (ck : Cookie) (c : Conn) (y : Hold) :
    y ∈ holds (dropEnd e ck c).lists ↔ y ≠ (e.kind, ck) ∧ y ∈ holds c.lists := by
  obtain ⟨k, c'⟩ := y
  cases e <;> simp only [dropEnd, ChanEnd.kind, mem_holds, mem_sremove, Prod.mk.injEq, ne_eq] <;> cases k <;> simp

theorem holds_addEnd (e : ChanEnd) (ck : Cookie) (c : Conn) (y : Hold) :
    y ∈ holds (addEnd e ck c).lists ↔ y = (e.kind, ck) ∨ y ∈ holds c.lists := by
  obtain ⟨k, c'⟩ := y
  cases e <;> simp only [addEnd, ChanEnd.kind, mem_holds, mem_sinsert, Prod.mk.injEq] <;> cases k <;> simp

theorem holds_sinsert_lsn (ck : Cookie) (a b c : List Cookie) (y : Hold) :
    y ∈ holds (a, b, sinsert ck c) ↔ y = (.lsn, ck) ∨ y ∈ holds (a, b, c) := by
  obtain ⟨k, c'⟩ := y
  simp only [mem_holds, mem_sinsert, Prod.mk.injEq]
  cases k <;> simp

theorem holds_sremove_lsn (ck : Cookie) (a b c : List Cookie) (y : Hold) :
    y ∈ holds (a, b, sremove ck c) ↔ y ≠ (.lsn, ck) ∧ y ∈ holds (a, b, c) := by
  obtain ⟨k, c'⟩ := y
  simp only [mem_holds, mem_sremove, Prod.mk.injEq, ne_eq]
  cases k <;> simp

theorem St.updConn_of_none {s : St} {id : ConnId} {f : Conn → Conn} (h : s.conn? id = none) : s.updConn id f = s := by
  unfold St.updConn; rw [h]

theorem co_updConn {s : St} {id : ConnId} {conn : Conn} (f : Conn → Conn) (h : s.conn? id = some conn) :
    co (s.updConn id f) = upd (co s) id (some (holds (f conn).lists)) := by
  funext c
  simp only [co, view_updConn cv_eq, h, upd_apply]
  split <;> simp

/-- the end is off the list of its owner -/
theorem rceConn_own {s : St} {ck : Cookie} {e : ChanEnd} {owner : Option ConnId} (h : Own pc s)
    (hpre : ∀ o', own s (e.kind, ck) = some o' → owner = some o') :
    OwnP pc (upd (own s) (e.kind, ck) none) (co (rceConn s ck e owner)) := by
  unfold rceConn
  cases owner with
  | none => rw [upd_same (Option.eq_none_iff_forall_ne_some.2 fun o' ho => nomatch hpre o' ho)]; exact h
  | some o =>
    dsimp only
    cases hconn : s.conn? o with
    | none =>
      rw [St.updConn_of_none hconn]
      exact OwnP.release_gone h fun id hid => by cases hpre id hid; exact co_find_none hconn
    | some conn =>
      rw [co_updConn _ hconn]
      exact h.release_list (fun o' ho => (Option.some.inj (hpre o' ho)).symm) (co_find hconn) (holds_dropEnd e ck conn)

/-- **`remove_channel_end`**, called for an end that — if it is claimed at all — is claimed by `owner` -/
theorem removeChannelEnd_own {s s' : St} {ck : Cookie} {e : ChanEnd} {owner : Option ConnId} (h : Own pc s)
    (hpre : ∀ o', own s (e.kind, ck) = some o' → owner = some o')
    (hr : removeChannelEnd s ck e owner = .ok s') : Own pc s' ∧ own s' (e.kind, ck) = none ∧ OwnLe s s' := by
  rcases removeChannelEnd_outcome hr with ⟨hn, rfl⟩ | ⟨ch, ch', other, hch, hc, rfl⟩
  · exact ⟨h, own_chan_none hn e, OwnLe.refl _⟩
  obtain ⟨-, c1, c2, c3⟩ := Chan.close_shape hc
  obtain ⟨hl, hconns, hcases⟩ := rceFinish_shape (rceConn s ck e owner) ck e ch' other
  have hcv := CvEq.of_conns hconns
  rw [rceConn_listeners] at hl
  rw [rceConn_channels] at hcases
  have P1 := rceConn_own h hpre
  rcases hcases with ⟨-, -, -, hchan, -⟩ | ⟨hoth, hchan, -⟩
  · -- the channel stays, with the end closed
    have hv : own (rceFinish (rceConn s ck e owner) ck e ch' other) = upd (own s) (e.kind, ck) none := by
      rw [own_setChannel hl hchan e, c1, c2, ← own_end hch e.other, upd_same rfl]; rfl
    exact ⟨Own.of_views P1 (congrFun hv) (co_of_cve hcv), OwnLe.of_upd hv⟩
  · -- the channel goes: the other end is unclaimed, closed, or held by a connection that is not there
    have hv : own (rceFinish (rceConn s ck e owner) ck e ch' other) = upd (upd (own s) (e.kind, ck) none) (e.other.kind, ck) none := by
      rw [own_dropChannel hl (hchan.trans (AL.erase_insert ..)) e.other]; cases e <;> rfl
    have P2 : OwnP pc (upd (upd (own s) (e.kind, ck) none) (e.other.kind, ck) none) (co (rceConn s ck e owner)) := by
      refine P1.release_gone fun id hid => ?_
      have hid := (upd_none_eq_some hid).2
      rw [own_end hch, ← c3] at hid
      rcases hoth with hn | ⟨oid, ho, hgone⟩
      · rw [hn] at hid; cases hid
      · rw [ho] at hid; cases hid
        exact co_find_none hgone
    refine ⟨Own.of_views P2 (congrFun hv) (co_of_cve hcv), ?_, fun y o hy => ?_⟩
    · rw [hv]; cases e <;> simp [ChanEnd.kind, ChanEnd.other]
    · exact (upd_none_eq_some (upd_none_eq_some ((congrFun hv y).symm.trans hy)).2).2

/-! ### `remove_bus_listener` -/

theorem removeBusListener_own {s : St} (ck : Cookie) (h : Own pc s) :
    Own pc (removeBusListener s ck) ∧ own (removeBusListener s ck) (.lsn, ck) = none ∧ OwnLe s (removeBusListener s ck) := by
  unfold removeBusListener
  split
  · next hl => exact ⟨h, by simp [own, hl], OwnLe.refl _⟩
  next l hl =>
  have hown : own s (.lsn, ck) = some l.conn := by simp [own, hl]
  refine ⟨Own.of_views ?_ (congrFun (own_dropListener (s := s) (ck := ck) (by simp) (by simp))) (fun _ => rfl),
    OwnLe.of_upd (own_dropListener (by simp) (by simp))⟩
  -- the listener is off the list of its connection, if that is there
  show OwnP pc _ (co ((s.setListeners (AL.erase ck s.b.listeners)).updConn l.conn
    fun c => { c with busListeners := sremove ck c.busListeners }))
  cases hconn : (s.setListeners (AL.erase ck s.b.listeners)).conn? l.conn with
  | none =>
    rw [St.updConn_of_none hconn]
    exact OwnP.release_gone h fun id hid => by cases hown.symm.trans hid; exact co_find_none hconn
  | some conn =>
    rw [co_updConn _ hconn]
    exact h.release_list (fun o ho => Option.some.inj (ho.symm.trans hown)) (co_find hconn) (holds_sremove_lsn ck _ _ _)

/-- a connection comes to hold something nobody held -/
theorem acquire_state {s t : St} {id : ConnId} {conn : Conn} {x : Hold} {lists' : List Cookie × List Cookie × List Cookie}
    (h : Own none s) (hconn : AL.find? id s.b.conns = some conn) (hfree : own s x = none)
    (hown : ∀ y, own t y = upd (own s) x (some id) y)
    (hcv : ∀ c, cv t c = if id = c then some lists' else cv s c)
    (hL : ∀ y, y ∈ holds lists' ↔ y = x ∨ y ∈ holds (conn.senders, conn.receivers, conn.busListeners)) : Own none t := by
  refine Own.of_views (OwnP.acquire h hfree (co_find hconn) hL) hown (fun c => ?_)
  simp only [co, hcv, upd_apply]
  split <;> simp [co]


/-- a connection comes to hold an end of a channel that nobody held; the other end stays whose it was -/
theorem Own.acquire_end {s t : St} {id : ConnId} {conn : Conn} {ck : Cookie} {e : ChanEnd} {ch' : Chan} (h : Own none s)
    (hconn : s.conn? id = some conn) (hfree : own s (e.kind, ck) = none) (h1 : endOwner (ch'.endState e) = some id)
    (h2 : own s (e.other.kind, ck) = endOwner (ch'.endState e.other))
    (hl : t.b.listeners = s.b.listeners) (hc : t.b.channels = AL.insert ck ch' s.b.channels)
    (hcv : ∀ c, cv t c = if id = c then some (addEnd e ck conn).lists else cv s c) : Own none t := by
  refine acquire_state (x := (e.kind, ck)) h hconn hfree (fun y => ?_) hcv (holds_addEnd e ck conn)
  rw [own_setChannel hl hc e, ← h2, upd_same rfl, h1]

theorem createChannel_own {s s' : St} {id serial e cap} {ok : Bool} (hg : G2 s) (h : Own none s)
    (hr : createChannel s id serial e cap = .ok (s', ok)) : Own none s' := by
  rcases createChannel_outcome hr with hr | ⟨conn, hconn, hr⟩ <;> cases hr
  · exact h
  · have hfresh : AL.find? s.b.nextCookie s.b.channels = none := KeysBelow_fresh hg.1.below
    refine (Own.frame.send _ _ _ _) (h.acquire_end (e := e) (ch' := Chan.fresh e id cap) hconn (own_chan_none hfresh e) ?_
      ((own_chan_none hfresh e.other).trans ?_) (by simp [openChannel]) (by simp [openChannel])
      (fun c => by simp [openChannel, view_updConn cv_eq, show AL.find? id s.b.conns = some conn from hconn]))
    all_goals cases e <;> rfl

theorem claimChannelEnd_own {s s' : St} {id serial ck e cap} {ok : Bool} (h : Own none s)
    (hr : claimChannelEnd s id serial ck e cap = .ok (s', ok)) : Own none s' := by
  rcases claimChannelEnd_outcome hr with hf | ⟨conn, ch, ch', other, res, hconn, hch, hcl, hf⟩
  · exact hf.frame Own.frame (by decide) h
  · obtain ⟨q0, q1, q2, q3⟩ := Chan.claim_owner hcl
    exact hf.frame Own.frame (by decide)
      (h.acquire_end hconn ((own_end hch e).trans q0) q1 ((own_end hch e.other).trans (q3.trans q2.symm))
        (by simp [claimEnd]) (by simp [claimEnd])
        (fun c => by simp [claimEnd, view_updConn cv_eq, show AL.find? id s.b.conns = some conn from hconn]))

theorem createBusListener_own {s s' : St} {id serial} {ok : Bool} (hg : G2 s) (h : Own none s)
    (hr : createBusListener s id serial = .ok (s', ok)) : Own none s' := by
  rcases createBusListener_outcome hr with hf | ⟨conn, hconn, hr⟩
  · exact hf.frame Own.frame (by decide) h
  obtain rfl : s' = _ := hr
  have hconn : AL.find? id s.b.conns = some conn := hconn
  have hfresh : AL.find? s.b.nextCookie s.b.listeners = none := KeysBelow_fresh hg.2.below
  refine acquire_state (x := (.lsn, s.b.nextCookie)) (lists' := (conn.senders, conn.receivers, sinsert s.b.nextCookie conn.busListeners))
    h hconn (by simp [own, hfresh]) (congrFun (own_setListener (l := { conn := id }) ?_ ?_)) (fun c => ?_) (holds_sinsert_lsn _ _ _ _)
  · simp [addListener]
  · simp [addListener]
  · simp [addListener, view_updConn cv_eq, St.conn?, hconn]

theorem closeChannelEnd_own {s s' : St} {id serial ck e} {ok : Bool} (h : Own none s)
    (hr : closeChannelEnd s id serial ck e = .ok (s', ok)) : Own none s' := by
  rcases closeChannelEnd_outcome hr with hf | ⟨ch, claimed, hch, hcc, hr⟩
  · exact hf.frame Own.frame (by decide) h
  · -- the end is closed: it is the requester's, if it is claimed at all
    refine (removeChannelEnd_own ((Own.frame.send _ _ _ _) h) (fun o' ho => checkClose_pre hcc o' ?_) hr).1
    rwa [own_end (s := (s.send id _).1) (by simpa using hch) e] at ho

/-- the channel with an end updated by one of the same owner -/
theorem Own.setChannel {s : St} {ck : Cookie} {ch ch' : Chan} (h : Own none s) (hch : AL.find? ck s.b.channels = some ch)
    (hq : endOwner ch'.sender = endOwner ch.sender ∧ endOwner ch'.receiver = endOwner ch.receiver) :
    Own none (s.setChannels (AL.insert ck ch' s.b.channels)) := by
  -- the two updates of the view put in what is there
  have hv : own (s.setChannels (AL.insert ck ch' s.b.channels)) = own s := by
    rw [own_setChannel (t := s.setChannels (AL.insert ck ch' s.b.channels)) (s := s) rfl rfl .sender]
    simp only [Chan.endState, ChanEnd.other, ChanEnd.kind]
    rw [hq.1, hq.2, ← (own_chan hch).1, ← (own_chan hch).2, upd_same rfl, upd_same rfl]
  exact h.of_frame (congrFun hv) (CvEq.of_conns rfl)

theorem addChannelCapacity_own {s s' : St} {id ck cap} {ok : Bool} (h : Own none s)
    (hr : addChannelCapacity s id ck cap = .ok (s', ok)) : Own none s' := by
  rcases addChannelCapacity_outcome hr with hr | ⟨ch, hch, hac, hr⟩ | ⟨ch, ch', fwd, hch, hac, hr⟩
  · cases hr; exact h
  · -- an overflow: the receiver end, which is the requester's, goes
    refine (removeChannelEnd_own (e := .receiver) h (fun o' ho => ?_) hr).1
    rw [own_end hch .receiver, show ch.endState .receiver = ch.receiver from rfl, addCapacity_none hac] at ho
    exact ho
  · cases hr; exact (passCapacity_fp ..).frame Own.frame (by decide) (h.setChannel hch (addCapacity_owner hac))

theorem sendItem_own {s s' : St} {id ck p} {ok : Bool} (h : Own none s)
    (hr : sendItem s id ck p = .ok (s', ok)) : Own none s' := by
  rcases sendItem_outcome hr with hr | ⟨ch, t, hch, hsi, h1, h2⟩ | ⟨ch, hch, hsi, hr⟩ | ⟨_, ch, ch', rid, add, -, hch, hsi, hr⟩
  · cases hr; exact h
  · -- the receiver end is unclaimed: both ends go, and the sender end is the sender's
    obtain ⟨a1, _, a3⟩ := removeChannelEnd_own (e := .receiver) (owner := none) h (fun o' ho => by
      rw [own_end hch .receiver, show ch.endState .receiver = ch.receiver from rfl, sendItem_runclaimed hsi] at ho; cases ho) h1
    refine (removeChannelEnd_own (e := .sender) (owner := some id) a1 (fun o' ho => ?_) h2).1
    have := a3 _ _ ho
    rw [own_end hch .sender, show ch.endState .sender = ch.sender from rfl, sendItem_sender hsi (by simp)] at this; exact this
  · -- no capacity left: the sender end goes
    refine (removeChannelEnd_own (e := .sender) (owner := some id) h (fun o' ho => ?_) hr).1
    rw [own_end hch .sender, show ch.endState .sender = ch.sender from rfl, sendItem_sender hsi (by simp)] at ho; exact ho
  · -- the item goes on: both ends of the channel stay whose they were
    rw [show s' = _ from congrArg Prod.fst hr]
    exact (passItem_fp ..).frame Own.frame (by decide) (h.setChannel hch (sendItem_owner hsi))

theorem destroyBusListener_own {s s' : St} {id serial ck} {ok : Bool} (h : Own none s)
    (hr : destroyBusListener s id serial ck = .ok (s', ok)) : Own none s' := by
  rcases destroyBusListener_outcome hr with hf | hs
  · exact hf.frame Own.frame (by decide) h
  · cases hs; exact (removeBusListener_own _ ((Own.frame.send _ _ _ _) h)).1

/-- a listener replaced by one of the same connection -/
theorem Own.setListener {s : St} {ck : Cookie} {l l' : Listener} (h : Own none s) (hl : AL.find? ck s.b.listeners = some l)
    (hc : l'.conn = l.conn) : Own none (s.setListeners (AL.insert ck l' s.b.listeners)) := by
  refine h.of_frame (congrFun ?_) (CvEq.of_conns rfl)
  rw [own_setListener (t := s.setListeners (AL.insert ck l' s.b.listeners)) (s := s) rfl rfl, upd_same]
  simp [own, hl, hc]

theorem updListener_own {s s' : St} {id ck} {f : Listener → Listener} {ok : Bool} (hf : ∀ l, (f l).conn = l.conn) (h : Own none s)
    (hr : updListener s id ck f = .ok (s', ok)) : Own none s' := by
  rcases updListener_outcome hr with hr | ⟨l, hl, -, hr⟩ <;> cases hr
  · exact h
  · exact h.setListener hl (hf l)

theorem stopBusListener_own {s s' : St} {id serial ck} {ok : Bool} (h : Own none s)
    (hr : stopBusListener s id serial ck = .ok (s', ok)) : Own none s' := by
  rcases stopBusListener_outcome hr with hf | ⟨l, hl, -, hr⟩
  · exact hf.frame Own.frame (by decide) h
  · cases hr; exact (Own.frame.send _ _ _ _) (h.setListener hl rfl)

theorem startBusListener_own {s s' : St} {id serial ck sc} {ok : Bool} (h : Own none s)
    (hr : startBusListener s id serial ck sc = .ok (s', ok)) : Own none s' := by
  rcases startBusListener_outcome hr with hf | ⟨l, hl, -, hf⟩
  · exact hf.frame Own.frame (by decide) h
  · exact hf.frame Own.frame (by decide) (h.setListener hl rfl)

theorem handleMessage_own {s s' : St} {id : ConnId} {m : Req} {ok : Bool} (hg : G2 s) (h : Own none s)
    (hr : handleMessage s id m = .ok (s', ok)) : Own none s' := by
  cases m
  case createChannel => exact createChannel_own hg h hr
  case closeChannelEnd => exact closeChannelEnd_own h hr
  case claimChannelEnd => exact claimChannelEnd_own h hr
  case sendItem => exact sendItem_own h hr
  case addChannelCapacity => exact addChannelCapacity_own h hr
  case createBusListener => exact createBusListener_own hg h hr
  case destroyBusListener => exact destroyBusListener_own h hr
  case addFilter f => exact updListener_own (f := fun x => x.addFilter f) (fun l => rfl) h hr
  case removeFilter f => exact updListener_own (f := fun x => x.removeFilter f) (fun l => rfl) h hr
  case clearFilters => exact updListener_own (f := fun x => x.clearFilters) (fun l => rfl) h hr
  case startBusListener => exact startBusListener_own h hr
  case stopBusListener => exact stopBusListener_own h hr
  all_goals exact (handleMessage_fp hr).frame Own.frame (by fp_decide) h

theorem removeEnds_own {id : ConnId} {L : List Hold} {e : ChanEnd} {l : List Cookie} {s s' : St} (h : Own (some (id, L)) s)
    (hL : ∀ ck, ck ∈ l → (e.kind, ck) ∈ L) (hr : foldE (fun s c => removeChannelEnd s c e (some id)) s l = .ok s') :
    Own (some (id, L)) s' ∧ OwnLe s s' ∧ ∀ ck, ck ∈ l → own s' (e.kind, ck) = none := by
  induction l generalizing s with
  | nil => simp [foldE] at hr; subst hr; exact ⟨h, OwnLe.refl _, by simp⟩
  | cons a l ih =>
    simp only [foldE] at hr
    split at hr
    · simp at hr
    · rename_i s1 h1
      obtain ⟨r1, r2, r3⟩ := removeChannelEnd_own h (fun o' ho => by
        have := h.o4 id L (e.kind, a) o' rfl (hL a (by simp)) ho
        rw [this]) h1
      obtain ⟨q1, q2, q3⟩ := ih r1 (fun ck hck => hL ck (by simp [hck])) hr
      refine ⟨q1, OwnLe.trans r3 q2, fun ck hck => ?_⟩
      rcases List.mem_cons.mp hck with rfl | hck'
      · exact q2.eq_none r2
      · exact q3 ck hck'

theorem removeListeners_own (l : List Cookie) {s : St} (h : Own pc s) :
    Own pc (l.foldl removeBusListener s) ∧ OwnLe s (l.foldl removeBusListener s) ∧ ∀ ck, ck ∈ l → own (l.foldl removeBusListener s) (.lsn, ck) = none := by
  induction l generalizing s with
  | nil => exact ⟨h, OwnLe.refl _, by simp⟩
  | cons a l ih =>
    simp only [List.foldl_cons]
    obtain ⟨r1, r2, r3⟩ := removeBusListener_own a h
    obtain ⟨q1, q2, q3⟩ := ih r1
    refine ⟨q1, OwnLe.trans r3 q2, fun ck hck => ?_⟩
    rcases List.mem_cons.mp hck with rfl | hck'
    · exact q2.eq_none r2
    · exact q3 ck hck'

theorem co_setConns_erase (s : St) (id c : ConnId) : co (s.setConns (AL.erase id s.b.conns)) c = upd (co s) id none c := by
  rw [co, view_eraseConn cv_eq, upd_apply]; split <;> rfl

theorem OwnLe.frame : Frame OwnLe [.channels, .listeners] :=
  ⟨OwnLe.refl, OwnLe.trans, fun hp hb =>
    let h := (channels_frame.and listeners_frame).step hp hb
    (OwnEq.of_eq h.1 h.2).le⟩

theorem shutdownConnection_own {s s' : St} {id b} (h : Own none s) (hr : shutdownConnection s id b = .ok s') :
    Own none s' ∧ OwnLe s s' := by
  rcases shutdownConnection_ok hr with ⟨-, rfl⟩ | ⟨⟨st⟩⟩
  · exact ⟨h, .refl _⟩
  -- the connection goes out of the map
  have i0 : Own (some (id, holds (st.conn.senders, st.conn.receivers, st.conn.busListeners)))
      (st.told.setConns (AL.erase id st.told.b.conns)) :=
    Own.of_views (OwnP.remove_conn (st.told_fp.frame Own.frame (by decide) h) (co_find (st.told_conns ▸ st.entry)))
      (OwnEq.of_eq rfl rfl) (co_setConns_erase st.told id)
  have le0 : OwnLe s (st.told.setConns (AL.erase id st.told.b.conns)) :=
    (st.told_fp.frame OwnLe.frame).trans (OwnLe.frame.step (.connGone st.told id) (by decide))
  obtain ⟨j1, j2, j3⟩ := removeListeners_own st.conn.busListeners i0
  -- its objects and subscriptions: nobody comes to hold anything
  have f14 : Fp (removeObjectFoot ++ dropSubscriptionsFoot) _ st.noSubs :=
    (Fp.foldE (fun _ _ _ h => removeObject_fp h) _ _ _ st.objects).mono.trans st.subs.mono
  have i4 := f14.frame Own.frame (by decide) j1
  have le4 := f14.frame OwnLe.frame
  obtain ⟨k1, k2, k3⟩ := removeEnds_own (e := .sender) i4 (fun ck hck => by rw [mem_holds]; exact Or.inl ⟨rfl, hck⟩)
    st.senders
  obtain ⟨m1, m2, m3⟩ := removeEnds_own (e := .receiver) k1 (fun ck hck => by rw [mem_holds]; exact Or.inr (Or.inl ⟨rfl, hck⟩))
    st.receivers
  -- nothing of what the connection listed is held by it any more
  have hclear : ∀ x, x ∈ holds (st.conn.senders, st.conn.receivers, st.conn.busListeners) → own st.noReceivers x = none := by
    intro x hx
    obtain ⟨k, ck⟩ := x
    rw [mem_holds] at hx
    rcases hx with ⟨e1, e2⟩ | ⟨e1, e2⟩ | ⟨e1, e2⟩ <;> cases e1
    · exact m2.eq_none (k3 ck e2)
    · exact m3 ck e2
    · exact ((le4.trans k2).trans m2).eq_none (j3 ck e2)
  have f67 := (queueAborts_fp st.noReceivers st.conn.calls).mono (W' := [.abortCalls, .stat .numConnections] ++ introspectionFoot)
    |>.trans
    (removeIntrospectionConn_fp st.rest).mono
  exact ⟨f67.frame Own.frame (by decide) (OwnP.pc_clear m1 hclear),
    (((le0.trans j2).trans le4).trans k2).trans (m2.trans (f67.frame OwnLe.frame))⟩

theorem handleEvent_own {s s' : St} {e : Event} (hg : G2 s) (h : Own none s) (hr : handleEvent s e = .ok s') : Own none s' :=
  handleEvent_inv Own.frame h (fun _ _ _ _ hm => handleMessage_own hg h hm)
    (fun id v _ hnone => Own.of_views (OwnP.new_conn h (co_find_none hnone)) (OwnEq.of_eq rfl rfl) (fun c => by
      simp only [co, cv_setConn, upd_apply]
      split <;> simp [holds, co]))
    (fun id _ => Own.frame.step (.connDead s id) (by decide) h) hr

theorem handleEvent_ownLe {s s' : St} {e : Event} (he : ∀ id m, e ≠ .msg id m) (hr : handleEvent s e = .ok s') : OwnLe s s' := by
  cases e
  case msg id m => exact absurd rfl (he id m)
  all_goals exact (handleEvent_fp hr).frame OwnLe.frame

theorem processOne_own {s s' : St} (h : Own none s) (hr : processOne s = some (.ok s')) : Own none s' ∧ OwnLe s s' :=
  processOne_inv (P := fun t => Own none t ∧ OwnLe s t)
    ((Own.frame.and OwnLe.frame).carries fun hs hp => ⟨hs.1 hp.1, hp.2.trans hs.2⟩) ⟨h, .refl s⟩ hr
    fun _ _ _ hp hr => ⟨(shutdownConnection_own hp.1 hr).1, hp.2.trans (shutdownConnection_own hp.1 hr).2⟩

theorem processLoop_own {s s' : St} (fuel : Nat) (h : Own none s) (hr : processLoop fuel s = .ok s') : Own none s' ∧ OwnLe s s' :=
  processLoop_inv (P := fun t => Own none t ∧ OwnLe s t)
    (fun _ _ hp h1 => ⟨(processOne_own hp.1 h1).1, hp.2.trans (processOne_own hp.1 h1).2⟩) fuel s s' ⟨h, .refl s⟩ hr

theorem step_own {b b' : Broker} {w w' : Work} {e : Event} {out : List Out}
    (hg : G2 ⟨b, w, []⟩) (h : Own none ⟨b, w, []⟩) (hr : step b w e = .ok (b', w', out)) : Own none ⟨b', w', []⟩ :=
  (step_inv (fun _ h1 => handleEvent_own hg h h1) (fun _ _ hp h1 => (processOne_own hp h1).1) hr : Own none ⟨b', w', out⟩)

theorem run_own : ∀ (es : List Event) (b b' : Broker) (w w' : Work) (outs : List (List Out)),
    G2 ⟨b, w, []⟩ → Own none ⟨b, w, []⟩ → run b w es = .ok (b', w', outs) → Own none ⟨b', w', []⟩ :=
  fun es b b' w w' outs hg h hr =>
    (run_inv (P := fun b w => G2 ⟨b, w, []⟩ ∧ Own none ⟨b, w, []⟩)
      (fun _ _ _ _ _ _ hp hs => ⟨step_G2 hp.1 hs, step_own hp.1 hp.2 hs⟩) es b b' w w' outs ⟨hg, h⟩ hr).2

end Aldrin.Broker
