/-
The two views of the registry that `start_bus_listener` reads agree: the scan path goes through the cookie-keyed maps
(`obj_uuids`, `svc_uuids`), the "specific" path looks uuids up in the uuid-keyed maps (`objs`, `svcs`). With the
registry invariant of C03 and unique keys both name the same objects and services.
-/
import Aldrin.Lemmas.Broker.Reg

namespace Aldrin.Broker

theorem object_views_agree {b : Broker} (hrc : RegistryConsistent b) (hn : AL.NodupKeys b.objUuids) (o : ObjId) :
    (o.cookie, o.uuid) ∈ b.objUuids ↔ ∃ ob, AL.find? o.uuid b.objs = some ob ∧ ob.cookie = o.cookie := by
  rw [AL.mem_iff_find? hn]
  constructor
  · intro h
    obtain ⟨ob, h1, h2⟩ := hrc.cookie_names_object _ _ h
    exact ⟨ob, h1, h2⟩
  · rintro ⟨ob, h1, h2⟩
    have := hrc.object_is_registered _ _ h1
    rw [h2] at this
    exact this

theorem service_views_agree {b : Broker} (hrc : RegistryConsistent b) (hn : AL.NodupKeys b.svcUuids) (sid : SvcId) :
    (∃ info, (sid.cookie, (sid.obj, sid.uuid, info)) ∈ b.svcUuids) ↔
      ∃ sv, AL.find? (sid.obj.uuid, sid.uuid) b.svcs = some sv ∧ sv.cookie = sid.cookie ∧ sv.objCookie = sid.obj.cookie := by
  constructor
  · rintro ⟨info, hm⟩
    exact hrc.cookie_names_service _ _ _ _ (AL.find?_of_mem hn hm)
  · rintro ⟨sv, h1, h2, h3⟩
    obtain ⟨info, hf⟩ := hrc.service_is_registered _ _ _ h1
    refine ⟨info, ?_⟩
    have := AL.find?_some_mem hf
    rw [h2, h3] at this
    exact this

theorem mem_currentObjMsgs_specific (b : Broker) (l : Listener) (cookie : Cookie) (uuids : List Uuid) (o : ObjId) :
    Rsp.emitBusEvent (some cookie) (.objCreated o) ∈ currentObjMsgs b l cookie (some uuids) ↔
      o.uuid ∈ uuids ∧ ∃ ob, AL.find? o.uuid b.objs = some ob ∧ ob.cookie = o.cookie := by
  obtain ⟨u, c⟩ := o
  simp only [currentObjMsgs, List.mem_filterMap, Option.map_eq_some_iff, Rsp.emitBusEvent.injEq, true_and,
    BusEv.objCreated.injEq, ObjId.mk.injEq]
  constructor
  · rintro ⟨u', hu, ob, hf, rfl, rfl⟩; exact ⟨hu, ob, hf, rfl⟩
  · rintro ⟨hu, ob, hf, rfl⟩; exact ⟨u, hu, ob, hf, rfl, rfl⟩

theorem mem_currentSvcMsgs_specific (b : Broker) (l : Listener) (cookie : Cookie) (pairs : List (Uuid × Uuid)) (sid : SvcId) :
    Rsp.emitBusEvent (some cookie) (.svcCreated sid) ∈ currentSvcMsgs b l cookie (some pairs) ↔
      (sid.obj.uuid, sid.uuid) ∈ pairs ∧
        ∃ sv, AL.find? (sid.obj.uuid, sid.uuid) b.svcs = some sv ∧ sv.cookie = sid.cookie ∧ sv.objCookie = sid.obj.cookie := by
  obtain ⟨⟨ou, oc⟩, su, sc⟩ := sid
  simp only [currentSvcMsgs, List.mem_filterMap, Option.map_eq_some_iff, Rsp.emitBusEvent.injEq, true_and,
    BusEv.svcCreated.injEq, SvcId.mk.injEq, ObjId.mk.injEq]
  constructor
  · rintro ⟨p, hp, sv, hf, ⟨rfl, rfl⟩, rfl, rfl⟩; exact ⟨hp, sv, hf, rfl, rfl⟩
  · rintro ⟨hp, sv, hf, rfl, rfl⟩; exact ⟨(ou, su), hp, sv, hf, ⟨rfl, rfl⟩, rfl, rfl⟩

theorem mem_currentSvcMsgs_scan (b : Broker) (l : Listener) (cookie : Cookie) (sid : SvcId) :
    Rsp.emitBusEvent (some cookie) (.svcCreated sid) ∈ currentSvcMsgs b l cookie none ↔
      (∃ info, (sid.cookie, (sid.obj, sid.uuid, info)) ∈ b.svcUuids) ∧ l.matchesService sid = true := by
  simp only [currentSvcMsgs, List.mem_filterMap]
  constructor
  · rintro ⟨p, hp, hm⟩
    split at hm
    · next hmatch => cases hm; exact ⟨⟨p.2.2.2, hp⟩, hmatch⟩
    · cases hm
  · rintro ⟨⟨info, hp⟩, hm⟩
    exact ⟨(sid.cookie, (sid.obj, sid.uuid, info)), hp, by simp [hm]⟩

end Aldrin.Broker
