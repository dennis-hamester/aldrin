/-
The invariant `XP` on states of the broker model (`XrefP`), and its preservation by the functions that deal with calls.
-/
import Aldrin.Lemmas.Broker.CallConn
import Aldrin.Lemmas.Broker.CallBalance
import Aldrin.Lemmas.Broker.SerialFresh
import Aldrin.Lemmas.Broker.XP
import Aldrin.Lemmas.Broker.Turn
import Aldrin.Lemmas.Broker.Outcomes

namespace Aldrin.Broker
open Generated

/-- the invariant `XP` on a state of the broker model; `sv` is `some (c, tbl)` only inside `shutdown_connection` -/
def XrefP (sv : Option (ConnId × CallTbl)) (s : St) : Prop :=
  XP sv (ck s) (fun k => s.b.calls.get? k) s.b.calls.next s.w.removeCalls s.w.abortCalls

abbrev Xref (s : St) : Prop := XrefP none s

/-- what the invariant looks at -/
def SameG (s s' : St) : Prop :=
  (∀ k, s'.b.calls.get? k = s.b.calls.get? k) ∧ s'.b.calls.next = s.b.calls.next ∧
  s'.w.removeCalls = s.w.removeCalls ∧ s'.w.abortCalls = s.w.abortCalls

theorem SameG.of_F {s s' : St} (h : SameF s s') : SameG s s' := ⟨fun k => by rw [h.1], by rw [h.1], h.2.1, h.2.2⟩

theorem XrefP.of_views {sv} {s' : St} {K : KView} {G : GView} {nx : Nat} {R : RList} {A : AList}
    (h : XP sv K G nx R A) (hK : ∀ c, ck s' c = K c) (hG : ∀ k, s'.b.calls.get? k = G k) (hn : s'.b.calls.next = nx)
    (hR : s'.w.removeCalls = R) (hA : s'.w.abortCalls = A) : XrefP sv s' := by
  unfold XrefP
  have e1 : ck s' = K := funext hK
  have e2 : (fun k => s'.b.calls.get? k) = G := funext hG
  rw [e1, e2, hn, hR, hA]; exact h

theorem XrefP.of_frame {sv} {s s' : St} (h1 : CkEq s s') (h2 : SameG s s') (h : XrefP sv s) : XrefP sv s' :=
  XrefP.of_views h h1 h2.1 h2.2.1 h2.2.2.1 h2.2.2.2

theorem XrefP.of_F {sv} {s s' : St} (h1 : CkEq s s') (h2 : SameF s s') (h : XrefP sv s) : XrefP sv s' :=
  h.of_frame h1 (SameG.of_F h2)

theorem XrefP.of_eq {sv} {s s' : St} (h1 : s'.b.conns = s.b.conns) (h2 : s'.b.calls = s.b.calls) (h3 : s'.w.removeCalls = s.w.removeCalls)
    (h4 : s'.w.abortCalls = s.w.abortCalls) (h : XrefP sv s) : XrefP sv s' :=
  h.of_F (fun c => by simp only [ck, h1]) ⟨h2, h3, h4⟩

theorem XrefP.frame {sv} : Frame (fun s t => XrefP sv s → XrefP sv t)
    [.conn .alive, .conn .calls, .connDead, .connNew, .connGone, .calls, .removeCalls, .abortCalls] :=
  (CkEq.frame.and SameF.frame).carries (fun hs h => h.of_F hs.1 hs.2)

theorem replyToCaller_views {site : String} {t s' : St} {cid : ConnId} {n : Nat} {r : CallResult} {v : Option Nat}
    (h : replyToCaller site t cid n r v = .ok s') : SameF t s' ∧
      ((ck t cid = none ∧ s' = t) ∨ ∃ c : Conn, ck t cid = some (c.calls, c.alive) ∧
        ∀ x, ck s' x = upd (ck t) cid (some (AL.erase n c.calls, c.alive)) x) := by
  rcases replyToCaller_outcome h with ⟨hn, rfl⟩ | ⟨c, hc, -, rfl⟩
  · exact ⟨.refl _, .inl ⟨ck_of_find_none hn, rfl⟩⟩
  exact ⟨by simp [SameF], .inr ⟨c, ck_of_find hc, fun x => by rw [ck_sendOrRemove, ck_setConn, upd_apply]⟩⟩

theorem callFunctionReply_xref {sv} {s s' : St} {id serial r} {ok : Bool} (hx : XrefP sv s)
    (h : callFunctionReply s id serial r = .ok (s', ok)) : XrefP sv s' := by
  have hu := Upd.of_remove (fun k => s.b.calls.get? k) s.b.calls serial (fun _ => rfl)
  rcases callFunctionReply_outcome h with h | ⟨conn, call, svc, -, hcall, -, h⟩
  · cases h; exact hx
  have hK : ∀ c, ck (dropCall s serial call svc) c = ck s c := ck_of_conns rfl
  -- the call leaves the table
  have hd : ∀ {K : KView}, XP sv K (fun k => (s.b.calls.remove serial).get? k) s.b.calls.next s.w.removeCalls s.w.abortCalls →
      (∀ c, ck s c = K c) → XrefP sv (dropCall s serial call svc) := fun hp h =>
    XrefP.of_views hp (fun c => (hK c).trans (h c)) (fun _ => rfl) rfl rfl rfl
  rcases h with ⟨hab, h⟩ | ⟨hab, -, ht⟩
  · -- aborted before: the caller's record is long gone
    cases h; exact hd (XP.finish_call_noentry hx hcall (.inl hab) hu) fun _ => rfl
  obtain ⟨hF, ⟨hk, rfl⟩ | ⟨caller, hk, hck⟩⟩ := replyToCaller_views ht
  · exact hd (XP.finish_call_noentry hx hcall (.inr ((hK _).symm.trans hk)) hu) fun _ => rfl
  · refine XrefP.of_views (XP.finish_call hx hcall hab ((hK _).symm.trans hk) hu) (fun c => ?_) (fun k => ?_) ?_ ?_ ?_
    · rw [hck, upd_apply, upd_apply, hK]
    · rw [hF.1]; rfl
    · rw [hF.1]; rfl
    · rw [hF.2.1]; rfl
    · rw [hF.2.2]; rfl

theorem notifyCallee_frame (s : St) (cid : ConnId) (serial : Nat) :
    CkEq s (notifyCallee s cid serial) ∧ SameF s (notifyCallee s cid serial) := by
  rcases notifyCallee_cases s cid serial with e | e <;> rw [e]
  · exact ⟨CkEq.refl _, SameF.refl _⟩
  · exact ⟨fun c => by simp [ck], by simp [SameF]⟩

theorem abortCall_xref {sv} {s s' : St} {serial cid} {rest : List (Nat × ConnId)} (hx : XrefP sv s)
    (hA : s.w.abortCalls = (serial, cid) :: rest) (h : abortCall (s.setWAbortCalls rest) serial cid = .ok s') : XrefP sv s' := by
  unfold XrefP at hx; rw [hA] at hx
  -- the item goes off the queue: its call is gone or marked
  have pop : ∀ {K G}, XP sv K G s.b.calls.next s.w.removeCalls ((serial, cid) :: rest) → (∀ call', G serial = some call' → call'.aborted = true) →
      ∀ {t : St}, (∀ c, ck t c = K c) → (∀ k, t.b.calls.get? k = G k) → t.b.calls.next = s.b.calls.next →
        t.w.removeCalls = s.w.removeCalls → t.w.abortCalls = rest → XrefP sv t :=
    fun hp hd _ h1 h2 h3 h4 h5 => XrefP.of_views (XP.pop_abort hp hd) h1 h2 h3 h4 h5
  rcases abortCall_outcome h with ⟨rfl, hd⟩ | ⟨call, hcall, hab, h⟩
  · exact pop hx hd (fun _ => rfl) (fun _ => rfl) rfl rfl rfl
  rw [St.setWAbortCalls_b_calls] at hcall h
  have hu := Upd.of_set (fun k => s.b.calls.get? k) s.b.calls serial { call with aborted := true } rfl (fun _ => rfl)
  have hdead : ∀ call', (s.b.calls.set serial { call with aborted := true }).get? serial = some call' → call'.aborted = true := by
    intro call' hc; simp at hc; subst hc; rfl
  obtain ⟨f1, f2⟩ := notifyCallee_frame ((s.setWAbortCalls rest).setCalls (s.b.calls.set serial { call with aborted := true })) cid serial
  obtain ⟨hF, ⟨hk, rfl⟩ | ⟨caller, hk, hck⟩⟩ := replyToCaller_views h
  · rw [f1] at hk
    exact pop (XP.finish_call_noentry hx hcall (.inr (by simpa using hk)) hu) hdead (fun c => by rw [f1]; simp)
      (fun k => by rw [f2.1]; simp) (by rw [f2.1]; simp) (by rw [f2.2.1]; simp) (by rw [f2.2.2]; simp)
  · rw [f1] at hk
    exact pop (XP.finish_call hx hcall hab (by simpa using hk) hu) hdead
      (fun c => by rw [hck, upd_apply, upd_apply, f1]; simp) (fun k => by rw [hF.1, f2.1]; simp) (by rw [hF.1, f2.1]; simp)
      (by rw [hF.2.1, f2.2.1]; simp) (by rw [hF.2.2, f2.2.2]; simp)

theorem dropPendingCall_xref {sv} {s s' : St} {a : Nat} (hx : XrefP sv s) (h : dropPendingCall s a = .ok s') : XrefP sv s' := by
  obtain ⟨call, hcall, rfl⟩ := dropPendingCall_ok h
  have hu := Upd.of_remove (fun k => s.b.calls.get? k) s.b.calls a (fun _ => rfl)
  split
  · next hab =>
    exact XrefP.of_views (XP.finish_call_noentry hx hcall (Or.inl hab) hu) (fun c => by simp) (fun k => by simp) (by simp) (by simp) (by simp)
  · next hab =>
    exact XrefP.of_views (XP.service_drops_call (r := CallResult.invalidService) hx hcall (Bool.eq_false_iff.2 hab) hu (by simp))
      (fun c => by simp) (fun k => by simp) (by simp) (by simp) (by simp)

theorem removeService_calls_xref {sv} {l : List Nat} {s s' : St} (hx : XrefP sv s) (h : removeService.calls s l = .ok s') : XrefP sv s' :=
  foldE_inv (fun _ _ _ => dropPendingCall_xref) hx (removeService_calls_eq l s ▸ h)

theorem removeService_xref {sv} {s s' : St} {c : Cookie} (hx : XrefP sv s) (hr : removeService s c = .ok s') : XrefP sv s' := by
  rcases removeService_outcome hr with ⟨-, rfl⟩ | ⟨oid, svu, info, svc, s1, -, -, hc, rfl⟩
  · exact hx
  · exact (dropSubscribers_fp s1 c svc.subscribedConnIds).frame XrefP.frame (by decide)
      (removeService_calls_xref ((dropService_fp s c oid svu).frame XrefP.frame (by decide) hx) hc)

theorem removeObject_xref {sv} {s s' : St} {c : Cookie} (hx : XrefP sv s) (hr : removeObject s c = .ok s') : XrefP sv s' :=
  removeObject_inv XrefP.frame (fun _ _ _ => removeService_xref) hx hr

theorem XP.push_abort {sv K G nx R A} (x : Nat × ConnId) (h : XP sv K G nx R A) : XP sv K G nx R (x :: A) := by
  refine ⟨h.a, ?_, h.c, h.e, h.d⟩
  intro bs call hg hna
  rcases h.b bs call hg hna with h1 | ⟨h1, y, hy⟩ | h1
  · exact Or.inl h1
  · exact Or.inr (Or.inl ⟨h1, y, List.mem_cons_of_mem _ hy⟩)
  · exact Or.inr (Or.inr h1)

theorem XP.set_next {sv K G nx R A} (h : XP sv K G nx R A) {nx' : Nat} (hn : nx' < u32Max + 1) : XP sv K G nx' R A :=
  ⟨h.a, h.b, h.c, h.e, hn⟩

theorem callFunctionImpl_xref {sv} {s s' : St} {id serial svc f v p} {ok : Bool} (hx : XrefP sv s)
    (hR : s.w.removeCalls = []) (hroom : s.b.calls.elems.length ≤ u32Max)
    (h : callFunctionImpl s id serial svc f v p = .ok (s', ok)) : XrefP sv s' := by
  rcases callFunctionImpl_outcome h with hf | ⟨conn, objId, svcUuid, info, obj, hconn, -, -, ⟨-, hr⟩ | ⟨hfree, svcE, m, -, hr⟩⟩
  · exact hf.frame XrefP.frame (by decide) hx
  all_goals
    obtain rfl : s' = _ := hr
    have hfresh := SerialMap.insert_fresh s.b.calls (newCall id serial objId svcUuid) hx.d hroom
    have hget := get?_insert_fresh s.b.calls (newCall id serial objId svcUuid) hfresh
    have hnx := next_insert_lt s.b.calls (newCall id serial objId svcUuid)
  · -- a duplicate serial of the caller: the entry is taken out again, the serial counter has advanced
    refine XrefP.of_views (XP.set_next hx hnx) (fun c => by simp) (fun k => ?_) (by simp) (by simp) (by simp)
    simp only [St.setCalls_b_calls, get?_remove, hget]
    split
    · next hk => rw [← hk]; simpa [SerialMap.get?] using hfresh.symm
    · next hk => simp [Ne.symm hk]
  · unfold XrefP at hx; rw [hR] at hx
    have x1 := XP.add_call (callee := obj.conn) (call := newCall id serial objId svcUuid) hx (ck_of_find hconn) hfree
      (by simpa [SerialMap.get?] using hfresh) hget rfl rfl rfl hnx
    refine XrefP.of_views x1 (fun c => ?_) (fun k => by simp [passCall, addCall]) (by simp [passCall, addCall])
      (by simp [passCall, addCall, hR]) (by simp [passCall, addCall])
    simp only [passCall, addCall, ck_sendOrRemove, ck_setSvcs, ck_setConn, ck_setCalls, upd_apply]

theorem callFunction2_xref {sv} {s s' : St} {id serial svc f v p} {ok : Bool} (hx : XrefP sv s)
    (hR : s.w.removeCalls = []) (hroom : s.b.calls.elems.length ≤ u32Max)
    (h : callFunction2 s id serial svc f v p = .ok (s', ok)) : XrefP sv s' := by
  rcases callFunction2_outcome h with ⟨rfl, -⟩ | ⟨_, -, -, h⟩
  · exact hx
  · exact callFunctionImpl_xref hx hR hroom h

theorem abortFunctionCall_xref {sv} {s s' : St} {id serial} {ok : Bool} (hx : XrefP sv s) :
    abortFunctionCall s id serial = .ok (s', ok) → XrefP sv s' := by
  fun_cases abortFunctionCall s id serial <;> intro h <;> cases h
  -- the requester is gone, is too old, or has no such call
  · exact hx
  · exact hx
  · exact hx
  -- the abort is queued
  · exact XrefP.of_views (XP.push_abort _ hx) (fun _ => rfl) (fun _ => rfl) rfl rfl rfl

end Aldrin.Broker
