/-
The registry invariant `RegP` (`Lemmas/Broker/XReg.lean`) on states of the broker model (`Reg`), through the functions
that change the registry and through every turn of `Broker::run`; hence in every state `Broker::run` can be in between two
events (`run_reg`).
-/
import Aldrin.Lemmas.Broker.RegView
import Aldrin.Lemmas.Broker.XReg
import Aldrin.Lemmas.Broker.Gauge5
import Aldrin.Lemmas.Broker.Turn

namespace Aldrin.Broker
open Generated

def ouv (s : St) : OuView := fun c => AL.find? c s.b.objUuids
def obv (s : St) : ObView := fun u => AL.find? u s.b.objs
def suv (s : St) : SuView := fun c => AL.find? c s.b.svcUuids

/-- the registry invariant on a state of the broker model; `pc` / `ps` are `some` only inside the removal of a
connection / of an object -/
def Reg (pc : Option (ConnId × List Cookie)) (ps : Option (ObjId × List Cookie)) (s : St) : Prop :=
  RegP pc ps (ouv s) (obv s) (suv s) (sk s) (ro s)

variable {pc : Option (ConnId × List Cookie)} {ps : Option (ObjId × List Cookie)}

theorem Reg.of_views {s' : St} {ou : OuView} {ob : ObView} {su : SuView} {skv : SkView} {rov : RoView}
    (h : RegP pc ps ou ob su skv rov) (h1 : ∀ c, AL.find? c s'.b.objUuids = ou c) (h2 : ∀ u, AL.find? u s'.b.objs = ob u)
    (h3 : ∀ c, AL.find? c s'.b.svcUuids = su c) (h4 : ∀ k, sk s' k = skv k) (h5 : ∀ c, ro s' c = rov c) : Reg pc ps s' := by
  unfold Reg
  have e1 : ouv s' = ou := funext h1
  have e2 : obv s' = ob := funext h2
  have e3 : suv s' = su := funext h3
  have e4 : sk s' = skv := funext h4
  have e5 : ro s' = rov := funext h5
  rw [e1, e2, e3, e4, e5]; exact h

theorem Reg.of_same {s s' : St} (h : Reg pc ps s) (hs : SameReg s s') : Reg pc ps s' :=
  Reg.of_views h (fun c => by rw [hs.1]; rfl) (fun u => by rw [hs.2.1]; rfl) (fun c => by rw [hs.2.2.1]; rfl) hs.2.2.2.1 hs.2.2.2.2

theorem Reg.frame : Frame (fun s t => Reg pc ps s → Reg pc ps t)
    [.objUuids, .objs, .svcUuids, .svcs, .conn .objects, .connGone, .connNew] :=
  SameReg.frame.carries (fun hs h => h.of_same hs)

theorem Reg.init : Reg none none ⟨{}, {}, []⟩ := by
  refine Reg.of_views RegP.init ?_ ?_ ?_ ?_ ?_ <;> intro x <;> rfl

theorem dropService_reg {s : St} {c : Cookie} {oid : ObjId} {svu : Uuid} {info : SvcInfo} (h : Reg pc ps s)
    (hu : AL.find? c s.b.svcUuids = some (oid, svu, info)) : Reg pc ps (dropService s c oid svu) := by
  refine Reg.of_views (RegP.remove_service h (sc := c) (oid := oid) (svu := svu) (info := info) hu) ?_ ?_ ?_ ?_ ?_
  · intro x; rw [dropService_b_objUuids]; rfl
  · intro x
    rw [dropService_b_objs, obDropSvc_apply]
    cases hob : AL.find? oid.uuid s.b.objs with
    | none =>
      simp only [obv, hob]
      by_cases hx : oid.uuid = x
      · subst hx; simp [hob]
      · simp [hx]
    | some o =>
      simp only [obv, hob, AL.find?_insert]
      by_cases hx : oid.uuid = x <;> simp [hx]
  · intro x; rw [dropService_b_svcUuids, AL.find?_erase, upd_apply]; rfl
  · intro x
    simp only [sk, skl, dropService_b_svcs, AL.find?_erase, upd_apply]
    by_cases hk : (oid.uuid, svu) = x <;> simp [hk]
  · intro x; exact ro_of_conns (dropService_b_conns s c oid svu) x

theorem removeService_reg {s s' : St} {c : Cookie} (h : Reg pc ps s) (hr : removeService s c = .ok s') :
    Reg pc ps s' ∧ AL.find? c s'.b.svcUuids = none ∧ s'.b.objUuids = s.b.objUuids := by
  rcases removeService_outcome hr with ⟨hn, rfl⟩ | ⟨oid, svu, info, svc, s1, hu, -, hc, rfl⟩
  · exact ⟨h, hn, rfl⟩
  -- after the service is out of the maps nothing of the registry changes
  have hs := SameReg.trans ((removeService_calls_fp _ _ _ hc).frame SameReg.frame)
    ((dropSubscribers_fp s1 c svc.subscribedConnIds).frame SameReg.frame)
  refine ⟨(dropService_reg h hu).of_same hs, ?_, ?_⟩
  · rw [hs.2.2.1, dropService_b_svcUuids, AL.find?_erase, if_pos rfl]
  · rw [hs.1, dropService_b_objUuids]

theorem dropObject_reg {s : St} {c : Cookie} {u : Uuid} {obj : Obj} (h : Reg pc none s)
    (hu : AL.find? c s.b.objUuids = some u) (hob : AL.find? u s.b.objs = some obj) :
    Reg pc (some (⟨u, c⟩, obj.svcs)) (dropObject s c u obj.conn) := by
  refine Reg.of_views (RegP.remove_object h (c := c) (u := u) (obj := obj) hu hob) ?_ ?_ ?_ ?_ ?_
  all_goals unfold dropObject; intro x
  · simp [ouv, AL.find?_erase]
  · simp [obv, AL.find?_erase]
  · simp [suv]
  · simp
  · rw [roDropObj_apply, ro_setWDestroyObject, view_updConn ro_eq]
    simp only [St.conn?, St.setObjs_b_conns, St.setObjUuids_b_conns, ro_setObjs, ro_setObjUuids]
    split
    · cases hf : AL.find? obj.conn s.b.conns <;> simp [ro, hf]
    · rfl

theorem removeObject_reg {s s' : St} {c : Cookie} (h : Reg pc none s) (hr : removeObject s c = .ok s') :
    Reg pc none s' ∧ AL.find? c s'.b.objUuids = none := by
  rcases removeObject_outcome hr with ⟨hn, rfl⟩ | ⟨u, obj, s1, hu, hob, hs, rfl⟩
  · exact ⟨h, hn⟩
  -- the services of the object go one by one; the registered object cookies stay as `dropObject` left them
  obtain ⟨q1, q2⟩ := foldE_rest (P := fun l t => Reg pc (some (⟨u, c⟩, l)) t ∧ t.b.objUuids = (dropObject s c u obj.conn).b.objUuids)
    (fun a l t t' hp ht => let ⟨r1, r2, r3⟩ := removeService_reg hp.1 ht; ⟨RegP.ps_next r1 r2, r3.trans hp.2⟩)
    ⟨dropObject_reg h hu hob, rfl⟩ hs
  refine ⟨Reg.frame.step (.stat _ _ .numObjects (fun _ => rfl)) (by decide) (RegP.ps_done q1), ?_⟩
  rw [St.stat_b_objUuids, q2]; unfold dropObject; simp

theorem createObject_reg {s s' : St} {id serial uuid} {ok : Bool} (hg : G5 s) (h : Reg none none s)
    (hr : createObject s id serial uuid = .ok (s', ok)) : Reg none none s' := by
  rcases createObject_outcome hr with hf | ⟨conn, hconn, hnone, hr⟩
  · exact hf.frame Reg.frame (by decide) h
  obtain rfl : s' = _ := hr
  have hfresh : AL.find? s.b.nextCookie s.b.objUuids = none := KeysBelow_fresh hg.2.1.below
  refine Reg.of_views (RegP.create_object h (id := id) (l := conn.objects) hnone hfresh (ro_find hconn)) ?_ ?_ ?_ ?_ ?_
  · intro x; simp [addObject, ouv, AL.find?_insert]
  · intro x; simp [addObject, obv, AL.find?_insert]
  · intro x; simp [addObject, suv]
  · intro k; simp [addObject]
  · intro x
    have hconn : AL.find? id s.b.conns = some conn := hconn
    simp only [addObject, ro_stat, ro_setWCreateObject, view_updConn ro_eq, upd_apply]
    split
    · simp [St.conn?, hconn]
    · simp

theorem createServiceImpl_reg {s s' : St} {id serial oc uuid info} {ok : Bool} (hg : G5 s) (h : Reg none none s)
    (hr : createServiceImpl s id serial oc uuid info = .ok (s', ok)) : Reg none none s' := by
  rcases createServiceImpl_outcome hr with hf | ⟨conn, objUuid, obj, inf, -, hou, hnew, hob, -, hr⟩
  · exact hf.frame Reg.frame (by decide) h
  obtain rfl : s' = _ := hr
  have hn : sk s (objUuid, uuid) = none := by simp only [sk, skl, hnew]
  have hfresh : AL.find? s.b.nextCookie s.b.svcUuids = none := KeysBelow_fresh hg.2.2.2.1.below
  refine Reg.of_views (RegP.create_service h (oc := oc) (info := inf) hou hob hn hfresh) ?_ ?_ ?_ ?_ ?_
  · intro x; simp [addService, ouv]
  · intro x; simp [addService, obv, AL.find?_insert]
  · intro x; simp [addService, suv, AL.find?_insert]
  · intro k
    simp only [addService, sk_stat, sk_setWCreateService, sk_setObjs, upd_apply]
    simp only [sk, skl, St.setSvcs_b_svcs, St.setSvcUuids_b_svcs, St.send_b_svcs, St.freshCookie_b_svcs, AL.find?_insert]
    by_cases hk : (objUuid, uuid) = k <;> simp [hk]
  · intro x; simp [addService]

theorem createService2_reg {s s' : St} {id serial oc uuid info} {ok : Bool} (hg : G5 s) (h : Reg none none s)
    (hr : createService2 s id serial oc uuid info = .ok (s', ok)) : Reg none none s' := by
  rcases createService2_outcome hr with hr | ⟨_, hr⟩
  · cases hr; exact h
  · exact createServiceImpl_reg hg h hr

theorem handleMessage_reg {s s' : St} {id : ConnId} {m : Req} {ok : Bool} (hg : G5 s) (h : Reg none none s)
    (hr : handleMessage s id m = .ok (s', ok)) : Reg none none s' := by
  cases m
  case createObject => exact createObject_reg hg h hr
  case destroyObject => exact destroyObject_inv Reg.frame (fun _ _ _ hp hr => (removeObject_reg hp hr).1) h hr
  case createService => exact createServiceImpl_reg (info := fun _ => some _) hg h hr
  case createService2 => exact createService2_reg hg h hr
  case destroyService => exact destroyService_inv Reg.frame (fun _ _ _ hp hr => (removeService_reg hp hr).1) h hr
  all_goals exact (handleMessage_fp hr).frame Reg.frame (by fp_decide) h

theorem removeObjects_reg {id : ConnId} {l : List Cookie} {s s' : St} (h : Reg (some (id, l)) none s)
    (hr : foldE removeObject s l = .ok s') : Reg none none s' :=
  RegP.pc_done (foldE_rest (P := fun l t => Reg (some (id, l)) none t)
    (fun a l t t' hp ht => let ⟨r1, r2⟩ := removeObject_reg hp ht; RegP.pc_next r1 r2) h hr)

theorem ro_setConns_erase (s : St) (id c : ConnId) : ro (s.setConns (AL.erase id s.b.conns)) c = upd (ro s) id none c := by
  rw [view_eraseConn ro_eq, upd_apply]; rfl

theorem shutdownConnection_reg {s s' : St} {id b} (h : Reg none none s) (hr : shutdownConnection s id b = .ok s') : Reg none none s' := by
  rcases shutdownConnection_ok hr with ⟨-, rfl⟩ | ⟨⟨st⟩⟩
  · exact h
  have i0 : Reg (some (id, st.conn.objects)) none (st.told.setConns (AL.erase id st.told.b.conns)) :=
    Reg.of_views (RegP.remove_conn (st.told_fp.frame Reg.frame (by decide) h) (ro_find (st.told_conns ▸ st.entry)))
      (fun _ => rfl) (fun _ => rfl) (fun _ => rfl) (fun _ => rfl) (ro_setConns_erase st.told id)
  have i1 := removeObjects_reg (foldl_inv (fun t a => (removeBusListener_fp t a).frame Reg.frame) i0) st.objects
  have i5 := foldE_inv (fun _ _ _ hp hr => (removeChannelEnd_fp hr).frame Reg.frame (by decide) hp)
    (st.subs.frame Reg.frame (by decide) i1) st.senders
  have i6 := foldE_inv (fun _ _ _ hp hr => (removeChannelEnd_fp hr).frame Reg.frame (by decide) hp) i5 st.receivers
  exact (removeIntrospectionConn_fp st.rest).frame Reg.frame (by decide)
    ((queueAborts_fp st.noReceivers st.conn.calls).frame Reg.frame (by decide) i6)

theorem handleEvent_reg {s s' : St} {e : Event} (hg : G5 s) (h : Reg none none s) (hr : handleEvent s e = .ok s') : Reg none none s' :=
  handleEvent_inv Reg.frame h (fun _ _ _ _ hm => handleMessage_reg hg h hm)
    (fun id v _ hnone => Reg.of_views (RegP.new_conn h (ro_find_none hnone)) (fun _ => rfl) (fun _ => rfl) (fun _ => rfl) (fun _ => rfl)
      (fun c => by rw [ro_setConn, upd_apply]))
    (fun id _ => Reg.frame.step (.connDead s id) (by decide) h) hr

theorem processOne_reg {s s' : St} (h : Reg none none s) (hr : processOne s = some (.ok s')) : Reg none none s' :=
  processOne_inv Reg.frame h hr fun _ _ _ => shutdownConnection_reg

theorem step_reg {b b' : Broker} {w w' : Work} {e : Event} {out : List Out}
    (hg : G5 ⟨b, w, []⟩) (h : Reg none none ⟨b, w, []⟩) (hr : step b w e = .ok (b', w', out)) : Reg none none ⟨b', w', []⟩ :=
  (step_inv (fun _ h1 => handleEvent_reg hg h h1) (fun _ _ => processOne_reg) hr : Reg none none ⟨b', w', out⟩)

theorem run_reg : ∀ (es : List Event) (b b' : Broker) (w w' : Work) (outs : List (List Out)),
    G5 ⟨b, w, []⟩ → Reg none none ⟨b, w, []⟩ → run b w es = .ok (b', w', outs) → Reg none none ⟨b', w', []⟩ :=
  fun es b b' w w' outs hg h hr =>
    (run_inv (P := fun b w => G5 ⟨b, w, []⟩ ∧ Reg none none ⟨b, w, []⟩)
      (fun _ _ _ _ _ _ hp hs => ⟨step_G5 hp.1 hs, step_reg hp.1 hp.2 hs⟩) es b b' w w' outs ⟨hg, h⟩ hr).2

/-- the invariant in plain terms -/
structure RegistryConsistent (b : Broker) : Prop where
  cookie_names_object : ∀ c u, AL.find? c b.objUuids = some u → ∃ o, AL.find? u b.objs = some o ∧ o.cookie = c
  object_is_registered : ∀ u o, AL.find? u b.objs = some o → AL.find? o.cookie b.objUuids = some u
  owner_lists_object : ∀ u o, AL.find? u b.objs = some o → ∃ conn, AL.find? o.conn b.conns = some conn ∧ o.cookie ∈ conn.objects
  listed_object_is_owned : ∀ id conn c, AL.find? id b.conns = some conn → c ∈ conn.objects →
    ∃ u o, AL.find? c b.objUuids = some u ∧ AL.find? u b.objs = some o ∧ o.conn = id
  cookie_names_service : ∀ sc oid svu info, AL.find? sc b.svcUuids = some (oid, svu, info) →
    ∃ sv, AL.find? (oid.uuid, svu) b.svcs = some sv ∧ sv.cookie = sc ∧ sv.objCookie = oid.cookie
  service_is_registered : ∀ obu svu sv, AL.find? (obu, svu) b.svcs = some sv →
    ∃ info, AL.find? sv.cookie b.svcUuids = some (⟨obu, sv.objCookie⟩, svu, info)
  service_has_live_object : ∀ sc oid svu info, AL.find? sc b.svcUuids = some (oid, svu, info) →
    AL.find? oid.cookie b.objUuids = some oid.uuid ∧ ∃ o, AL.find? oid.uuid b.objs = some o ∧ sc ∈ o.svcs
  listed_service_is_of_object : ∀ u o sc, AL.find? u b.objs = some o → sc ∈ o.svcs →
    ∃ svu info, AL.find? sc b.svcUuids = some (⟨u, o.cookie⟩, svu, info)

namespace RegistryConsistent
variable {b : Broker} (h : RegistryConsistent b)
include h

theorem obj_entry {c : Cookie} {u : Uuid} (hu : AL.find? c b.objUuids = some u) : AL.find? u b.objs ≠ none := by
  obtain ⟨o, ho, _⟩ := h.cookie_names_object c u hu
  rw [ho]; nofun

theorem obj_owner {u : Uuid} {o : Obj} (ho : AL.find? u b.objs = some o) : AL.find? o.conn b.conns ≠ none := by
  obtain ⟨conn, hc, _⟩ := h.owner_lists_object u o ho
  rw [hc]; nofun

theorem svc_entry {c : Cookie} {oid : ObjId} {svu : Uuid} {info : SvcInfo} (hu : AL.find? c b.svcUuids = some (oid, svu, info)) :
    AL.find? (oid.uuid, svu) b.svcs ≠ none := by
  obtain ⟨sv, hsv, _⟩ := h.cookie_names_service c oid svu info hu
  rw [hsv]; nofun

theorem svc_obj {c : Cookie} {oid : ObjId} {svu : Uuid} {info : SvcInfo} (hu : AL.find? c b.svcUuids = some (oid, svu, info)) :
    AL.find? oid.uuid b.objs ≠ none := by
  obtain ⟨_, o, ho, _⟩ := h.service_has_live_object c oid svu info hu
  rw [ho]; nofun

end RegistryConsistent

theorem RegistryConsistent.of_reg {b : Broker} {w : Work} {out : List Out} (h : Reg none none ⟨b, w, out⟩) : RegistryConsistent b := by
  obtain ⟨h1, h2, h3, h4, h5, h6, h7, h8⟩ := h
  refine ⟨h1, h2, ?_, ?_, ?_, ?_, ?_, h8⟩
  · intro u o ho
    obtain ⟨l, hl, hm⟩ := (h3 u o ho).resolve_right fun ⟨_, hl, _⟩ => nomatch hl
    obtain ⟨conn, hc, rfl⟩ := ro_eq_some.1 hl
    exact ⟨conn, hc, hm⟩
  · intro id conn c hc hm
    exact h4 id conn.objects c (ro_find hc) hm
  · intro sc oid svu info hs
    exact sk_eq_some.1 (h5 sc oid svu info hs)
  · intro obu svu sv hsv
    exact h6 obu svu sv.cookie sv.objCookie (sk_find hsv)
  · intro sc oid svu info hs
    exact (h7 sc oid svu info hs).resolve_right fun ⟨_, hl, _⟩ => nomatch hl

end Aldrin.Broker
