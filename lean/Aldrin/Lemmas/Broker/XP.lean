/-
The caller-side cross-reference invariant of the broker's book-keeping of calls, on what it looks at (per-connection
tables `K`, call table `G`, the deferred `remove_function_calls` `R` and `abort_function_calls` `A`), and its
preservation by the abstract operations the broker performs on them. Two more that need no argument, an abort is queued
and the serial counter moves, stand beside their users in `Xref.lean` (`XP.push_abort`, `XP.set_next`).
-/
import Aldrin.Lemmas.Broker.AL
import Aldrin.Lemmas.Broker.Upd
import Aldrin.Lemmas.Broker.SerialFresh
import Aldrin.Model.Broker.Parts

namespace Aldrin.Broker

-- `CallTbl` of `CallConn.lean`, which this file, standing on the model and the list and serial-map lemmas alone, does not import
abbrev CallTbl' := List (Nat × (Nat × ConnId))
abbrev KView := ConnId → Option (CallTbl' × Bool)
abbrev GView := Nat → Option Call
abbrev RList := List (Nat × ConnId × CallResult)
abbrev AList := List (Nat × ConnId)

/-- the invariant on what it looks at: the per-connection tables `K`, the call table `G`, the serial counter, the
deferred `remove_function_calls` `R` and `abort_function_calls` `A`.

`sv = some (c, tbl)` only while `shutdown_connection` of `c` is under way: `c` is out of `K` at once, but the aborts of
the calls in its table `tbl` are queued at the very end, after objects, subscriptions and channels have gone; until then
a live call of `c` is accounted for by its entry in `tbl` (third alternative of `b`). -/
structure XP (sv : Option (ConnId × CallTbl')) (K : KView) (G : GView) (nx : Nat) (R : RList) (A : AList) : Prop where
  a : ∀ c t al n bs callee, K c = some (t, al) → AL.find? n t = some (bs, callee) →
        (∃ call, G bs = some call ∧ call.callerSerial = n ∧ call.callerConn = c ∧ call.aborted = false)
        ∨ (G bs = none ∧ ∃ r, (n, c, r) ∈ R)
  b : ∀ bs call, G bs = some call → call.aborted = false →
        (∃ t al callee, K call.callerConn = some (t, al) ∧ AL.find? call.callerSerial t = some (bs, callee))
        ∨ (K call.callerConn = none ∧ ∃ y, (bs, y) ∈ A)
        ∨ (K call.callerConn = none ∧ ∃ tbl callee, sv = some (call.callerConn, tbl) ∧ AL.find? call.callerSerial tbl = some (bs, callee))
  c : ∀ n c r, (n, c, r) ∈ R → ∀ t al, K c = some (t, al) → ∃ bs callee, AL.find? n t = some (bs, callee) ∧ G bs = none
  /-- no two queued replies name the same entry of a connection that is there: when the loop takes the first and erases
  the entry (`pop_remove`), clause `c` must still hold of the rest -/
  e : R.Pairwise (fun x y => x.2.1 = y.2.1 → x.1 = y.1 → K x.2.1 = none)
  /-- `SerialMap::insert` leaves the counter reduced modulo 2³²; `SerialMap.insert_fresh` needs it of the next search -/
  d : nx < u32Max + 1

variable {sv : Option (ConnId × CallTbl')} {K : KView} {G : GView} {nx : Nat} {R : RList} {A : AList}

/-- what the invariant says of a live call: its caller has the entry for it, or is gone and the abort is queued or
still in the table kept aside -/
def HasCaller (sv : Option (ConnId × CallTbl')) (K : KView) (A : AList) (bs : Nat) (call : Call) : Prop :=
  (∃ t al callee, K call.callerConn = some (t, al) ∧ AL.find? call.callerSerial t = some (bs, callee))
  ∨ (K call.callerConn = none ∧ ∃ y, (bs, y) ∈ A)
  ∨ (K call.callerConn = none ∧ ∃ tbl callee, sv = some (call.callerConn, tbl) ∧ AL.find? call.callerSerial tbl = some (bs, callee))

/-- it survives a change of the tables that keeps the caller's entry and keeps absent connections absent -/
theorem HasCaller.mono {K' : KView} {bs : Nat} {call : Call} (h : HasCaller sv K A bs call)
    (hent : (∃ t al callee, K call.callerConn = some (t, al) ∧ AL.find? call.callerSerial t = some (bs, callee)) →
      ∃ t al callee, K' call.callerConn = some (t, al) ∧ AL.find? call.callerSerial t = some (bs, callee))
    (hnone : K call.callerConn = none → K' call.callerConn = none) : HasCaller sv K' A bs call :=
  h.imp hent (Or.imp (And.imp_left hnone) (And.imp_left hnone))

section
variable {c0 c : ConnId} {t t' : CallTbl'} {al al' : Bool} {cs n bs : Nat} {callee : ConnId}

theorem set_none {v w : CallTbl' × Bool} (hk : K c0 = some v) (hc : K c = none) : (if c = c0 then some w else K c) = none :=
  (if_neg fun he => by rw [he, hk] at hc; cases hc).trans hc

/-- what the invariant says of a live call survives a change of the table of a connection that is there, if the
caller's entry stays -/
theorem HasCaller.set {v w : CallTbl' × Bool} {call : Call} (h : HasCaller sv K A bs call) (hk : K c0 = some v)
    (hent : (∃ t al callee, K call.callerConn = some (t, al) ∧ AL.find? call.callerSerial t = some (bs, callee)) →
      ∃ t al callee, (if call.callerConn = c0 then some w else K call.callerConn) = some (t, al) ∧
        AL.find? call.callerSerial t = some (bs, callee)) :
    HasCaller sv (fun c => if c = c0 then some w else K c) A bs call :=
  h.mono hent (set_none hk)

/-- an entry after `(c0, cs)` went was an entry before, and not that one -/
theorem erase_old (hk : K c0 = some (t, al)) (hc : (if c = c0 then some (AL.erase cs t, al) else K c) = some (t', al'))
    (hf : AL.find? n t' = some (bs, callee)) :
    ∃ t'', K c = some (t'', al') ∧ AL.find? n t'' = some (bs, callee) ∧ ¬ (c = c0 ∧ n = cs) := by
  by_cases hcc : c = c0
  · rw [if_pos hcc] at hc; cases hc
    rw [AL.find?_erase] at hf
    split at hf
    · cases hf
    · exact ⟨t, hcc ▸ hk, hf, fun x => ‹¬ cs = n› x.2.symm⟩
  · rw [if_neg hcc] at hc
    exact ⟨t', hc, hf, fun x => hcc x.1⟩

/-- an entry other than `(c0, cs)` is still there after `(c0, cs)` went -/
theorem erase_new (hk : K c0 = some (t, al)) (hne : c = c0 → cs ≠ n)
    (h : ∃ t' al' callee, K c = some (t', al') ∧ AL.find? n t' = some (bs, callee)) :
    ∃ t' al' callee, (if c = c0 then some (AL.erase cs t, al) else K c) = some (t', al') ∧ AL.find? n t' = some (bs, callee) := by
  obtain ⟨t', al', callee, hk', hf'⟩ := h
  by_cases hcc : c = c0
  · rw [hcc, hk] at hk'; cases hk'
    exact ⟨_, _, callee, if_pos hcc, (AL.find?_erase_ne _ (hne hcc)).trans hf'⟩
  · exact ⟨t', al', callee, (if_neg hcc).trans hk', hf'⟩

/-- the entry a queued reply names is still there after `(c0, cs)` went, if it is another one -/
theorem erase_reply (hk : K c0 = some (t, al)) (hne : c = c0 → cs ≠ n)
    (h : ∀ t al, K c = some (t, al) → ∃ bs callee, AL.find? n t = some (bs, callee) ∧ G bs = none)
    (hc : (if c = c0 then some (AL.erase cs t, al) else K c) = some (t', al')) :
    ∃ bs callee, AL.find? n t' = some (bs, callee) ∧ G bs = none := by
  by_cases hcc : c = c0
  · rw [if_pos hcc] at hc; cases hc
    obtain ⟨bs, callee, hf, hg⟩ := h t al (hcc ▸ hk)
    exact ⟨bs, callee, (AL.find?_erase_ne _ (hne hcc)).trans hf, hg⟩
  · exact h t' al' ((if_neg hcc).symm.trans hc)

end

theorem XP.caller_entry (h : XP sv K G nx R A) {bs : Nat} {call : Call} {t : CallTbl'} {al : Bool}
    (hg : G bs = some call) (hna : call.aborted = false) (hk : K call.callerConn = some (t, al)) :
    ∃ callee, AL.find? call.callerSerial t = some (bs, callee) := by
  rcases h.b bs call hg hna with ⟨t', al', callee, hk', hf'⟩ | ⟨hk', _⟩ | ⟨hk', _⟩
  · rw [hk] at hk'; cases hk'; exact ⟨callee, hf'⟩
  · rw [hk] at hk'; cases hk'
  · rw [hk] at hk'; cases hk'

/-- the entry `(caller, cs)` goes (its call is gone or marked aborted already) -/
theorem XP.erase_entry (h : XP sv K G nx R A) {caller : ConnId} {t : CallTbl'} {al : Bool} {cs : Nat}
    (hk : K caller = some (t, al))
    (hdead : ∀ bs callee, AL.find? cs t = some (bs, callee) → (∀ call, G bs = some call → call.aborted = true) ∧ ∀ r, (cs, caller, r) ∉ R) :
    XP sv (fun c => if c = caller then some (AL.erase cs t, al) else K c) G nx R A := by
  constructor
  · intro c t' al' n bs callee hc hf
    obtain ⟨t'', k1, k2, _⟩ := erase_old hk hc hf
    exact h.a c t'' al' n bs callee k1 k2
  · intro bs call hg hna
    refine HasCaller.set (h.b bs call hg hna) hk fun hent => erase_new hk (fun hcc hs => ?_) hent
    -- the entry that goes does not belong to a live call
    obtain ⟨t', _, callee, hk', hf'⟩ := hent
    rw [hcc, hk] at hk'; cases hk'
    rw [← hs] at hf'
    have := (hdead bs callee hf').1 call hg
    rw [hna] at this; cases this
  · intro n c r hm t' al' hc
    refine erase_reply hk (fun hcc hs => ?_) (h.c n c r hm) hc
    obtain ⟨bs, callee, hf, _⟩ := h.c n c r hm t al (hcc ▸ hk)
    rw [← hs] at hf hm
    exact (hdead bs callee hf).2 r (hcc ▸ hm)
  · exact h.e.imp fun hxy h1 h2 => set_none hk (hxy h1 h2)
  · exact h.d

/-- the call table changes at `bs` only, where the call goes or is marked aborted -/
def Upd (G G' : GView) (bs : Nat) : Prop :=
  (∀ k, k ≠ bs → G' k = G k) ∧ (G' bs = none ∨ ∃ c', G' bs = some c' ∧ c'.aborted = true)

theorem Upd.of_remove (G : GView) (m : SerialMap Call) (bs : Nat) (hG : ∀ k, m.get? k = G k) :
    Upd G (fun k => (m.remove bs).get? k) bs := by
  refine ⟨fun k hk => ?_, Or.inl ?_⟩
  · simp [Ne.symm hk, hG]
  · simp

theorem Upd.of_set (G : GView) (m : SerialMap Call) (bs : Nat) (x : Call) (hx : x.aborted = true) (hG : ∀ k, m.get? k = G k) :
    Upd G (fun k => (m.set bs x).get? k) bs := by
  refine ⟨fun k hk => ?_, Or.inr ⟨x, ?_, hx⟩⟩
  · simp [Ne.symm hk, hG]
  · simp

theorem Upd.live {G G' : GView} {bs k : Nat} {call : Call} (hu : Upd G G' bs) (hg : G' k = some call) (hna : call.aborted = false) :
    k ≠ bs ∧ G k = some call := by
  by_cases hk : k = bs
  · subst hk
    rcases hu.2 with h | ⟨c', h, ha⟩
    · rw [h] at hg; cases hg
    · rw [h] at hg; cases hg; rw [ha] at hna; cases hna
  · exact ⟨hk, (hu.1 k hk).symm.trans hg⟩

theorem Upd.free {G G' : GView} {bs k : Nat} {call : Call} (hu : Upd G G' bs) (hg : G bs = some call) (hk : G k = none) :
    G' k = none :=
  (hu.1 k fun x => by rw [x, hg] at hk; cases hk).trans hk

/-- what clause `a` says of an entry survives when the call `bs` goes, unless the entry is that of `bs` -/
theorem Upd.entry {G G' : GView} {bs : Nat} {call : Call} (hu : Upd G G' bs) (hg : G bs = some call) {c : ConnId} {n bs' : Nat}
    (h : (∃ call, G bs' = some call ∧ call.callerSerial = n ∧ call.callerConn = c ∧ call.aborted = false)
      ∨ (G bs' = none ∧ ∃ r, (n, c, r) ∈ R))
    (hne : call.callerSerial = n → call.callerConn = c → call.aborted = true) :
    (∃ call, G' bs' = some call ∧ call.callerSerial = n ∧ call.callerConn = c ∧ call.aborted = false)
      ∨ (G' bs' = none ∧ ∃ r, (n, c, r) ∈ R) := by
  rcases h with ⟨call', hg', h1, h2, h3⟩ | ⟨hg', hr⟩
  · by_cases hb : bs' = bs
    · subst hb
      rw [hg] at hg'; cases hg'
      rw [hne h1 h2] at h3; cases h3
    · exact .inl ⟨call', (hu.1 bs' hb).trans hg', h1, h2, h3⟩
  · exact .inr ⟨hu.free hg hg', hr⟩

/-- the live call `bs` ends while its caller is there: the caller's entry goes (`call_function_reply`, `abort_call`) -/
theorem XP.finish_call (h : XP sv K G nx R A) {G' : GView} {bs : Nat} {call : Call} {t : CallTbl'} {al : Bool}
    (hg : G bs = some call) (hna : call.aborted = false) (hk : K call.callerConn = some (t, al)) (hu : Upd G G' bs) :
    XP sv (upd K call.callerConn (some (AL.erase call.callerSerial t, al))) G' nx R A := by
  rw [← upd_flip]
  obtain ⟨callee0, hent⟩ := h.caller_entry hg hna hk
  constructor
  · intro c t' al' n bs' callee hc hf
    obtain ⟨t'', k1, k2, k3⟩ := erase_old hk hc hf
    exact hu.entry hg (h.a c t'' al' n bs' callee k1 k2) fun h1 h2 => absurd ⟨h2.symm, h1.symm⟩ k3
  · intro bs' call' hg' hna'
    obtain ⟨hb, hg0⟩ := hu.live hg' hna'
    refine HasCaller.set (h.b bs' call' hg0 hna') hk fun he => erase_new hk (fun hcc hs => ?_) he
    -- another live call has another entry
    obtain ⟨t', _, callee, hk', hf'⟩ := he
    rw [hcc, hk] at hk'; cases hk'
    rw [← hs, hent] at hf'
    exact hb (Prod.mk.inj (Option.some.inj hf')).1.symm
  · intro n c r hm t' al' hc
    -- the entry of a queued reply points to a call that is gone
    have hne : c = call.callerConn → call.callerSerial ≠ n := fun hcc hs => by
      obtain ⟨bs0, callee, hf, hg0⟩ := h.c n c r hm t al (hcc ▸ hk)
      rw [← hs, hent] at hf; cases hf
      rw [hg] at hg0; cases hg0
    obtain ⟨bs0, callee, hf, hg0⟩ := erase_reply hk hne (h.c n c r hm) hc
    exact ⟨bs0, callee, hf, hu.free hg hg0⟩
  · exact h.e.imp fun hxy h1 h2 => set_none hk (hxy h1 h2)
  · exact h.d

/-- the call `bs` goes or is marked aborted while no entry of a connection that is there points to it as a live call:
it was aborted before, or its caller is gone -/
theorem XP.finish_call_noentry (h : XP sv K G nx R A) {G' : GView} {bs : Nat} {call : Call}
    (hg : G bs = some call) (hno : call.aborted = true ∨ K call.callerConn = none) (hu : Upd G G' bs) :
    XP sv K G' nx R A := by
  constructor
  · intro c t al n bs' callee hc hf
    refine hu.entry hg (h.a c t al n bs' callee hc hf) fun _ h2 => hno.resolve_right fun hno => ?_
    rw [h2, hc] at hno; cases hno
  · intro bs' call' hg' hna'
    exact h.b bs' call' (hu.live hg' hna').2 hna'
  · intro n c r hm t al hc
    obtain ⟨bs0, callee, hf, hg0⟩ := h.c n c r hm t al hc
    exact ⟨bs0, callee, hf, hu.free hg hg0⟩
  · exact h.e
  · exact h.d

/-- `remove_service` drops the live call `bs` and queues the `InvalidService` reply for its caller -/
theorem XP.service_drops_call (h : XP sv K G nx R A) {G' : GView} {bs : Nat} {call : Call} {r : CallResult}
    (hg : G bs = some call) (hna : call.aborted = false) (hu : Upd G G' bs) (hnone : G' bs = none) :
    XP sv K G' nx ((call.callerSerial, call.callerConn, r) :: R) A := by
  constructor
  · intro c t al n bs' callee hc hf
    rcases h.a c t al n bs' callee hc hf with ⟨call', hg', h1, h2, h3⟩ | ⟨hg', r', hr⟩
    · by_cases hb : bs' = bs
      · subst hb
        rw [hg] at hg'; cases hg'
        exact .inr ⟨hnone, r, h1 ▸ h2 ▸ List.mem_cons_self⟩
      · exact .inl ⟨call', (hu.1 bs' hb).trans hg', h1, h2, h3⟩
    · exact .inr ⟨hu.free hg hg', r', List.mem_cons_of_mem _ hr⟩
  · intro bs' call' hg' hna'
    exact h.b bs' call' (hu.live hg' hna').2 hna'
  · intro n c r' hm t al hc
    rcases List.mem_cons.1 hm with hm | hm
    · cases hm
      obtain ⟨callee, hf⟩ := h.caller_entry hg hna hc
      exact ⟨bs, callee, hf, hnone⟩
    · obtain ⟨bs0, callee, hf, hg0⟩ := h.c n c r' hm t al hc
      exact ⟨bs0, callee, hf, hu.free hg hg0⟩
  · refine List.pairwise_cons.2 ⟨fun y hy h1 h2 => ?_, h.e⟩
    -- a reply queued for the entry of the call would mean the call is gone
    cases hk : K call.callerConn with
    | none => rfl
    | some v =>
      obtain ⟨ny, cy, ry⟩ := y
      simp only at h1 h2
      subst h1 h2
      obtain ⟨bs0, callee, hf, hg0⟩ := h.c _ _ ry hy v.1 v.2 hk
      obtain ⟨callee', hf'⟩ := h.caller_entry hg hna hk
      rw [hf] at hf'; cases hf'
      rw [hg] at hg0; cases hg0
  · exact h.d

/-- the work loop takes the first queued `InvalidService` reply, whose connection is gone -/
theorem XP.pop_remove_gone {n : Nat} {c : ConnId} {r : CallResult} (h : XP sv K G nx ((n, c, r) :: R) A) (hk : K c = none) : XP sv K G nx R A := by
  constructor
  · intro c' t al n' bs callee hc hf
    rcases h.a c' t al n' bs callee hc hf with h1 | ⟨hg', r', hr⟩
    · exact Or.inl h1
    · right
      rw [List.mem_cons] at hr
      rcases hr with hr | hr
      · simp only [Prod.mk.injEq] at hr
        rw [hr.2.1, hk] at hc; simp at hc
      · exact ⟨hg', r', hr⟩
  · exact h.b
  · intro n' c' r' hm; exact h.c n' c' r' (List.mem_cons_of_mem _ hm)
  · exact (List.pairwise_cons.1 h.e).2
  · exact h.d

/-- … whose connection is there: its entry goes -/
theorem XP.pop_remove {n : Nat} {c : ConnId} {r : CallResult} (h : XP sv K G nx ((n, c, r) :: R) A) {t : CallTbl'} {al : Bool} (hk : K c = some (t, al)) :
    XP sv (upd K c (some (AL.erase n t, al))) G nx R A := by
  rw [← upd_flip]
  obtain ⟨bs0, callee0, hent, hg0⟩ := h.c n c r List.mem_cons_self t al hk
  have he := List.pairwise_cons.1 h.e
  constructor
  · intro c' t' al' n' bs callee hc hf
    obtain ⟨t'', k1, k2, k3⟩ := erase_old hk hc hf
    refine (h.a c' t'' al' n' bs callee k1 k2).imp_right fun ⟨hg', r', hr⟩ => ⟨hg', r', ?_⟩
    rcases List.mem_cons.1 hr with hr | hr
    · cases hr; exact absurd ⟨rfl, rfl⟩ k3
    · exact hr
  · intro bs call hg hna
    refine HasCaller.set (h.b bs call hg hna) hk fun hent' => erase_new hk (fun hcc hs => ?_) hent'
    -- the entry that goes points to a call that is gone
    obtain ⟨t', _, callee, hk', hf'⟩ := hent'
    rw [hcc, hk] at hk'; cases hk'
    rw [← hs, hent] at hf'; cases hf'
    rw [hg0] at hg; cases hg
  · intro n' c' r' hm t' al' hc
    refine erase_reply hk (fun hcc hs => ?_) (h.c n' c' r' (List.mem_cons_of_mem _ hm)) hc
    -- no second reply is queued for the same entry of a connection that is there
    have : K c = none := he.1 (n', c', r') hm hcc.symm hs
    rw [hk] at this; cases this
  · exact he.2.imp fun hxy h1 h2 => set_none hk (hxy h1 h2)
  · exact h.d

/-- `call_function_impl` takes a call: a fresh serial of the broker, a new entry of the caller. `R = []` is needed: an entry whose
`InvalidService` reply is still queued names a serial that is free in `G`, which `SerialMap::insert` could hand out
again, and clause `a` would fail of that entry. A request is handled only when the work loop has run dry. -/
theorem XP.add_call (h : XP sv K G nx [] A) {id : ConnId} {t : CallTbl'} {al : Bool} {serial bsn nx' : Nat} {callee : ConnId} {call : Call}
    {G' : GView} (hk : K id = some (t, al)) (hfree : AL.find? serial t = none) (hfresh : G bsn = none)
    (hG : ∀ k, G' k = if k = bsn then some call else G k) (hc1 : call.callerSerial = serial) (hc2 : call.callerConn = id)
    (hc3 : call.aborted = false) (hnx : nx' < u32Max + 1) :
    XP sv (upd K id (some (t ++ [(serial, (bsn, callee))], al))) G' nx' [] A := by
  rw [← upd_flip]
  have happ : ∀ n, AL.find? n (t ++ [(serial, (bsn, callee))]) =
      (AL.find? n t).or (if serial = n then some (bsn, callee) else none) :=
    fun n => AL.find?_append_one n serial (bsn, callee) t
  constructor
  · intro c t' al' n bs callee' hc hf
    -- an entry that was there keeps its call
    have old : ∀ t0, K c = some (t0, al') → AL.find? n t0 = some (bs, callee') →
        (∃ call, G' bs = some call ∧ call.callerSerial = n ∧ call.callerConn = c ∧ call.aborted = false)
        ∨ (G' bs = none ∧ ∃ r, (n, c, r) ∈ ([] : RList)) := by
      intro t0 h0 hf0
      rcases h.a c t0 al' n bs callee' h0 hf0 with ⟨call', hg', hrest⟩ | ⟨_, _, hr⟩
      · have hb : bs ≠ bsn := fun x => by rw [x, hfresh] at hg'; cases hg'
        exact .inl ⟨call', by rw [hG, if_neg hb]; exact hg', hrest⟩
      · cases hr
    by_cases hcc : c = id
    · rw [if_pos hcc] at hc; cases hc
      rw [happ] at hf
      cases hft : AL.find? n t with
      | some x =>
        rw [hft] at hf; cases hf
        exact old t (hcc ▸ hk) hft
      | none =>
        rw [hft, Option.none_or] at hf
        split at hf
        · cases hf
          exact .inl ⟨call, by rw [hG, if_pos rfl], ‹serial = n› ▸ hc1, hcc ▸ hc2, hc3⟩
        · cases hf
    · exact old t' ((if_neg hcc).symm.trans hc) hf
  · intro bs call' hg' hna
    rw [hG] at hg'
    split at hg'
    · rename_i hb; subst hb
      cases hg'
      refine .inl ⟨_, al, callee, if_pos hc2, ?_⟩
      rw [happ, hc1, hfree, if_pos rfl]; rfl
    · refine HasCaller.set (h.b bs call' hg' hna) hk fun ⟨t', al', callee', hk', hf'⟩ => ?_
      by_cases hcc : call'.callerConn = id
      · rw [hcc, hk] at hk'; cases hk'
        exact ⟨_, _, callee', if_pos hcc, by rw [happ, hf']; rfl⟩
      · exact ⟨t', al', callee', (if_neg hcc).trans hk', hf'⟩
  · intro n c r hm; cases hm
  · exact List.Pairwise.nil
  · exact hnx

/-- `shutdown_connection` takes the connection out of the map; its table is kept aside -/
theorem XP.remove_conn (h : XP none K G nx R A) {c0 : ConnId} {tbl : CallTbl'} {al0 : Bool} (hk : K c0 = some (tbl, al0)) :
    XP (some (c0, tbl)) (fun c => if c = c0 then none else K c) G nx R A := by
  constructor
  · intro c t al n bs callee hc hf
    by_cases hcc : c = c0
    · simp [hcc] at hc
    · simp only [hcc, ↓reduceIte] at hc; exact h.a c t al n bs callee hc hf
  · intro bs call hg hna
    rcases h.b bs call hg hna with ⟨t', al', callee, hk', hf'⟩ | ⟨h2a, h2b⟩ | ⟨_, _, _, h3, _⟩
    · by_cases hcc : call.callerConn = c0
      · right; right
        rw [hcc, hk] at hk'; simp at hk'; obtain ⟨rfl, rfl⟩ := hk'
        exact ⟨by simp [hcc], tbl, callee, by rw [hcc], hf'⟩
      · left; exact ⟨t', al', callee, by simp [hcc, hk'], hf'⟩
    · right; left
      refine ⟨?_, h2b⟩
      by_cases hcc : call.callerConn = c0 <;> simp [hcc, h2a]
    · simp at h3
  · intro n c r hm t al hc
    by_cases hcc : c = c0
    · simp [hcc] at hc
    · simp only [hcc, ↓reduceIte] at hc; exact h.c n c r hm t al hc
  · refine h.e.imp ?_
    intro x y hxy h1 h2
    have := hxy h1 h2
    by_cases hcc : x.2.1 = c0 <;> simp [hcc, this]
  · exact h.d

theorem XP.remove_conn_upd (h : XP none K G nx R A) {c0 : ConnId} {tbl : CallTbl'} {al0 : Bool} (hk : K c0 = some (tbl, al0)) :
    XP (some (c0, tbl)) (upd K c0 none) G nx R A := upd_flip K c0 none ▸ h.remove_conn hk

/-- … and at the end queues the abort of every call in that table -/
theorem XP.flush_aborts {c0 : ConnId} {tbl : CallTbl'} (h : XP (some (c0, tbl)) K G nx R A) {A' : AList}
    (h1 : ∀ x ∈ A, x ∈ A') (h2 : ∀ p ∈ tbl, (p.2.1, p.2.2) ∈ A') : XP none K G nx R A' := by
  constructor
  · exact h.a
  · intro bs call hg hna
    rcases h.b bs call hg hna with h1' | ⟨h2a, y, hy⟩ | ⟨h3a, tbl', callee, h3, hf⟩
    · exact Or.inl h1'
    · exact Or.inr (Or.inl ⟨h2a, y, h1 _ hy⟩)
    · right; left
      simp only [Option.some.injEq, Prod.mk.injEq] at h3
      obtain ⟨_, rfl⟩ := h3
      exact ⟨h3a, callee, h2 _ (AL.find?_some_mem hf)⟩
  · exact h.c
  · exact h.e
  · exact h.d

/-- the task of a connection is gone: only its flag changes -/
theorem XP.drop_alive (h : XP sv K G nx R A) {c0 : ConnId} {K' : KView}
    (hK : ∀ c, K' c = upd K c0 ((K c0).map fun x => (x.1, false)) c) : XP sv K' G nx R A := by
  have hsome : ∀ c t al, K' c = some (t, al) → ∃ al', K c = some (t, al') := by
    intro c t al hc
    rw [hK] at hc
    rcases upd_eq_some hc with ⟨rfl, hv⟩ | ⟨-, hc⟩
    · obtain ⟨v, hk, e⟩ := Option.map_eq_some_iff.1 hv
      cases e; exact ⟨v.2, hk⟩
    · exact ⟨al, hc⟩
  have hnone : ∀ c, K c = none → K' c = none := by
    intro c hc; rw [hK, upd_apply]; split
    · next e => rw [e, hc]; rfl
    · exact hc
  constructor
  · intro c t al n bs callee hc hf
    obtain ⟨al', hc'⟩ := hsome c t al hc
    exact h.a c t al' n bs callee hc' hf
  · intro bs call hg hna
    rcases h.b bs call hg hna with ⟨t', al', callee, hk', hf'⟩ | ⟨h2a, h2b⟩ | ⟨h3a, h3b⟩
    · left
      by_cases hcc : c0 = call.callerConn
      · exact ⟨t', false, callee, by rw [hK, hcc, upd_self, hk']; rfl, hf'⟩
      · exact ⟨t', al', callee, by rw [hK, upd_ne hcc, hk'], hf'⟩
    · exact Or.inr (Or.inl ⟨hnone _ h2a, h2b⟩)
    · exact Or.inr (Or.inr ⟨hnone _ h3a, h3b⟩)
  · intro n c r hm t al hc
    obtain ⟨al', hc'⟩ := hsome c t al hc
    exact h.c n c r hm t al' hc'
  · exact h.e.imp (fun {x y} hxy h1 h2 => hnone _ (hxy h1 h2))
  · exact h.d

/-- a connection arrives while nothing is deferred -/
theorem XP.new_conn (h : XP none K G nx [] []) {c0 : ConnId} (hk : K c0 = none) :
    XP none (fun c => if c = c0 then some ([], true) else K c) G nx [] [] := by
  constructor
  · intro c t al n bs callee hc hf
    by_cases hcc : c = c0
    · simp [hcc] at hc; rw [hc.1] at hf; simp [AL.find?] at hf
    · simp only [hcc, ↓reduceIte] at hc; exact h.a c t al n bs callee hc hf
  · intro bs call hg hna
    rcases h.b bs call hg hna with ⟨t', al', callee, hk', hf'⟩ | ⟨_, y, hy⟩ | ⟨_, _, _, h3, _⟩
    · left
      have hcc : call.callerConn ≠ c0 := fun x => by rw [x, hk] at hk'; simp at hk'
      exact ⟨t', al', callee, by simp [hcc, hk'], hf'⟩
    · simp at hy
    · simp at h3
  · intro n c r hm; simp at hm
  · exact List.Pairwise.nil
  · exact h.d

theorem XP.new_conn_upd (h : XP none K G nx [] []) {c0 : ConnId} (hk : K c0 = none) :
    XP none (upd K c0 (some ([], true))) G nx [] [] := upd_flip K c0 _ ▸ h.new_conn hk

/-- the work loop takes the first queued abort; the call it names is gone or marked aborted by then -/
theorem XP.pop_abort {x : Nat × ConnId} (h : XP sv K G nx R (x :: A)) (hdead : ∀ call, G x.1 = some call → call.aborted = true) :
    XP sv K G nx R A := by
  constructor
  · exact h.a
  · intro bs call hg hna
    rcases h.b bs call hg hna with h1 | ⟨h2a, y, hy⟩ | h3
    · exact Or.inl h1
    · rw [List.mem_cons] at hy
      rcases hy with hy | hy
      · have : x.1 = bs := by rw [← hy]
        have := hdead call (this ▸ hg)
        rw [hna] at this; simp at this
      · exact Or.inr (Or.inl ⟨h2a, y, hy⟩)
    · exact Or.inr (Or.inr h3)
  · exact h.c
  · exact h.e
  · exact h.d

end Aldrin.Broker
