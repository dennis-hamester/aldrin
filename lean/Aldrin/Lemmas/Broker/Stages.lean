/-
The functions of the model with their stages named. A handler answers its request and, on one of its paths, performs one
operation on the state (a channel is opened, an end claimed, an object added, a call taken): each such operation is a
function of its own, so that what it does to an invariant is proved of the operation. For the functions that several
proofs take apart path by path an equation (`…_eq`) states the function over its stages, every path included, also those
that end in a panic. Where a function is built of others that may fail (`remove_channel_end`, `remove_service`,
`remove_object`, `call_function_reply`, `abort_call` and the reply to a caller), its outcome (`…_outcome`) stands beside
the equation: the paths that end well, each with the stages it went through. The footprints of these functions are
corollaries of the outcomes; the outcomes of the handlers, which speak of footprints, are in `Outcomes.lean`.
-/
import Aldrin.Lemmas.Broker.Prim
import Aldrin.Lemmas.Broker.Chan

namespace Aldrin.Broker
open Generated

theorem bind_ok_iff {ε α β : Type} {x : Except ε α} {f : α → Except ε β} {b : β} :
    (x >>= f) = .ok b ↔ ∃ a, x = .ok a ∧ f a = .ok b := by
  cases x <;> simp [bind, Except.bind]

theorem bind_error_iff {ε α β : Type} {x : Except ε α} {f : α → Except ε β} {e : ε} :
    (x >>= f) = .error e ↔ x = .error e ∨ ∃ a, x = .ok a ∧ f a = .error e := by
  cases x <;> simp [bind, Except.bind]

theorem map_ok_iff {ε α β : Type} {x : Except ε α} {f : α → β} {b : β} : x.map f = .ok b ↔ ∃ a, x = .ok a ∧ f a = b := by
  cases x <;> simp [Except.map]

theorem map_error_iff {ε α β : Type} {x : Except ε α} {f : α → β} {e : ε} : x.map f = .error e ↔ x = .error e := by
  cases x <;> simp [Except.map]

/-- what `remove_channel_end` does to a connection's lists -/
def dropEnd (e : ChanEnd) (ck : Cookie) (c : Conn) : Conn :=
  match e with
  | .sender => { c with senders := sremove ck c.senders }
  | .receiver => { c with receivers := sremove ck c.receivers }

/-- `rce…`: the stages of `remove_channel_end` — the end off its owner's list (`rceConn`); then the other end's owner is
told if it is there (`rceFinish`), else the channel goes (`rceDrop`) -/
def rceConn (s : St) (ck : Cookie) (e : ChanEnd) (owner : Option ConnId) : St :=
  match owner with
  | some o => s.updConn o (dropEnd e ck)
  | none => s

def rceDrop (t : St) (ck : Cookie) : St :=
  (t.setChannels (AL.erase ck t.b.channels)).stat (fun st => { st with numChannels := st.numChannels - 1 })

def rceFinish (t : St) (ck : Cookie) (e : ChanEnd) (ch' : Chan) (other : Option ConnId) : St :=
  match other with
  | some oid =>
    if ((t.setChannels (AL.insert ck ch' t.b.channels)).conn? oid).isSome
    then (t.setChannels (AL.insert ck ch' t.b.channels)).sendOrRemove oid (.channelEndClosed ck e)
    else rceDrop (t.setChannels (AL.insert ck ch' t.b.channels)) ck
  | none => rceDrop (t.setChannels (AL.insert ck ch' t.b.channels)) ck

theorem removeChannelEnd_eq (s : St) (ck : Cookie) (e : ChanEnd) (owner : Option ConnId) :
    removeChannelEnd s ck e owner =
      match AL.find? ck s.b.channels with
      | none => .ok s
      | some ch => match ch.close e with
        | .error p => .error p
        | .ok (ch', other) => .ok (rceFinish (rceConn s ck e owner) ck e ch' other) := by
  unfold removeChannelEnd rceFinish rceDrop rceConn dropEnd
  cases hch : AL.find? ck s.b.channels with
  | none => rfl
  | some ch =>
    simp only []
    cases hc : ch.close e with
    | error p => rfl
    | ok r =>
      obtain ⟨ch', other⟩ := r
      cases owner <;> cases e <;> cases other <;> simp only [] <;> (try rfl) <;> (split <;> simp_all)

theorem removeChannelEnd_outcome {s s' : St} {ck : Cookie} {e : ChanEnd} {owner : Option ConnId}
    (h : removeChannelEnd s ck e owner = .ok s') :
    (AL.find? ck s.b.channels = none ∧ s' = s) ∨
    ∃ ch ch' other, AL.find? ck s.b.channels = some ch ∧ ch.close e = .ok (ch', other) ∧
      s' = rceFinish (rceConn s ck e owner) ck e ch' other := by
  rw [removeChannelEnd_eq] at h
  split at h
  · cases h; exact .inl ⟨‹_›, rfl⟩
  split at h
  · cases h
  · cases h; exact .inr ⟨_, _, _, ‹_›, ‹_›, rfl⟩

/-- the mirror image of `dropEnd` -/
def addEnd (e : ChanEnd) (ck : Cookie) (c : Conn) : Conn :=
  match e with
  | .sender => { c with senders := sinsert ck c.senders }
  | .receiver => { c with receivers := sinsert ck c.receivers }

/-- a channel with one end claimed by its creator -/
def Chan.fresh (e : ChanEnd) (id : ConnId) (cap : Nat) : Chan :=
  match e with
  | .sender => Chan.withClaimedSender id
  | .receiver => Chan.withClaimedReceiver id cap

/-- `create_channel` up to the answer: the next cookie names a new channel, whose claimed end its creator lists -/
def openChannel (s : St) (id : ConnId) (e : ChanEnd) (cap : Nat) : St :=
  let t := s.freshCookie.1.updConn id (addEnd e s.b.nextCookie)
  (t.setChannels (AL.insert s.b.nextCookie (Chan.fresh e id cap) t.b.channels)).stat
    (fun st => { st with numChannels := st.numChannels + 1 })

theorem createChannel_eq (s : St) (id : ConnId) (serial : Nat) (e : ChanEnd) (cap : Nat) :
    createChannel s id serial e cap =
      match s.conn? id with
      | none => okH s
      | some _ => .ok ((openChannel s id e cap).send id (.createChannelReply serial s.b.nextCookie)) := by
  unfold createChannel openChannel addEnd Chan.fresh
  cases s.conn? id
  · rfl
  · cases e <;> rfl

/-- the end is claimed in the channel and on the list of its new owner -/
def claimEnd (s : St) (id : ConnId) (ck : Cookie) (e : ChanEnd) (ch' : Chan) : St :=
  (s.setChannels (AL.insert ck ch' s.b.channels)).updConn id (addEnd e ck)

theorem claimChannelEnd_eq (s : St) (id : ConnId) (serial : Nat) (ck : Cookie) (e : ChanEnd) (cap : Nat) :
    claimChannelEnd s id serial ck e cap =
      match s.conn? id with
      | none => okH s
      | some _ => match AL.find? ck s.b.channels with
        | none => .ok (s.send id (.claimChannelEndReply serial .invalidChannel))
        | some ch => match ch.claim e id cap with
          | .error p => .error p
          | .ok (.error r) => .ok (s.send id (.claimChannelEndReply serial r))
          | .ok (.ok (ch', other, r)) =>
            let t := (claimEnd s id ck e ch').send id (.claimChannelEndReply serial r)
            if (t.1.conn? other).isNone then .error (.inconsistent "claim_channel_end: other conn") else
            .ok (t.1.sendOrRemove other (.channelEndClaimed ck e (match e with | .sender => 0 | .receiver => cap)), t.2) := by
  unfold claimChannelEnd Chan.claim claimEnd addEnd
  cases e <;> rfl

theorem closeChannelEnd_eq (s : St) (id : ConnId) (serial : Nat) (ck : Cookie) (e : ChanEnd) :
    closeChannelEnd s id serial ck e =
      match s.conn? id with
      | none => okH s
      | some _ => match AL.find? ck s.b.channels with
        | none => .ok (s.send id (.closeChannelEndReply serial .invalidChannel))
        | some ch =>
          let t := s.send id (.closeChannelEndReply serial (ch.checkClose id e).1)
          if !t.2 then errH t.1 else
          if (ch.checkClose id e).1 = .ok then
            (removeChannelEnd t.1 ck e (if (ch.checkClose id e).2 then some id else none)).map (·, true)
          else okH t.1 := by
  unfold closeChannelEnd
  cases s.conn? id with
  | none => rfl
  | some _ =>
  cases AL.find? ck s.b.channels with
  | none => rfl
  | some ch =>
  dsimp only
  split
  · rfl
  · split
    · cases removeChannelEnd _ ck e _ <;> rfl
    · rfl

/-- `send_item` once the channel has its new capacities (`t`): the item to the owner of the receiver end, if it is a
connection that is there, and then perhaps new capacity to the sender -/
def passItem (t : St) (id : ConnId) (v : Nat) (rid : ConnId) (ck : Cookie) (p : Payload) (add : Option Nat) : St × Bool :=
  if (t.conn? rid).isNone then (t, true) else
  match add with
  | some n => (t.sendOrRemove rid (.itemReceived ck p) (some v)).send id (.addChannelCapacity ck n)
  | none => (t.sendOrRemove rid (.itemReceived ck p) (some v), true)

theorem sendItem_eq (s : St) (id : ConnId) (ck : Cookie) (p : Payload) :
    sendItem s id ck p =
      match s.conn? id with
      | none => okH s
      | some sender => match AL.find? ck s.b.channels with
        | none => okH s
        | some ch => match ch.sendItem id with
          | .error pn => .error pn
          | .ok (.error .receiverUnclaimed) =>
            (removeChannelEnd s ck .receiver none >>= fun t => removeChannelEnd t ck .sender (some id)).map (·, true)
          | .ok (.error .capacityExhausted) => (removeChannelEnd s ck .sender (some id)).map (·, true)
          | .ok (.error _) => okH s
          | .ok (.ok (ch', rid, add)) =>
            .ok (passItem (s.setChannels (AL.insert ck ch' s.b.channels)) id sender.version rid ck p add) := by
  unfold sendItem passItem
  cases s.conn? id with
  | none => rfl
  | some sender =>
  cases AL.find? ck s.b.channels with
  | none => rfl
  | some ch =>
  dsimp only
  cases ch.sendItem id with
  | error pn => rfl
  | ok x =>
  cases x with
  | error e =>
    cases e
    case receiverUnclaimed =>
      dsimp only
      cases removeChannelEnd s ck .receiver none with
      | error _ => rfl
      | ok t => dsimp only [bind, Except.bind]; cases removeChannelEnd t ck .sender (some id) <;> rfl
    case capacityExhausted => dsimp only; cases removeChannelEnd s ck .sender (some id) <;> rfl
    all_goals rfl
  | ok y =>
    obtain ⟨ch', rid, add⟩ := y
    dsimp only
    split
    · rfl
    · cases add <;> rfl

/-- `add_channel_capacity` once the channel has its new capacities (`t`): what is to be forwarded goes to the owner of the
sender end, if it is a connection that is there -/
def passCapacity (t : St) (ck : Cookie) (fwd : Option (ConnId × Nat)) : St :=
  match fwd with
  | none => t
  | some (sid, diff) => if (t.conn? sid).isNone then t else t.sendOrRemove sid (.addChannelCapacity ck diff)

theorem addChannelCapacity_eq (s : St) (id : ConnId) (ck : Cookie) (cap : Nat) :
    addChannelCapacity s id ck cap =
      match AL.find? ck s.b.channels with
      | none => okH s
      | some ch => match ch.addCapacity id cap with
        | .error p => .error p
        | .ok none => (removeChannelEnd s ck .receiver (some id)).map (·, true)
        | .ok (some (ch', fwd)) => okH (passCapacity (s.setChannels (AL.insert ck ch' s.b.channels)) ck fwd) := by
  unfold addChannelCapacity passCapacity
  cases AL.find? ck s.b.channels with
  | none => rfl
  | some ch =>
  dsimp only
  cases ch.addCapacity id cap with
  | error p => rfl
  | ok x =>
  cases x with
  | none => dsimp only; cases removeChannelEnd s ck .receiver (some id) <;> rfl
  | some y =>
    obtain ⟨ch', fwd⟩ := y
    cases fwd with
    | none => rfl
    | some z => obtain ⟨sid, diff⟩ := z; dsimp only; split <;> rfl

/-- a new listener of `id` under the cookie `ck` -/
def addListener (t : St) (id : ConnId) (ck : Cookie) : St :=
  let t := (t.stat (fun st => { st with numBusListeners := st.numBusListeners + 1 })).updConn id
    (fun c => { c with busListeners := sinsert ck c.busListeners })
  t.setListeners (AL.insert ck { conn := id } t.b.listeners)

/-- a new object `uuid` of `id` under the cookie `ck` -/
def addObject (t : St) (id : ConnId) (uuid : Uuid) (ck : Cookie) : St :=
  let t := ((t.setObjUuids (AL.insert ck uuid t.b.objUuids)).setObjs (AL.insert uuid ⟨id, ck, []⟩ t.b.objs)).updConn id
    (fun c => { c with objects := sinsert ck c.objects })
  (t.setWCreateObject (⟨uuid, ck⟩ :: t.w.createObject)).stat (fun st => { st with numObjects := st.numObjects + 1 })

/-- a new service `uuid` of the object `obj`, registered as `objUuid` under `oc`, under the cookie `ck` -/
def addService (t : St) (oc : Cookie) (objUuid : Uuid) (obj : Obj) (uuid : Uuid) (info : SvcInfo) (ck : Cookie) : St :=
  let t := ((t.setSvcUuids (AL.insert ck (⟨objUuid, oc⟩, uuid, info) t.b.svcUuids)).setSvcs
    (AL.insert (objUuid, uuid) { cookie := ck, objCookie := oc } t.b.svcs)).setObjs
    (AL.insert objUuid { obj with svcs := sinsert ck obj.svcs } t.b.objs)
  (t.setWCreateService (⟨⟨objUuid, oc⟩, uuid, ck⟩ :: t.w.createService)).stat
    (fun st => { st with numServices := st.numServices + 1 })

/-- the call as the broker records it -/
def newCall (id : ConnId) (serial : Nat) (objId : ObjId) (svcUuid : Uuid) : Call := ⟨serial, id, objId.uuid, svcUuid, false⟩

/-- the call is in the table, under the serial `(s.b.calls.insert _).2`, and on record with its caller -/
def addCall (s : St) (id : ConnId) (conn : Conn) (serial : Nat) (call : Call) (callee : ConnId) : St :=
  (s.setCalls (s.b.calls.insert call).1).setConn id
    { conn with calls := conn.calls ++ [(serial, ((s.b.calls.insert call).2, callee))] }

/-- the service holds the call `bs`, and the callee is sent it -/
def passCall (t : St) (key : Uuid × Uuid) (svc : Svc) (bs : Nat) (callee : ConnId) (m : Rsp) (v : Nat) : St :=
  (t.setSvcs (AL.insert key { svc with calls := sinsert bs svc.calls } t.b.svcs)).sendOrRemove callee m (some v)

/-- `ConnectionState::remove_call` and the reply: nothing if the caller is gone; `site` names the assertion that the
caller still has the call on record. The end shared by `call_function_reply`, `abort_call` and the item of
`remove_function_calls`. -/
def replyToCaller (site : String) (s : St) (cid : ConnId) (serial : Nat) (r : CallResult) (v : Option Nat) : Except Panic St :=
  match s.conn? cid with
  | none => .ok s
  | some c =>
    if (AL.find? serial c.calls).isNone then .error (.debugAssert site) else
    .ok ((s.setConn cid { c with calls := AL.erase serial c.calls }).sendOrRemove cid (.callFunctionReply serial r) v)

theorem replyToCaller_outcome {site : String} {s s' : St} {cid : ConnId} {serial : Nat} {r : CallResult} {v : Option Nat}
    (h : replyToCaller site s cid serial r v = .ok s') :
    (s.conn? cid = none ∧ s' = s) ∨ ∃ c, s.conn? cid = some c ∧ AL.find? serial c.calls ≠ none ∧
      s' = (s.setConn cid { c with calls := AL.erase serial c.calls }).sendOrRemove cid (.callFunctionReply serial r) v := by
  unfold replyToCaller at h
  split at h
  · cases h; exact .inl ⟨‹_›, rfl⟩
  · split at h <;> cases h
    exact .inr ⟨_, ‹_›, by simpa using ‹¬ (AL.find? _ _).isNone = true›, rfl⟩

theorem replyToCaller_error {site : String} {t : St} {cid : ConnId} {n : Nat} {r : CallResult} {v : Option Nat} {p : Panic}
    (h : replyToCaller site t cid n r v = .error p) :
    p = .debugAssert site ∧ ∃ c, t.conn? cid = some c ∧ AL.find? n c.calls = none := by
  unfold replyToCaller at h
  split at h
  · cases h
  · split at h <;> cases h
    exact ⟨rfl, _, ‹_›, by simpa using ‹Option.isNone _ = true›⟩

/-- `call_function_reply` that is accepted: the call leaves the table and the service -/
def dropCall (s : St) (serial : Nat) (call : Call) (svc : Svc) : St :=
  (s.setCalls (s.b.calls.remove serial)).setSvcs
    (AL.insert (call.calleeObj, call.calleeSvc) { svc with calls := sremove serial svc.calls } s.b.svcs)

@[simp] theorem dropCall_b_calls (s : St) (serial : Nat) (call : Call) (svc : Svc) :
    (dropCall s serial call svc).b.calls = s.b.calls.remove serial := rfl
@[simp] theorem dropCall_b_svcs (s : St) (serial : Nat) (call : Call) (svc : Svc) : (dropCall s serial call svc).b.svcs =
    AL.insert (call.calleeObj, call.calleeSvc) { svc with calls := sremove serial svc.calls } s.b.svcs := rfl
@[simp] theorem dropCall_b_conns (s : St) (serial : Nat) (call : Call) (svc : Svc) : (dropCall s serial call svc).b.conns = s.b.conns := rfl
@[simp] theorem dropCall_w (s : St) (serial : Nat) (call : Call) (svc : Svc) : (dropCall s serial call svc).w = s.w := rfl

theorem callFunctionReply_eq (s : St) (id : ConnId) (serial : Nat) (r : CallResult) :
    callFunctionReply s id serial r =
      match s.conn? id with
      | none => okH s
      | some conn =>
        match s.b.calls.get? serial with
        | none => okH s
        | some call =>
          match AL.find? call.calleeObj s.b.objs with
          | none => .error (.inconsistent "call_function_reply: objs")
          | some obj =>
            if obj.conn ≠ id then okH s else
            match AL.find? (call.calleeObj, call.calleeSvc) s.b.svcs with
            | none => .error (.inconsistent "call_function_reply: svcs")
            | some svc =>
              if call.aborted then okH (dropCall s serial call svc) else
              (replyToCaller "remove_call" (dropCall s serial call svc) call.callerConn call.callerSerial r
                (some conn.version)).map (·, true) := by
  unfold callFunctionReply replyToCaller dropCall
  cases s.conn? id with
  | none => rfl
  | some conn =>
  cases s.b.calls.get? serial with
  | none => rfl
  | some call =>
  dsimp only [St.setCalls_b_svcs, St.conn?_def, St.setSvcs_b_conns, St.setCalls_b_conns]
  cases AL.find? call.calleeObj s.b.objs with
  | none => rfl
  | some obj =>
  cases AL.find? (call.calleeObj, call.calleeSvc) s.b.svcs with
  | none => rfl
  | some svc =>
  cases AL.find? call.callerConn s.b.conns with
  | none => rfl
  | some caller => dsimp only; cases AL.find? call.callerSerial caller.calls <;> rfl

/-- `x = (s, true)`: the requester or the call is not there, or the object is another's -/
theorem callFunctionReply_outcome {s : St} {id : ConnId} {serial : Nat} {r : CallResult} {x : St × Bool}
    (h : callFunctionReply s id serial r = .ok x) :
    x = (s, true) ∨ ∃ conn call svc, s.conn? id = some conn ∧ s.b.calls.get? serial = some call ∧
      AL.find? (call.calleeObj, call.calleeSvc) s.b.svcs = some svc ∧
      (call.aborted = true ∧ x = (dropCall s serial call svc, true) ∨
       call.aborted = false ∧ x.2 = true ∧
        replyToCaller "remove_call" (dropCall s serial call svc) call.callerConn call.callerSerial r (some conn.version) = .ok x.1) := by
  rw [callFunctionReply_eq] at h
  split at h
  · cases h; exact .inl rfl
  split at h
  · cases h; exact .inl rfl
  split at h
  · cases h
  split at h
  · cases h; exact .inl rfl
  split at h
  · cases h
  refine .inr ⟨_, _, _, ‹_›, ‹_›, ‹_›, ?_⟩
  split at h
  · cases h; exact .inl ⟨‹_›, rfl⟩
  · obtain ⟨t, ht, rfl⟩ := map_ok_iff.1 h
    exact .inr ⟨Bool.eq_false_iff.2 ‹_›, rfl, ht⟩

/-- the optional `AbortFunctionCall` to the callee -/
def notifyCallee (s : St) (cid : ConnId) (serial : Nat) : St :=
  match s.conn? cid with
  | some c => if c.version ≥ abortMinCallee then s.sendOrRemove cid (.abortFunctionCall serial) else s
  | none => s

theorem notifyCallee_cases (s : St) (cid : ConnId) (serial : Nat) :
    notifyCallee s cid serial = s ∨ notifyCallee s cid serial = s.sendOrRemove cid (.abortFunctionCall serial) := by
  unfold notifyCallee
  split
  · split
    · exact .inr rfl
    · exact .inl rfl
  · exact .inl rfl

theorem abortCall_eq (s : St) (serial : Nat) (cid : ConnId) : abortCall s serial cid =
    match s.b.calls.get? serial with
    | none => .ok s
    | some call =>
      if call.aborted then .ok s else
      replyToCaller "abort_call: remove_call" (notifyCallee (s.setCalls (s.b.calls.set serial { call with aborted := true })) cid serial)
        call.callerConn call.callerSerial .aborted none := by
  unfold abortCall notifyCallee replyToCaller; rfl

theorem abortCall_outcome {s s' : St} {serial : Nat} {cid : ConnId} (h : abortCall s serial cid = .ok s') :
    (s' = s ∧ ∀ call, s.b.calls.get? serial = some call → call.aborted = true) ∨
    ∃ call, s.b.calls.get? serial = some call ∧ call.aborted = false ∧
      replyToCaller "abort_call: remove_call" (notifyCallee (s.setCalls (s.b.calls.set serial { call with aborted := true })) cid serial)
        call.callerConn call.callerSerial .aborted none = .ok s' := by
  rw [abortCall_eq] at h
  split at h
  · next hn => cases h; exact .inl ⟨rfl, fun _ hc => nomatch hn.symm.trans hc⟩
  next call hcall =>
  split at h
  · next hab => cases h; exact .inl ⟨rfl, fun _ hc => Option.some.inj (hcall.symm.trans hc) ▸ hab⟩
  · exact .inr ⟨call, hcall, Bool.eq_false_iff.2 ‹_›, h⟩

/-- `remove_service` before it drops the pending calls: the service out of the two maps and out of the list of its
object, the bus event queued -/
def dropService (s : St) (c : Cookie) (oid : ObjId) (svu : Uuid) : St :=
  (((s.setSvcUuids (AL.erase c s.b.svcUuids)).setSvcs (AL.erase (oid.uuid, svu) s.b.svcs)).setObjs
    (match AL.find? oid.uuid s.b.objs with
      | some o => AL.insert oid.uuid { o with svcs := sremove c o.svcs } s.b.objs
      | none => s.b.objs)).setWDestroyService (⟨oid, svu, c⟩ :: s.w.destroyService)

theorem dropService_b_objUuids (s : St) (c : Cookie) (oid : ObjId) (svu : Uuid) : (dropService s c oid svu).b.objUuids = s.b.objUuids := rfl
theorem dropService_b_svcUuids (s : St) (c : Cookie) (oid : ObjId) (svu : Uuid) :
    (dropService s c oid svu).b.svcUuids = AL.erase c s.b.svcUuids := rfl
theorem dropService_b_svcs (s : St) (c : Cookie) (oid : ObjId) (svu : Uuid) :
    (dropService s c oid svu).b.svcs = AL.erase (oid.uuid, svu) s.b.svcs := rfl
theorem dropService_b_calls (s : St) (c : Cookie) (oid : ObjId) (svu : Uuid) : (dropService s c oid svu).b.calls = s.b.calls := rfl
theorem dropService_b_conns (s : St) (c : Cookie) (oid : ObjId) (svu : Uuid) : (dropService s c oid svu).b.conns = s.b.conns := rfl
theorem dropService_b_stats (s : St) (c : Cookie) (oid : ObjId) (svu : Uuid) : (dropService s c oid svu).b.stats = s.b.stats := rfl
theorem dropService_b_nextCookie (s : St) (c : Cookie) (oid : ObjId) (svu : Uuid) :
    (dropService s c oid svu).b.nextCookie = s.b.nextCookie := rfl
theorem dropService_b_objs (s : St) (c : Cookie) (oid : ObjId) (svu : Uuid) : (dropService s c oid svu).b.objs =
    match AL.find? oid.uuid s.b.objs with
    | some o => AL.insert oid.uuid { o with svcs := sremove c o.svcs } s.b.objs
    | none => s.b.objs := rfl

theorem dropService_w_destroy (s : St) (c : Cookie) (oid : ObjId) (svu : Uuid) :
    (dropService s c oid svu).w.destroyService = ⟨oid, svu, c⟩ :: s.w.destroyService ∧
    (dropService s c oid svu).w.destroyObject = s.w.destroyObject :=
  ⟨rfl, rfl⟩

/-- one round of the loop of `remove_service` over the calls pending at the service: the call leaves the table, and
unless it has been aborted an `InvalidService` reply to its caller is deferred -/
def dropPendingCall (s : St) (serial : Nat) : Except Panic St :=
  match s.b.calls.get? serial with
  | none => .error (.inconsistent "remove_service: function_calls")
  | some call =>
    let s := s.setCalls (s.b.calls.remove serial)
    .ok (if call.aborted then s else
      s.setWRemoveCalls ((call.callerSerial, call.callerConn, CallResult.invalidService) :: s.w.removeCalls))

theorem removeService_calls_eq : ∀ (l : List Nat) (s : St), removeService.calls s l = foldE dropPendingCall s l
  | [], _ => rfl
  | a :: l, s => by
    rw [removeService.calls, foldE, dropPendingCall]
    cases s.b.calls.get? a with
    | none => rfl
    | some call => exact removeService_calls_eq l _

theorem dropPendingCall_ok {s s' : St} {a : Nat} (h : dropPendingCall s a = .ok s') :
    ∃ call, s.b.calls.get? a = some call ∧ s' = (if call.aborted then s.setCalls (s.b.calls.remove a) else
      (s.setCalls (s.b.calls.remove a)).setWRemoveCalls
        ((call.callerSerial, call.callerConn, CallResult.invalidService) :: s.w.removeCalls)) := by
  unfold dropPendingCall at h
  split at h
  · cases h
  · cases h; exact ⟨_, ‹_›, rfl⟩

/-- `remove_service` after it has dropped the pending calls: the subscribers of the service lose it and are to be told -/
def dropSubscribers (s : St) (c : Cookie) (subs : List ConnId) : St :=
  (subs.foldl (fun s cid =>
    match s.conn? cid with
    | some k => (s.setConn cid (k.unsubscribeAllOf c)).setWServicesDestroyed ((cid, c) :: s.w.servicesDestroyed)
    | none => s) s).stat (fun st => { st with numServices := st.numServices - 1 })

theorem removeService_eq (s : St) (c : Cookie) : removeService s c =
    match AL.find? c s.b.svcUuids with
    | none => .ok s
    | some (oid, svu, _) =>
      match AL.find? (oid.uuid, svu) s.b.svcs with
      | none => .error (.inconsistent "remove_service: svcs")
      | some svc => removeService.calls (dropService s c oid svu) svc.calls >>= fun s =>
          .ok (dropSubscribers s c svc.subscribedConnIds) := by
  unfold removeService dropService
  split
  · simp only [*]
  · rename_i oid svu _ _
    simp only [*, St.setSvcUuids_b_svcs]
    split
    · simp only [*]
    · rename_i svc _
      simp only [*]
      have e : ∀ x : Except Panic St, (match x with
          | .error e => Except.error e
          | .ok s => Except.ok (dropSubscribers s c svc.subscribedConnIds)) =
          (x >>= fun s => .ok (dropSubscribers s c svc.subscribedConnIds)) := fun x => by cases x <;> rfl
      -- no such object: `setObjs` with the old map is no change
      dsimp only [St.setSvcs_b_objs, St.setSvcUuids_b_objs]
      cases AL.find? oid.uuid s.b.objs <;> exact e _

theorem removeService_outcome {s s' : St} {c : Cookie} (hr : removeService s c = .ok s') :
    (AL.find? c s.b.svcUuids = none ∧ s' = s) ∨
    ∃ oid svu info svc s1, AL.find? c s.b.svcUuids = some (oid, svu, info) ∧ AL.find? (oid.uuid, svu) s.b.svcs = some svc ∧
      removeService.calls (dropService s c oid svu) svc.calls = .ok s1 ∧ s' = dropSubscribers s1 c svc.subscribedConnIds := by
  rw [removeService_eq] at hr
  split at hr
  · cases hr; exact .inl ⟨‹_›, rfl⟩
  split at hr
  · cases hr
  obtain ⟨s1, hc, hr⟩ := bind_ok_iff.mp hr
  cases hr
  exact .inr ⟨_, _, _, _, s1, ‹_›, ‹_›, hc, rfl⟩

/-- `remove_object` before it removes the services: the object out of the two maps and out of the list of its owner, the
bus event queued -/
def dropObject (s : St) (c : Cookie) (u : Uuid) (owner : ConnId) : St :=
  let s := ((s.setObjUuids (AL.erase c s.b.objUuids)).setObjs (AL.erase u s.b.objs)).updConn owner
    (fun k => { k with objects := sremove c k.objects })
  s.setWDestroyObject (⟨u, c⟩ :: s.w.destroyObject)

theorem removeObject_eq (s : St) (c : Cookie) : removeObject s c =
    match AL.find? c s.b.objUuids with
    | none => .ok s
    | some u =>
      match AL.find? u s.b.objs with
      | none => .error (.inconsistent "remove_object: objs")
      | some obj => removeObject.svcs (dropObject s c u obj.conn) obj.svcs >>= fun s =>
          .ok (s.stat (fun st => { st with numObjects := st.numObjects - 1 })) := by
  unfold removeObject
  split
  · simp only [*]
  · rename_i u _
    simp only [*, St.setObjUuids_b_objs]
    split
    · simp only [*]
    · rename_i obj _
      simp only [*]
      show (match removeObject.svcs (dropObject s c u obj.conn) obj.svcs with
        | .error e => Except.error e
        | .ok s => Except.ok (s.stat (fun st => { st with numObjects := st.numObjects - 1 }))) = _
      cases removeObject.svcs (dropObject s c u obj.conn) obj.svcs <;> rfl

theorem removeObject_svcs_eq : ∀ (l : List Cookie) (s : St), removeObject.svcs s l = foldE removeService s l
  | [], _ => rfl
  | c :: l, s => by
    rw [removeObject.svcs, foldE]
    cases removeService s c with
    | error e => rfl
    | ok t => exact removeObject_svcs_eq l t

theorem removeObject_outcome {s s' : St} {c : Cookie} (hr : removeObject s c = .ok s') :
    (AL.find? c s.b.objUuids = none ∧ s' = s) ∨
    ∃ u obj s1, AL.find? c s.b.objUuids = some u ∧ AL.find? u s.b.objs = some obj ∧
      foldE removeService (dropObject s c u obj.conn) obj.svcs = .ok s1 ∧
      s' = s1.stat (fun st => { st with numObjects := st.numObjects - 1 }) := by
  rw [removeObject_eq] at hr
  split at hr
  · cases hr; exact .inl ⟨‹_›, rfl⟩
  split at hr
  · cases hr
  obtain ⟨s1, hs, hr⟩ := bind_ok_iff.mp hr
  cases hr
  exact .inr ⟨_, _, s1, ‹_›, ‹_›, removeObject_svcs_eq _ _ ▸ hs, rfl⟩

/-- the end of `shutdown_connection`: the calls the connection had made are queued to be aborted -/
def queueAborts (s : St) (calls : List (Nat × (Nat × ConnId))) : St :=
  (calls.foldl (fun s p => s.setWAbortCalls ((p.2.1, p.2.2) :: s.w.abortCalls)) s).stat
    (fun st => { st with numConnections := st.numConnections - 1 })

/-- the `Shutdown` message of `shutdown_connection`, if one is wanted -/
def sayShutdown (s : St) (id : ConnId) (sendShutdown : Bool) (conn : Conn) : St :=
  if sendShutdown then
    let s := s.stat (fun st => { st with messagesSent := st.messagesSent + 1 })
    if conn.alive then s.setOut (s.out ++ [⟨id, .shutdown, none⟩]) else s
  else s

theorem sayShutdown_conns (s : St) (id : ConnId) (b : Bool) (conn : Conn) : (sayShutdown s id b conn).b.conns = s.b.conns := by
  unfold sayShutdown
  cases b
  · rfl
  · cases conn.alive <;> rfl

/-- `shutdown_connection` from there (`t`): the connection goes out of the map, then its listeners, its objects, its
subscriptions, its channel ends, the calls it had made (to be aborted), the introspection it had registered -/
def removeConnParts (t : St) (id : ConnId) (conn : Conn) : Except Panic St := do
  let s ← foldE removeObject (conn.busListeners.foldl removeBusListener (t.setConns (AL.erase id t.b.conns))) conn.objects
  let s ← foldE (fun s (p : Cookie × Nat) => removeEventSubscription s id p.1 p.2) s conn.eventSubscriptions
  let s ← foldE (fun s c => removeAllEventsSubscription s id c) s conn.allEvents
  let s ← foldE (fun s c => removeSubscription s id c) s conn.subscriptions
  let s ← foldE (fun s c => removeChannelEnd s c .sender (some id)) s conn.senders
  let s ← foldE (fun s c => removeChannelEnd s c .receiver (some id)) s conn.receivers
  removeIntrospectionConn (queueAborts s conn.calls) id

theorem shutdownConnection_eq (s : St) (id : ConnId) (b : Bool) : shutdownConnection s id b =
    match s.conn? id with
    | none => .ok s
    | some conn => removeConnParts (sayShutdown s id b conn) id conn := by
  unfold shutdownConnection removeConnParts sayShutdown queueAborts
  cases s.conn? id with
  | none => rfl
  | some conn =>
    dsimp only
    generalize (if b = true then _ else s) = t
    repeat' split
    all_goals simp only [*, bind, Except.bind]

/-- what `handle_event` does with the result of a handler: the sender is queued for removal if the handler failed, and
the request is counted -/
def received (r : St × Bool) (id : ConnId) : St :=
  (if r.2 then r.1 else r.1.pushRemoveConn id false).stat (fun st => { st with messagesReceived := st.messagesReceived + 1 })

theorem handleEvent_msg {s s' : St} {id : ConnId} {m : Req} (h : handleEvent s (.msg id m) = .ok s') :
    ∃ r, handleMessage s id m = .ok r ∧ s' = received r id := by
  simp only [handleEvent] at h
  split at h
  · cases h
  · cases h; exact ⟨_, ‹_›, rfl⟩

theorem handleEvent_error {s : St} {e : Event} {p : Panic} (h : handleEvent s e = .error p) :
    (∃ id m, e = .msg id m ∧ handleMessage s id m = .error p) ∨
    (∃ id v, e = .newConn id v ∧ p = .debugAssert "NewConnection: duplicate id") := by
  cases e <;> simp only [handleEvent] at h
  case msg id m => split at h <;> cases h; exact .inl ⟨id, m, rfl, ‹_›⟩
  case newConn id v => split at h <;> cases h; exact .inr ⟨id, v, rfl, rfl⟩
  all_goals cases h

theorem handleEvent_newConn_ok {s s' : St} {id : ConnId} {v : Nat} (h : handleEvent s (.newConn id v) = .ok s') :
    s.conn? id = none ∧
      s' = (s.setConn id { version := v }).stat (fun st => { st with numConnections := st.numConnections + 1 }) := by
  simp only [handleEvent] at h
  split at h
  · cases h
  · cases h; exact ⟨Option.not_isSome_iff_eq_none.mp ‹_›, rfl⟩

end Aldrin.Broker
