/-
What `remove_service` does with the calls that are pending at the service: every one of them leaves the broker's call
table, and for every one that has not been aborted a reply `InvalidService` to its caller is deferred
(`remove_function_call` items of the work loop, which sends it as `CallFunctionReply`).
-/
import Aldrin.Lemmas.Broker.Xref

namespace Aldrin.Broker

/-- the deferred replies for a list of broker serials, first serial first -/
def invalidServiceItems (m : SerialMap Call) (l : List Nat) : List (Nat × ConnId × CallResult) :=
  l.filterMap (fun bs => match m.get? bs with
    | some call => if call.aborted then none else some (call.callerSerial, call.callerConn, CallResult.invalidService)
    | none => none)

theorem invalidServiceItems_congr {m1 m2 : SerialMap Call} : ∀ (l : List Nat), (∀ k, k ∈ l → m1.get? k = m2.get? k) →
    invalidServiceItems m1 l = invalidServiceItems m2 l := by
  intro l
  induction l with
  | nil => intro _; rfl
  | cons a l ih =>
    intro h
    have := ih (fun k hk => h k (List.mem_cons_of_mem _ hk))
    simp only [invalidServiceItems, List.filterMap_cons] at this ⊢
    rw [h a List.mem_cons_self, this]

theorem removeService_calls_cons {s s' : St} {a : Nat} {l : List Nat} (h : removeService.calls s (a :: l) = .ok s') :
    ∃ call t, s.b.calls.get? a = some call ∧ removeService.calls t l = .ok s' ∧ t.b.calls = s.b.calls.remove a ∧
      t.w.removeCalls = (if call.aborted then [] else [(call.callerSerial, call.callerConn, CallResult.invalidService)]) ++
        s.w.removeCalls := by
  simp only [removeService.calls] at h
  split at h
  · cases h
  · exact ⟨_, _, ‹_›, h, by split <;> rfl, by split <;> rfl⟩

/-- The loop over the pending calls, if it succeeds: every serial was in the table and none is listed twice (a second
visit would not find it any more); the calls leave the table and the replies are deferred, first serial first. -/
theorem removeService_calls_spec : ∀ (l : List Nat) (s s' : St), removeService.calls s l = .ok s' →
    l.Nodup ∧ (∀ bs, bs ∈ l → (s.b.calls.get? bs).isSome) ∧
    s'.w.removeCalls = (invalidServiceItems s.b.calls l).reverse ++ s.w.removeCalls ∧
    (∀ k, s'.b.calls.get? k = if k ∈ l then none else s.b.calls.get? k)
  | [], s, s', h => by
    simp only [removeService.calls] at h
    cases h
    simp [invalidServiceItems]
  | a :: l, s, s', h => by
    obtain ⟨call, t, hcall, ht, hc, hw⟩ := removeService_calls_cons h
    obtain ⟨hn, hp, h1, h2⟩ := removeService_calls_spec l t s' ht
    -- the serials still to come are in the table after `a` has left it: none is `a`, and `s` has them as well
    have key : ∀ k, k ∈ l → a ≠ k ∧ t.b.calls.get? k = s.b.calls.get? k := by
      intro k hk
      have := hp k hk
      by_cases hak : a = k
      · rw [hc, get?_remove, if_pos hak] at this; cases this
      · exact ⟨hak, by rw [hc, get?_remove, if_neg hak]⟩
    refine ⟨List.nodup_cons.2 ⟨fun hm => (key a hm).1 rfl, hn⟩, ?_, ?_, ?_⟩
    · intro bs hbs
      rcases List.mem_cons.1 hbs with rfl | hbs
      · rw [hcall]; rfl
      · rw [← (key bs hbs).2]; exact hp bs hbs
    · rw [h1, hw, invalidServiceItems_congr l (fun k hk => (key k hk).2)]
      cases hab : call.aborted <;>
        simp only [invalidServiceItems, List.filterMap_cons, hcall, hab, Bool.false_eq_true, ↓reduceIte, List.reverse_cons,
          List.append_assoc, List.nil_append, List.cons_append]
    · intro k
      rw [h2 k, hc, get?_remove]
      by_cases hk : k ∈ l
      · simp [hk]
      · by_cases hak : a = k <;> simp [hk, hak, eq_comm]

end Aldrin.Broker
