/-
Single handlers on given inputs, for every state: what a send to a connection whose task is gone does (`send_dead`), the
reply that reaches a live caller (`replyToCaller_alive`), an item within the credit (`sendItem_delivers`), who gets a bus
event (`busTargets_spec`, `emitBusEvent_out`; `foldl_says`: what a fold of sends appends), and `call_function_reply` for
an unknown serial and by the owner (`reply_unknown_ignored`, `reply_owner_forwarded`).
-/
import Aldrin.Lemmas.Broker.Inv
import Aldrin.Lemmas.Broker.Send

namespace Aldrin.Broker
open Generated

theorem send_dead {s : St} {to : ConnId} {m : Rsp} {v : Option Nat}
    (hc : ∀ c, AL.find? to s.b.conns = some c → c.alive = false) :
    (s.send to m v).1.out = s.out ∧ (s.send to m v).2 = false := by
  have : aliveB s to = false := by
    unfold aliveB; split
    · exact hc _ ‹_›
    · rfl
  rw [St.send_out, St.send_snd, this]; exact ⟨List.append_nil _, rfl⟩

theorem replyToCaller_alive {site : String} {s : St} {cid : ConnId} {serial : Nat} {r : CallResult} {v : Option Nat} {c : Conn} {x}
    (hc : AL.find? cid s.b.conns = some c) (ha : c.alive = true) (hx : AL.find? serial c.calls = some x) :
    replyToCaller site s cid serial r v =
      .ok ((s.setConn cid { c with calls := AL.erase serial c.calls }).sent.setOut (s.out ++ [⟨cid, .callFunctionReply serial r, v⟩])) := by
  simp only [replyToCaller, St.conn?_def, hc, hx, Option.isNone_some, Bool.false_eq_true, ↓reduceIte]
  rw [St.sendOrRemove_alive (c := { c with calls := AL.erase serial c.calls }) _ _ (by simp) ha]
  rfl

/-- C05: an item sent within the announced credit on an established channel is forwarded exactly
once, unchanged, to the receiver (appended to the outputs in send order), possibly followed by a
credit replenishment for the sender; nothing else is emitted. -/
theorem sendItem_delivers {s : St} {id r : ConnId} {cookie : Cookie} {p : Payload} {sender rconn : Conn} {sc rc : Nat}
    (hs : AL.find? id s.b.conns = some sender) (hr : AL.find? r s.b.conns = some rconn)
    (hsa : sender.alive = true) (hra : rconn.alive = true)
    (hch : AL.find? cookie s.b.channels = some ⟨.claimed id sc, .claimed r rc⟩)
    (hok : ChInv s) (hpos : 0 < sc) :
    ∃ s' credit, sendItem s id cookie p = .ok (s', true) ∧
      s'.out = s.out ++ [⟨r, .itemReceived cookie p, some sender.version⟩] ++ credit ∧
      (credit = [] ∨ ∃ n, credit = [⟨id, .addChannelCapacity cookie n, none⟩]) := by
  have hc := AllV_find hok hch
  obtain ⟨c', add, hsend⟩ := sendItem_within_credit (s := id) (r := r) hc rfl rfl hpos
  -- the three lookups succeed; the last stage sends to two connections that take messages
  rw [sendItem_eq]
  simp only [St.conn?_def, hs, hch, hsend, passItem, St.setChannels_b_conns, hr, Option.isNone_some, Bool.false_eq_true, ↓reduceIte]
  rw [St.sendOrRemove_alive _ _ (by simpa using hr) hra]
  cases add with
  | none => exact ⟨_, [], rfl, by simp, .inl rfl⟩
  | some n =>
    dsimp only
    rw [St.send_alive _ _ (by simpa using hs) hsa]
    exact ⟨_, [⟨id, .addChannelCapacity cookie n, none⟩], rfl, by simp, .inr ⟨n, rfl⟩⟩

/-- the connections that get a copy of a new bus event: those owning a started, matching listener; each once -/
def busTargets (s : St) (e : BusEv) : List ConnId :=
  s.b.listeners.foldl (fun acc (p : Cookie × Listener) =>
    if p.2.matchesNewEvent e then sinsert p.2.conn acc else acc) ([] : List ConnId)

/-- no connection twice; a connection is a target iff it owns a listener that is started with a scope including new
entities and has a filter matching the event -/
theorem busTargets_spec (s : St) (e : BusEv) :
    (busTargets s e).Nodup ∧ ∀ c, c ∈ busTargets s e ↔ ∃ p ∈ s.b.listeners, p.2.conn = c ∧ p.2.matchesNewEvent e = true := by
  have := foldl_set (fun acc (p : Cookie × Listener) => if p.2.matchesNewEvent e then sinsert p.2.conn acc else acc)
    (fun p c => p.2.conn = c ∧ p.2.matchesNewEvent e = true)
    (fun acc p h => by
      split
      · exact ⟨nodup_sinsert _ _ h, fun c => by rw [mem_sinsert, or_comm]; simp [*, eq_comm]⟩
      · exact ⟨h, fun c => by simp [*]⟩) s.b.listeners [] List.nodup_nil
  exact ⟨this.1, fun c => (this.2 c).trans (by simp)⟩

/-- A fold whose steps leave the connections as they are and append what `say` makes of the element appends the
`filterMap` of `say`: the fan-out of an event and of a bus event. -/
theorem foldl_says {α : Type} (step : St → α → St) (conns : List (ConnId × Conn)) (say : α → Option Out)
    (h : ∀ s x, s.b.conns = conns → (step s x).out = s.out ++ (say x).toList ∧ (step s x).b.conns = conns) :
    ∀ (xs : List α) (s : St), s.b.conns = conns → (xs.foldl step s).out = s.out ++ xs.filterMap say
  | [], s, _ => by simp
  | x :: xs, s, hs => by
    obtain ⟨h1, h2⟩ := h s x hs
    rw [List.foldl_cons, foldl_says step conns say h xs _ h2, h1, List.append_assoc, List.filterMap_cons]
    cases say x <;> rfl

/-- C10: a creation or destruction is reported at most once per connection (not once per listener),
exactly to the connections owning a started matching listener (that are still alive) -/
theorem emitBusEvent_out (s : St) (e : BusEv) :
    (emitBusEvent s e).out = s.out ++ (busTargets s e).filterMap (fun cid => match AL.find? cid s.b.conns with
        | some c => if c.alive then some ⟨cid, .emitBusEvent none e, none⟩ else none
        | none => none) := by
  unfold emitBusEvent
  refine foldl_says _ s.b.conns _ (fun t cid ht => ?_) _ s rfl
  simp only [St.conn?_def, ht]
  cases hc : AL.find? cid s.b.conns with
  | none => exact ⟨(List.append_nil _).symm, ht⟩
  | some c =>
    simp only [Option.isSome_some, ↓reduceIte, St.sendOrRemove_out, St.sendOrRemove_b_conns, aliveB, ht, hc, and_true]
    cases c.alive <;> rfl

/-- a reply whose serial names no pending call (never issued, already answered, or already failed) is ignored -/
theorem reply_unknown_ignored {s : St} {id serial r} (hn : s.b.calls.get? serial = none) :
    callFunctionReply s id serial r = .ok (s, true) := by
  unfold callFunctionReply
  cases hc : s.conn? id <;> simp [hn, okH]

/-- the owner's reply: the pending call disappears (so a second reply is "unknown"), and unless the
call was aborted the caller gets exactly one reply with its own serial and the owner's result; the caller's own
record of the call goes and nothing is deferred -/
theorem reply_owner_forwarded {s : St} {id serial r} {call : Call} {o : Obj} {c caller : Conn} {sv : Svc} {x}
    (hc : AL.find? id s.b.conns = some c) (hcall : s.b.calls.get? serial = some call)
    (ho : AL.find? call.calleeObj s.b.objs = some o) (hown : o.conn = id)
    (hsv : AL.find? (call.calleeObj, call.calleeSvc) s.b.svcs = some sv)
    (hna : call.aborted = false)
    (hcaller : AL.find? call.callerConn s.b.conns = some caller) (halive : caller.alive = true)
    (hreg : AL.find? call.callerSerial caller.calls = some x) :
    ∃ s', callFunctionReply s id serial r = .ok (s', true) ∧
      s'.b.calls.get? serial = none ∧
      s'.out = s.out ++ [⟨call.callerConn, .callFunctionReply call.callerSerial r, some c.version⟩] ∧
      s'.w = s.w ∧
      AL.find? call.callerConn s'.b.conns = some { caller with calls := AL.erase call.callerSerial caller.calls } := by
  -- the lookups succeed, the call leaves the table and the service, the reply reaches the caller
  rw [callFunctionReply_eq]
  simp only [St.conn?_def, hc, hcall, ho, hown, ne_eq, not_true_eq_false, ↓reduceIte, hsv, hna, Bool.false_eq_true]
  rw [replyToCaller_alive (c := caller) (by simpa [dropCall] using hcaller) halive hreg]
  refine ⟨_, rfl, ?_, ?_, ?_, ?_⟩
  · simp [dropCall, SerialMap.get?, SerialMap.remove]
  · simp [dropCall]
  · rfl
  · simp

end Aldrin.Broker
