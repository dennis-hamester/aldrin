/-
Ownership of channel ends and bus listeners, on what it looks at. A *holding* is a sender end, a receiver end or a bus
listener (`Hold`); `OWN` says which connection holds it (a claimed end, a listener's connection), `CO` says what every
connection lists. The invariant: who holds something lists it, and what a connection lists it holds; and its
preservation by the abstract operations of the broker.

`pc = some (id, L)`: connection `id` is gone from the map; the holdings in `L` are still to be released.
-/
import Aldrin.Model.Broker.Types
import Aldrin.Lemmas.Broker.Upd

namespace Aldrin.Broker

inductive HKind where
  | snd | rcv | lsn
  deriving DecidableEq, Repr

abbrev Hold := HKind × Cookie
abbrev OwnView := Hold → Option ConnId
abbrev CoView := ConnId → Option (List Hold)

structure OwnP (pc : Option (ConnId × List Hold)) (OWN : OwnView) (CO : CoView) : Prop where
  /-- who holds something lists it (or is the connection being removed, which still lists it) -/
  o1 : ∀ x o, OWN x = some o → (∃ L, CO o = some L ∧ x ∈ L) ∨ (∃ L, pc = some (o, L) ∧ x ∈ L)
  /-- what a connection lists it holds -/
  o2 : ∀ id L x, CO id = some L → x ∈ L → OWN x = some id
  /-- the connection being removed is not in the map -/
  o3 : ∀ id L, pc = some (id, L) → CO id = none
  /-- what the connection being removed still lists is held by it, if by anybody -/
  o4 : ∀ id L x o, pc = some (id, L) → x ∈ L → OWN x = some o → o = id

variable {pc : Option (ConnId × List Hold)} {OWN : OwnView} {CO : CoView}

/-- while no connection is being removed, the invariant is its first two clauses -/
theorem OwnP.of_none (o1 : ∀ x o, OWN x = some o → ∃ L, CO o = some L ∧ x ∈ L)
    (o2 : ∀ id L x, CO id = some L → x ∈ L → OWN x = some id) : OwnP none OWN CO :=
  ⟨fun x o hx => Or.inl (o1 x o hx), o2, fun _ _ => nofun, fun _ _ _ _ => nofun⟩

theorem OwnP.listed {x : Hold} {o : ConnId} (h : OwnP none OWN CO) (hx : OWN x = some o) : ∃ L, CO o = some L ∧ x ∈ L :=
  (h.o1 x o hx).resolve_right fun ⟨_, hp, _⟩ => nomatch hp

theorem OwnP.init : OwnP none (fun _ => none) (fun _ => none) :=
  .of_none (fun _ _ => nofun) (fun _ _ _ => nofun)

theorem OwnP.new_conn {id : ConnId} (h : OwnP none OWN CO) (hn : CO id = none) : OwnP none OWN (upd CO id (some [])) := by
  refine .of_none ?_ ?_
  · intro x o hx
    obtain ⟨L, hl, hm⟩ := h.listed hx
    exact ⟨L, upd_of_fresh hn hl, hm⟩
  · intro id' L x hl hm
    rcases upd_eq_some hl with ⟨_, hv⟩ | ⟨_, hl⟩
    · cases hv; cases hm
    · exact h.o2 id' L x hl hm

/-- a connection that is there comes to hold something nobody held: `create_channel`, `claim_channel_end`,
`create_bus_listener`. `L'` is the connection's new list. -/
theorem OwnP.acquire {id : ConnId} {x : Hold} {L L' : List Hold} (h : OwnP none OWN CO) (hf : OWN x = none)
    (hc : CO id = some L) (hL : ∀ y, y ∈ L' ↔ y = x ∨ y ∈ L) : OwnP none (upd OWN x (some id)) (upd CO id (some L')) := by
  refine .of_none ?_ ?_
  · intro y o hy
    rcases upd_eq_some hy with ⟨rfl, hv⟩ | ⟨_, hy⟩
    · cases hv
      exact ⟨L', upd_self, (hL _).2 (Or.inl rfl)⟩
    · exact upd_exists hc (fun hm => (hL y).2 (Or.inr hm)) (h.listed hy)
  · intro id' L0 y hl hm
    rcases upd_eq_some hl with ⟨rfl, hv⟩ | ⟨_, hl⟩
    · cases hv
      rcases (hL y).1 hm with rfl | hm'
      · exact upd_self
      · exact upd_of_fresh hf (h.o2 id L y hc hm')
    · exact upd_of_fresh hf (h.o2 id' L0 y hl hm)

/-- something stops being held (by whoever held it, if anybody); if its holder is in the map, the holder's list loses it -/
theorem OwnP.release {x : Hold} {CO' : CoView} (h : OwnP pc OWN CO)
    (hco : ∀ id, (CO' id = none ↔ CO id = none) ∧ ∀ L', CO' id = some L' → ∃ L, CO id = some L ∧
      (∀ y, y ∈ L' → y ∈ L ∧ (OWN x = some id → y ≠ x)) ∧ (∀ y, y ∈ L → y ≠ x → y ∈ L')) :
    OwnP pc (upd OWN x none) CO' := by
  refine ⟨?_, ?_, fun id L hp => (hco id).1.2 (h.o3 id L hp),
    fun id L y o hp hm hy => h.o4 id L y o hp hm (upd_none_eq_some hy).2⟩
  · intro y o hy
    obtain ⟨hne, hy⟩ := upd_none_eq_some hy
    rcases h.o1 y o hy with ⟨L, hl, hm⟩ | hp
    · cases hc' : CO' o with
      | none => rw [(hco o).1.1 hc'] at hl; cases hl
      | some L' =>
        obtain ⟨L0, hl0, _, hsup⟩ := (hco o).2 L' hc'
        rw [hl] at hl0; cases hl0
        exact Or.inl ⟨L', rfl, hsup y hm (Ne.symm hne)⟩
    · exact Or.inr hp
  · intro id L' y hl hm
    obtain ⟨L, hl0, hsub, _⟩ := (hco id).2 L' hl
    obtain ⟨hm0, hnx⟩ := hsub y hm
    have hy := h.o2 id L y hl0 hm0
    refine (upd_ne ?_).trans hy
    rintro rfl
    exact hnx hy rfl

/-- The mirror image of `acquire`, and what the callers of `release` have: a connection that is there lets go of `x`,
which it held if anybody did; `L'` is its new list. -/
theorem OwnP.release_list {x : Hold} {id : ConnId} {L L' : List Hold} (h : OwnP pc OWN CO)
    (hx : ∀ o, OWN x = some o → o = id) (hc : CO id = some L) (hL : ∀ y, y ∈ L' ↔ y ≠ x ∧ y ∈ L) :
    OwnP pc (upd OWN x none) (upd CO id (some L')) := by
  refine h.release fun o => ?_
  by_cases ho : id = o
  · subst ho
    rw [upd_self, hc]
    refine ⟨by simp, fun L'' hL' => ⟨L, rfl, ?_, ?_⟩⟩ <;> cases hL' <;> intro y hy
    · exact ⟨((hL y).1 hy).2, fun _ => ((hL y).1 hy).1⟩
    · exact fun hne => (hL y).2 ⟨hne, hy⟩
  · rw [upd_ne ho]
    exact ⟨Iff.rfl, fun L'' hL' => ⟨L'', hL', fun y hy => ⟨hy, fun hx' => absurd (hx o hx').symm ho⟩, fun y hy _ => hy⟩⟩

/-- something held by a connection that is not in the map (or by nobody) stops being held -/
theorem OwnP.release_gone {x : Hold} (h : OwnP pc OWN CO) (hg : ∀ id, OWN x = some id → CO id = none) :
    OwnP pc (upd OWN x none) CO := by
  refine h.release (CO' := CO) (fun id => ⟨Iff.rfl, fun L' hl => ⟨L', hl, fun y hy => ⟨hy, fun ho => ?_⟩, fun y hy _ => hy⟩⟩)
  rw [hg id ho] at hl; cases hl

/-- the connection is taken out of the map; what it lists is still to be released -/
theorem OwnP.remove_conn {id : ConnId} {L : List Hold} (h : OwnP none OWN CO) (hc : CO id = some L) :
    OwnP (some (id, L)) OWN (upd CO id none) := by
  refine ⟨?_, fun id' L0 x hl hm => h.o2 id' L0 x (upd_none_eq_some hl).2 hm, ?_, ?_⟩
  · intro x o hx
    obtain ⟨L0, hl, hm⟩ := h.listed hx
    by_cases he : id = o
    · subst he; rw [hc] at hl; cases hl
      exact Or.inr ⟨L, rfl, hm⟩
    · exact Or.inl ⟨L0, (upd_ne he).trans hl, hm⟩
  · intro id' L' hp
    cases hp; exact upd_self
  · intro id' L' x o hp hm hx
    cases hp
    exact Option.some.inj (hx.symm.trans (h.o2 _ _ x hc hm))

/-- nothing of what the connection that went listed is held by it any more -/
theorem OwnP.pc_clear {id : ConnId} {L : List Hold} (h : OwnP (some (id, L)) OWN CO) (hL : ∀ x, x ∈ L → OWN x = none) :
    OwnP none OWN CO := by
  refine .of_none ?_ h.o2
  intro y o hy
  rcases h.o1 y o hy with hl | ⟨L0, hp, hm⟩
  · exact hl
  · cases hp
    rw [hL y hm] at hy; cases hy

end Aldrin.Broker
