/-
A connection that has been removed never comes back within the life of its id: no handler, clean-up or work-loop step
of the broker model inserts a connection (only `newConn` adds one).
-/
import Aldrin.Lemmas.Broker.Alive

namespace Aldrin.Broker

/-- constantly true: what `alive` is for "the task still takes messages" (`Alive.lean`), this is for "is there" -/
def Conn.ex (_ : Conn) : Bool := true
@[simp, grind =] theorem Conn.ex_eq (c : Conn) : c.ex = true := rfl

/-- the connection is in the map -/
def exB (s : St) (c : ConnId) : Bool :=
  match AL.find? c s.b.conns with
  | some conn => conn.ex
  | none => false

/-- no connection comes (back) into the map -/
def ExLe (s s' : St) : Prop := ∀ c, exB s' c = true → exB s c = true

theorem ExLe.refl (s : St) : ExLe s s := fun _ h => h
theorem ExLe.trans {a b c : St} (h1 : ExLe a b) (h2 : ExLe b c) : ExLe a c := fun x h => h1 x (h2 x h)

theorem exB_eq (s : St) (c : ConnId) : exB s c = (s.conn? c).isSome := by
  unfold exB St.conn?; cases AL.find? c s.b.conns <;> rfl

@[simp, grind =] theorem exB_setObjUuids (s : St) (x : List (Cookie × Uuid)) (c : ConnId) : exB (s.setObjUuids x) c = exB s c := rfl
@[simp, grind =] theorem exB_setObjs (s : St) (x : List (Uuid × Obj)) (c : ConnId) : exB (s.setObjs x) c = exB s c := rfl
@[simp, grind =] theorem exB_setSvcUuids (s : St) (x : List (Cookie × (ObjId × Uuid × SvcInfo))) (c : ConnId) : exB (s.setSvcUuids x) c = exB s c := rfl
@[simp, grind =] theorem exB_setSvcs (s : St) (x : List ((Uuid × Uuid) × Svc)) (c : ConnId) : exB (s.setSvcs x) c = exB s c := rfl
@[simp, grind =] theorem exB_setCalls (s : St) (x : SerialMap Call) (c : ConnId) : exB (s.setCalls x) c = exB s c := rfl
@[simp, grind =] theorem exB_setChannels (s : St) (x : List (Cookie × Chan)) (c : ConnId) : exB (s.setChannels x) c = exB s c := rfl
@[simp, grind =] theorem exB_setListeners (s : St) (x : List (Cookie × Listener)) (c : ConnId) : exB (s.setListeners x) c = exB s c := rfl
@[simp, grind =] theorem exB_setIntrospection (s : St) (x : List (Uuid × IEntry)) (c : ConnId) : exB (s.setIntrospection x) c = exB s c := rfl
@[simp, grind =] theorem exB_setIqueries (s : St) (x : SerialMap Uuid) (c : ConnId) : exB (s.setIqueries x) c = exB s c := rfl
@[simp, grind =] theorem exB_setNextCookie (s : St) (x : Cookie) (c : ConnId) : exB (s.setNextCookie x) c = exB s c := rfl
@[simp, grind =] theorem exB_setWShutdownNow (s : St) (x : Bool) (c : ConnId) : exB (s.setWShutdownNow x) c = exB s c := rfl
@[simp, grind =] theorem exB_setWShutdownIdle (s : St) (x : Bool) (c : ConnId) : exB (s.setWShutdownIdle x) c = exB s c := rfl
@[simp, grind =] theorem exB_setWRemoveConns (s : St) (x : List (ConnId × Bool)) (c : ConnId) : exB (s.setWRemoveConns x) c = exB s c := rfl
@[simp, grind =] theorem exB_setWRemoveCalls (s : St) (x : List (Nat × ConnId × CallResult)) (c : ConnId) : exB (s.setWRemoveCalls x) c = exB s c := rfl
@[simp, grind =] theorem exB_setWServicesDestroyed (s : St) (x : List (ConnId × Cookie)) (c : ConnId) : exB (s.setWServicesDestroyed x) c = exB s c := rfl
@[simp, grind =] theorem exB_setWUnsubscribeEvent (s : St) (x : List (ConnId × Cookie × Nat)) (c : ConnId) : exB (s.setWUnsubscribeEvent x) c = exB s c := rfl
@[simp, grind =] theorem exB_setWUnsubscribeAll (s : St) (x : List (ConnId × Cookie)) (c : ConnId) : exB (s.setWUnsubscribeAll x) c = exB s c := rfl
@[simp, grind =] theorem exB_setWCreateObject (s : St) (x : List ObjId) (c : ConnId) : exB (s.setWCreateObject x) c = exB s c := rfl
@[simp, grind =] theorem exB_setWDestroyObject (s : St) (x : List ObjId) (c : ConnId) : exB (s.setWDestroyObject x) c = exB s c := rfl
@[simp, grind =] theorem exB_setWCreateService (s : St) (x : List SvcId) (c : ConnId) : exB (s.setWCreateService x) c = exB s c := rfl
@[simp, grind =] theorem exB_setWDestroyService (s : St) (x : List SvcId) (c : ConnId) : exB (s.setWDestroyService x) c = exB s c := rfl
@[simp, grind =] theorem exB_setWAbortCalls (s : St) (x : List (Nat × ConnId)) (c : ConnId) : exB (s.setWAbortCalls x) c = exB s c := rfl
@[simp, grind =] theorem exB_setOut (s : St) (x : List Out) (c : ConnId) : exB (s.setOut x) c = exB s c := rfl
@[simp, grind =] theorem exB_stat (s : St) (f : Stats → Stats) (c : ConnId) : exB (s.stat f) c = exB s c := rfl
@[simp, grind =] theorem exB_pushRemoveConn (s : St) (id : ConnId) (b : Bool) (c : ConnId) : exB (s.pushRemoveConn id b) c = exB s c := rfl
@[simp, grind =] theorem exB_freshCookie (s : St) (c : ConnId) : exB s.freshCookie.1 c = exB s c := rfl

@[simp, grind =] theorem exB_setConn (s : St) (id : ConnId) (new : Conn) (c : ConnId) :
    exB (s.setConn id new) c = if id = c then true else exB s c :=
  view_setConn exB_eq s id new c

theorem exB_conn {s : St} {id : ConnId} {conn : Conn} (h : s.conn? id = some conn) : exB s id = true :=
  view_conn exB_eq h

@[simp] theorem exB_getD' (s : St) (id : ConnId) : ((AL.find? id s.b.conns).map (fun x => x.ex)).getD false = exB s id := by
  unfold exB; cases AL.find? id s.b.conns <;> rfl

/-- `Conn.ex` is constantly `true`, so `hf` always holds (`fun _ => rfl`) -/
theorem exB_updConn (s : St) (id : ConnId) (f : Conn → Conn) (c : ConnId) (hf : ∀ x, (f x).ex = x.ex) :
    exB (s.updConn id f) c = exB s c := by
  rw [exB_eq, exB_eq, St.conn?_updConn]
  split
  · next h => cases h; cases s.conn? id <;> rfl
  · rfl

@[simp] theorem Conn.subscribeEvent_ex (c : Conn) (svc : Cookie) (ev : Nat) : (c.subscribeEvent svc ev).ex = c.ex := rfl
@[simp] theorem Conn.unsubscribeEvent_ex (c : Conn) (svc : Cookie) (ev : Nat) : (c.unsubscribeEvent svc ev).ex = c.ex := rfl
@[simp] theorem Conn.unsubscribeAllOf_ex (c : Conn) (svc : Cookie) : (c.unsubscribeAllOf svc).ex = c.ex := rfl

@[simp, grind =] theorem exB_send (s : St) (to : ConnId) (m : Rsp) (v : Option Nat) (c : ConnId) : exB (s.send to m v).1 c = exB s c := by
  simp only [exB, St.send_b_conns]
@[simp, grind =] theorem exB_sendOrRemove (s : St) (to : ConnId) (m : Rsp) (v : Option Nat) (c : ConnId) : exB (s.sendOrRemove to m v) c = exB s c := by
  simp only [exB, St.sendOrRemove_b_conns]

theorem send_ok_ex {s : St} {to : ConnId} {m : Rsp} {v : Option Nat} (h : (s.send to m v).2 = true) : exB s to = true := by
  have := (St.send_snd s to m v).symm.trans h
  unfold aliveB at this
  unfold exB
  revert this
  cases AL.find? to s.b.conns
  · exact fun h => nomatch h
  · exact fun _ => rfl

theorem ExLe.frame : Frame ExLe [.connNew] :=
  Frame.ofConns (f := Option.isSome) (r := fun a b => b = true → a = true) exB_eq _
    (refl := fun _ h => h) (trans := fun h1 h2 h => h1 (h2 h))
    (part := fun _ _ _ _ _ _ => rfl) (dead := fun _ _ _ => rfl)
    (gone := fun _ _ h => absurd h Bool.false_ne_true)
    (new := fun h => absurd (by decide) h)

@[simp, grind =] theorem exB_removeBusListener (s : St) (ck : Cookie) (c : ConnId) : exB (removeBusListener s ck) c = exB s c := by
  unfold removeBusListener
  split
  · rfl
  · rw [exB_stat, exB_updConn, exB_setListeners]; exact fun _ => rfl

theorem processLoop_ex : ∀ (fuel : Nat) (s s' : St), processLoop fuel s = .ok s' → ExLe s s' :=
  fun _ _ _ h => (processLoop_fp _ _ _ h).frame ExLe.frame

theorem handleEvent_ex {s s' : St} {e : Event} (he : ∀ id v, e ≠ .newConn id v) (hr : handleEvent s e = .ok s') : ExLe s s' := by
  cases e
  case newConn id v => exact absurd rfl (he id v)
  case msg id m => cases m <;> exact (handleEvent_fp hr).frame ExLe.frame
  all_goals exact (handleEvent_fp hr).frame ExLe.frame

theorem step_ex {b b' : Broker} {w w' : Work} {e : Event} {out : List Out} (he : ∀ id v, e ≠ .newConn id v)
    (hr : step b w e = .ok (b', w', out)) (c : ConnId) : exB ⟨b', w', []⟩ c = true → exB ⟨b, w, []⟩ c = true := by
  obtain ⟨s1, h1, h2⟩ := step_ok hr
  exact ExLe.trans (handleEvent_ex he h1) (processLoop_ex _ _ _ h2) c

end Aldrin.Broker
