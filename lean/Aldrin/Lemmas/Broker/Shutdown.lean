/-
A broker shutdown removes every connection: after `handle_event(ShutdownBroker)` every connection is queued for
removal; the removal of a connection takes it out of the map and keeps what else is queued; the work loop handles
removals first, so it can only end with nothing queued — hence with no connection left.
-/
import Aldrin.Lemmas.Broker.Terminate

namespace Aldrin.Broker
open Generated

/-- every queued removal of a connection is still queued -/
def RmLe (s s' : St) : Prop := (∀ x, x ∈ s.w.removeConns → x ∈ s'.w.removeConns) ∧ s'.w.shutdownNow = s.w.shutdownNow

theorem RmLe.frame : Frame RmLe [.removeConns, .shutdownNow] := by
  refine ⟨fun _ => ⟨fun _ h => h, rfl⟩, fun h1 h2 => ⟨fun x h => h2.1 x (h1.1 x h), h2.2.trans h1.2⟩, fun h hb => ?_⟩
  cases h
  case removeConns | shutdownNow => exact (hb (by decide)).elim
  case pushRemoveConn => exact ⟨fun _ hx => List.mem_cons_of_mem _ hx, rfl⟩
  case connDead => exact ⟨fun _ hx => by simpa using hx, by simp⟩
  all_goals exact ⟨fun _ hx => hx, rfl⟩

theorem shutdownNow_frame : Frame (fun s t => t.w.shutdownNow = s.w.shutdownNow) [.shutdownNow] := by
  refine ⟨fun _ => rfl, fun h1 h2 => h2.trans h1, fun h hb => ?_⟩
  cases h
  case shutdownNow => exact (hb (by decide)).elim
  case connDead => simp
  all_goals rfl

theorem shutdownConnection_rm {s s' : St} {id : ConnId} {b : Bool} (hr : shutdownConnection s id b = .ok s') :
    RmLe s s' ∧ s'.b.conns.map Prod.fst = (AL.erase id s.b.conns).map Prod.fst := by
  refine ⟨(shutdownConnection_fp hr).frame RmLe.frame, ?_⟩
  rcases shutdownConnection_teardown hr with ⟨hn, rfl⟩ | ⟨conn, t, -, -, htc, ht⟩
  · rw [AL.length_erase_of_none hn]
  · exact Eq.trans (ht.frame KSc.frame : KSc _ s') (by rw [St.setConns_b_conns, htc])

/-- every connection is queued for removal -/
def AllQueued (s : St) : Prop := ∀ c, c ∈ s.b.conns.map Prod.fst → ∃ b, (c, b) ∈ s.w.removeConns

theorem processOne_queued {s s' : St} (h : AllQueued s) (hr : processOne s = some (.ok s')) :
    AllQueued s' ∧ s'.w.shutdownNow = s.w.shutdownNow := by
  cases hrm : s.w.removeConns with
  | nil =>
    -- nobody is queued, so nobody is there; an item of another kind leaves it so
    have hc : s.b.conns.map Prod.fst = [] := by
      cases hk : s.b.conns.map Prod.fst with
      | nil => rfl
      | cons c rest =>
        obtain ⟨b, hb⟩ := h c (by rw [hk]; simp)
        rw [hrm] at hb; simp at hb
    obtain ⟨h1, _⟩ := processOne_work hrm hr
    have hnil : s.b.conns = [] := by simpa using hc
    have : s'.b.conns = [] := by
      have : s'.b.conns.length = 0 := by simpa [mConns, hnil] using h1
      exact List.length_eq_zero_iff.mp this
    refine ⟨fun c hcm => by rw [this] at hcm; simp at hcm, ?_⟩
    exact (processOne_fp hr).frame shutdownNow_frame
  | cons x rest =>
    obtain ⟨cid, b⟩ := x
    rw [processOne_of_pop (St.pop_removeConns hrm)] at hr
    obtain ⟨hle, hkeys⟩ := shutdownConnection_rm (Option.some.inj hr)
    refine ⟨fun c hcm => ?_, by rw [hle.2]; simp⟩
    rw [hkeys] at hcm
    simp only [St.setWRemoveConns_b_conns] at hcm
    obtain ⟨hin, hne⟩ := AL.mem_keys_erase hcm
    obtain ⟨b', hb'⟩ := h c hin
    rw [hrm] at hb'
    rcases List.mem_cons.mp hb' with he | hm
    · simp at he; exact absurd he.1 hne
    · exact ⟨b', hle.1 _ (by simpa using hm)⟩

theorem processLoop_queued (fuel : Nat) (s s' : St) (h : AllQueued s) (hr : processLoop fuel s = .ok s') :
    s'.b.conns = [] ∧ s'.w.shutdownNow = s.w.shutdownNow := by
  obtain ⟨hq, hn⟩ := processLoop_inv (P := fun t => AllQueued t ∧ t.w.shutdownNow = s.w.shutdownNow)
    (fun _ _ hp h1 => ⟨(processOne_queued hp.1 h1).1, (processOne_queued hp.1 h1).2.trans hp.2⟩) fuel s s' ⟨h, rfl⟩ hr
  refine ⟨?_, hn⟩
  -- the loop has ended, so nobody is queued, so nobody is there
  have hidle := processOne_none_idle (processLoop_end fuel s s' hr)
  cases hk : s'.b.conns with
  | nil => rfl
  | cons p rest =>
    obtain ⟨b, hb⟩ := hq p.1 (by rw [hk]; simp)
    rw [hidle.1] at hb; cases hb

/-- **A broker shutdown removes every connection and ends the run loop**: the turn that handles `ShutdownBroker`, from
any state, leaves no connection, nothing deferred, and `Broker::run`'s exit condition true. -/
theorem shutdownBroker_completes {b b' : Broker} {w w' : Work} {out : List Out} (hr : step b w .shutdownBroker = .ok (b', w', out)) :
    b'.conns = [] ∧ w'.idle ∧ finished b' w' = true := by
  obtain ⟨s1, h1, h2⟩ := step_ok hr
  cases h1
  have hq : AllQueued (((⟨b, w, []⟩ : St).setWRemoveConns ((b.conns.map (fun p => (p.1, true))).reverse ++ w.removeConns)).setWShutdownNow true) := by
    intro c hc
    simp only [St.setWShutdownNow_b_conns, St.setWRemoveConns_b_conns, List.mem_map] at hc
    obtain ⟨p, hp, rfl⟩ := hc
    refine ⟨true, ?_⟩
    simp only [St.setWShutdownNow_w_removeConns, St.setWRemoveConns_w_removeConns, List.mem_append, List.mem_reverse, List.mem_map]
    exact Or.inl ⟨p, hp, rfl⟩
  obtain ⟨c1, c2⟩ := processLoop_queued _ _ _ hq h2
  refine ⟨c1, processLoop_idle _ _ _ h2, ?_⟩
  unfold finished
  rw [c2]; simp

/-- **A connection that is removed with notice (broker shutdown, `shutdown_connection` of the handle) and whose task
still takes messages gets `Shutdown`, and that is the first thing its removal puts into any queue.** -/
theorem shutdownConnection_sends_shutdown {s s' : St} {id : ConnId} {conn : Conn} (hconn : AL.find? id s.b.conns = some conn)
    (ha : conn.alive = true) (hr : shutdownConnection s id true = .ok s') :
    ∃ rest, s'.out = s.out ++ [⟨id, .shutdown, none⟩] ++ rest := by
  -- once `Shutdown` is in the queue the removal goes on as one without notice would
  have hn : shutdownConnection s id true = shutdownConnection ((s.stat fun st => { st with messagesSent := st.messagesSent + 1 }).setOut
      (s.out ++ [⟨id, .shutdown, none⟩])) id false := by
    unfold shutdownConnection
    simp only [St.conn?_def, St.setOut_b_conns, St.stat_b_conns, hconn, ha, ↓reduceIte, Bool.false_eq_true, St.stat_out]
  rw [hn] at hr
  obtain ⟨l, e, -⟩ := (shutdownConnection_fp hr).out
  exact ⟨l, e⟩

end Aldrin.Broker
