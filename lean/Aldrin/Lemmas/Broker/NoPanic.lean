/-
One whole turn of `Broker::run` panics only inside the introspection code (or on a connection id that is already
there, or by running out of the model's budget): the last piece is the teardown of a connection, which closes every
channel end the connection lists — each is still claimed by it when its turn comes, because a connection lists an
end once (`Nodup.lean`) and closing one end leaves the other end of the channel as it was.
-/
import Aldrin.Lemmas.Broker.Lookups
import Aldrin.Lemmas.Broker.Nodup

namespace Aldrin.Broker
open Generated

theorem ChanEnd.other_other (e : ChanEnd) : e.other.other = e := by cases e <;> rfl

/-- closing, one after the other, ends that a connection lists once and that are claimed (if their channel is still
there): no panic; and the listed ends of the other kind stay claimed -/
theorem removeEnds_np {id : ConnId} {e : ChanEnd} : ∀ (l : List Cookie) (s : St), ChInv s → l.Nodup →
    (∀ ck, ck ∈ l → ∀ ch, AL.find? ck s.b.channels = some ch → ∃ cap, ch.endState e = .claimed id cap) →
    ∀ (l2 : List Cookie), (∀ ck, ck ∈ l2 → ∀ ch, AL.find? ck s.b.channels = some ch → ∃ cap, ch.endState e.other = .claimed id cap) →
    (∀ p, foldE (fun s c => removeChannelEnd s c e (some id)) s l ≠ .error p) ∧
    (∀ s', foldE (fun s c => removeChannelEnd s c e (some id)) s l = .ok s' → ChInv s' ∧
      ∀ ck, ck ∈ l2 → ∀ ch, AL.find? ck s'.b.channels = some ch → ∃ cap, ch.endState e.other = .claimed id cap) := by
  intro l s hch hnd h1 l2 h2
  -- what is carried along: the ends still to be closed are listed once and claimed, those of the other kind stay claimed
  obtain ⟨s1, hs1, q1, -, -, q3⟩ := foldE_rest_ok (f := fun s c => removeChannelEnd s c e (some id))
    (P := fun l s => ChInv s ∧ l.Nodup ∧
      (∀ ck, ck ∈ l → ∀ ch, AL.find? ck s.b.channels = some ch → ∃ cap, ch.endState e = .claimed id cap) ∧
      ∀ ck, ck ∈ l2 → ∀ ch, AL.find? ck s.b.channels = some ch → ∃ cap, ch.endState e.other = .claimed id cap)
    (fun a l s ⟨hch, hnd, h1, h2⟩ => by
      rw [List.nodup_cons] at hnd
      cases hs1 : removeChannelEnd s a e (some id) with
      | error p =>
        exact absurd hs1 (removeChannelEnd_np hch (fun ch hf => by obtain ⟨cap, hc⟩ := h1 a (by simp) ch hf; rw [hc]; simp) p)
      | ok s1 =>
        obtain ⟨c1, c2⟩ := removeChannelEnd_channels hs1
        refine ⟨s1, rfl, removeChannelEnd_ChInv hch hs1, hnd.2, fun ck hck ch hf => ?_, fun ck hck ch hf => ?_⟩
        · rw [c1 ck fun he => hnd.1 (he ▸ hck)] at hf
          exact h1 ck (by simp [hck]) ch hf
        · by_cases hne : ck = a
          · subst hne
            obtain ⟨ch0, hf0, heq⟩ := c2 ch hf
            obtain ⟨cap, hc⟩ := h2 ck hck ch0 hf0
            exact ⟨cap, by rw [heq, hc]⟩
          · rw [c1 ck hne] at hf
            exact h2 ck hck ch hf) ⟨hch, hnd, h1, h2⟩
  rw [hs1]
  refine ⟨fun p h => ?_, fun s' h => ?_⟩
  · cases h
  · cases h; exact ⟨q1, q3⟩

/-- a panic of the introspection code: `remove_introspection_conn` fails with it in some state -/
def IntroRemovePanic (p : Panic) : Prop := ∃ t cid, removeIntrospectionConn t cid = .error p

/-- **The teardown of a connection can only panic inside `remove_introspection_conn`.** -/
theorem shutdownConnection_panics {s : St} (h : LkInv s) (hch : ChInv s) (hnd : NdInv s) {id : ConnId} {b : Bool} {p : Panic}
    (he : shutdownConnection s id b = .error p) : IntroRemovePanic p := by
  obtain ⟨conn, s4, hconn, ch4, he⟩ := shutdownConnection_error h he
  -- what the connection lists it holds, once
  have hlists := hnd id _ (cv_conn hconn)
  have hheld : ∀ (e : ChanEnd) ck, ck ∈ (match e with | .sender => conn.senders | .receiver => conn.receivers) →
      ∀ ch, AL.find? ck s4.b.channels = some ch → ∃ cap, ch.endState e = .claimed id cap := by
    intro e ck hck ch hf
    rw [ch4] at hf
    obtain ⟨ch', cap, hf', hcap⟩ := h.own.listed_end hconn (e := e) hck
    cases hf.symm.trans hf'
    exact ⟨cap, hcap⟩
  -- so closing them, the senders first, does not panic
  have hsnd := removeEnds_np (id := id) (e := .sender) conn.senders s4 (ChInv_of_eq hch ch4) hlists.1 (hheld .sender)
    conn.receivers (hheld .receiver)
  rcases bind_error_iff.mp he with e5 | ⟨s5, h5, he⟩
  · exact absurd e5 (hsnd.1 p)
  obtain ⟨ch5, hrcv5⟩ := hsnd.2 s5 h5
  rcases bind_error_iff.mp he with e6 | ⟨s6, -, he⟩
  · exact absurd e6 ((removeEnds_np (id := id) (e := .receiver) conn.receivers s5 ch5 hlists.2.1 hrcv5 [] (fun ck hck => by cases hck)).1 p)
  · exact ⟨_, _, he⟩

/-- the invariants that hold at every point of a turn -/
structure TurnInv (s : St) : Prop where
  lk : LkInv s
  cl : CLInv s
  nd : NdInv s
  x : Xref s

theorem processOne_turninv {s s' : St} (h : TurnInv s) (hr : processOne s = some (.ok s')) : TurnInv s' :=
  ⟨processOne_lkinv h.lk hr, processOne_CLInv h.cl hr, processOne_nd h.nd hr, processOne_xref h.x hr⟩

theorem processOne_panics {s : St} (h : TurnInv s) {p : Panic} (he : processOne s = some (.error p)) : IntroRemovePanic p := by
  obtain ⟨i, t, hp, he⟩ := processOne_item he
  have hq := St.pop_spec hp
  cases i
  case removeConn =>
    obtain ⟨rest, -, rfl⟩ := hq
    exact shutdownConnection_panics (LkInv.frame.step (.removeConns s rest) (by decide) h.lk) (ChInv_of_eq h.cl.1 rfl)
      (NdInv.of_conns h.nd rfl) he
  case finishCall => obtain ⟨rest, hq, rfl⟩ := hq; exact absurd he (removedCallReply_np h.x hq p)
  case abort => obtain ⟨rest, -, rfl⟩ := hq; exact absurd he (abortCall_np h.x _ _ _ p)
  all_goals cases he

theorem processLoop_panics : ∀ (fuel : Nat) (s : St) (p : Panic), TurnInv s → processLoop fuel s = .error p →
    p = .fuel ∨ IntroRemovePanic p := by
  intro fuel s p h he
  exact (processLoop_error (fun _ _ h => processOne_turninv h) fuel s p h he).imp id fun ⟨_, ht, he⟩ => processOne_panics ht he

theorem Reachable.nd {b : Broker} {w : Work} (h : Reachable b w) : NdInv ⟨b, w, []⟩ := by
  induction h with
  | init => exact NdInv.init
  | step _ _ hs ih =>
    obtain ⟨s1, h1, h2⟩ := step_ok hs
    exact NdInv.of_conns (processLoop_inv (fun _ _ hp => processOne_nd hp) _ _ _ (handleEvent_nd ih h1) h2) rfl

def Req.isIntrospection : Req → Bool
  | .registerIntrospection _ | .queryIntrospection _ _ | .queryIntrospectionReply _ _ => true
  | _ => false

/-- **One whole turn of `Broker::run`, from any reachable state (fewer than 2³² pending calls), for any event: if it
panics, then inside the introspection code** (the handler of one of the three introspection requests, or
`remove_introspection_conn`), **or because the id of a new connection is already in use, or because the model's budget
ran out.** -/
theorem step_panics {b : Broker} {w : Work} (h : Reachable b w) (hroom : b.calls.elems.length ≤ u32Max) {e : Event} {p : Panic}
    (he : step b w e = .error p) :
    p = .fuel ∨ p = .debugAssert "NewConnection: duplicate id" ∨ IntroRemovePanic p ∨
      (∃ id m, m.isIntrospection = true ∧ handleMessage ⟨b, w, []⟩ id m = .error p) := by
  rcases step_error he with hp | ⟨s1, h1, hp⟩
  · rcases handleEvent_error hp with ⟨id, m, -, hm⟩ | ⟨_, _, -, rfl⟩
    · by_cases hi : m.isIntrospection = true
      · exact .inr (.inr (.inr ⟨id, m, hi, hm⟩))
      · refine absurd hm (handleMessage_np_of_not_query h id m _ ?_ ?_)
        · intro serial ty hm; subst hm; exact hi rfl
        · intro serial r hm; subst hm; exact hi rfl
    · exact .inr (.inl rfl)
  · have inv1 : TurnInv s1 :=
      ⟨handleEvent_lkinv h hroom h1, handleEvent_CLInv h.clinv h1, handleEvent_nd h.nd h1,
        handleEvent_xref h.idle.x h.idle.r h.idle.a hroom h1⟩
    exact (processLoop_panics _ _ _ inv1 hp).imp id (fun hi => .inr (.inl hi))

end Aldrin.Broker
