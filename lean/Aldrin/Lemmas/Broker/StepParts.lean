/-
What the composed-system proofs need of the broker, in the form they use it: one turn taken apart — the handler, then the
work loop — with what the parts guarantee together, and three handler facts restated for them (the reply of a request
other than `startBusListener`, what `updListener` does, that a reply to `createBusListener` means the requester is alive).
-/
import Aldrin.Lemmas.Broker.ListenerSpec

namespace Aldrin.Broker
open Aldrin.Client (SKind reqKey rspKey)

/-- states are compared without regard to their output -/
theorem processLoop_parts {s1 : St} {b' : Broker} {w' : Work} {out : List Out}
    (h : processLoop (loopFuel s1) s1 = .ok ⟨b', w', out⟩) :
    LShrink s1 ⟨b', w', []⟩ ∧ AliveLe s1 ⟨b', w', []⟩ ∧ sf out = sf s1.out :=
  ⟨(processLoop_shrink _ _ _ h :), (processLoop_alive _ _ _ h :), processLoop_s _ _ _ h⟩

theorem step_msg_parts {b b' : Broker} {w w' : Work} {id : ConnId} {m : Req} {out : List Out}
    (hr : step b w (.msg id m) = .ok (b', w', out)) :
    ∃ s1 ok, handleMessage ⟨b, w, []⟩ id m = .ok (s1, ok) ∧ LShrink s1 ⟨b', w', []⟩ ∧ AliveLe s1 ⟨b', w', []⟩ ∧
      sf out = sf s1.out := by
  obtain ⟨s2, h1, h2⟩ := step_ok hr
  obtain ⟨⟨s1, ok⟩, hm, hf⟩ := handleEvent_msg_ok h1
  obtain ⟨l, a, o⟩ := processLoop_parts h2
  exact ⟨s1, ok, hm, .trans (.of_eq (hf.frame listeners_frame)) l, .trans (hf.frame AliveLe.frame) a, o.trans hf.sameS⟩

theorem step_other_parts {b b' : Broker} {w w' : Work} {e : Event} {out : List Out}
    (he : ∀ id m, e ≠ .msg id m) (hn : ∀ id v, e ≠ .newConn id v) (hr : step b w e = .ok (b', w', out)) :
    LShrink ⟨b, w, []⟩ ⟨b', w', []⟩ ∧ AliveLe ⟨b, w, []⟩ ⟨b', w', []⟩ ∧ sf out = [] := by
  refine ⟨?_, fun c => step_alive hn hr c, step_other_no_reply he hr⟩
  obtain ⟨s1, h1, h2⟩ := step_ok hr
  refine .trans (.of_eq ?_) (processLoop_parts h2).1
  cases e <;> first | exact absurd rfl (he _ _) | exact (handleEvent_fp h1).frame listeners_frame

theorem step_newConn_parts {b b' : Broker} {w w' : Work} {c : ConnId} {v : Nat} {out : List Out}
    (hr : step b w (.newConn c v) = .ok (b', w', out)) :
    LShrink ⟨b, w, []⟩ ⟨b', w', []⟩ ∧ (∀ x, x ≠ c → aliveB ⟨b', w', []⟩ x = true → aliveB ⟨b, w, []⟩ x = true) ∧ sf out = [] := by
  obtain ⟨s1, h1, h2⟩ := step_ok hr
  obtain ⟨l, a, _⟩ := processLoop_parts h2
  refine ⟨.trans (.of_eq ((handleEvent_fp h1).frame listeners_frame)) l, fun x hx ha => ?_,
    step_other_no_reply (by exact fun _ _ h => nomatch h) hr⟩
  have := a x ha
  obtain ⟨-, rfl⟩ := handleEvent_newConn_ok h1
  rwa [aliveB_stat, aliveB_setConn, if_neg (Ne.symm hx)] at this

theorem handleMessage_rep_one {s s' : St} {id : ConnId} {m : Req} {ok : Bool} (hm : ∀ n ck sc, m ≠ .startBusListener n ck sc)
    (hr : handleMessage s id m = .ok (s', ok)) : AtMost s s' id (reqKeyS m) :=
  (handleMessage_reply hm hr).atMost

theorem updListener_spec {s s' : St} {id ck f} {ok : Bool} (h : updListener s id ck f = .ok (s', ok)) :
    s'.out = s.out ∧ (s'.b.listeners = s.b.listeners ∨
      ∃ l, AL.find? ck s.b.listeners = some l ∧ l.conn = id ∧ s'.b.listeners = AL.insert ck (f l) s.b.listeners) := by
  rcases updListener_outcome h with hr | ⟨l, hl, hc, hr⟩ <;> cases hr
  · exact ⟨rfl, .inl rfl⟩
  · exact ⟨rfl, .inr ⟨l, hl, hc, rfl⟩⟩

theorem sf_grows_alive_create {s s' : St} {id n} {ok : Bool} (h : createBusListener s id n = .ok (s', ok))
    (hs : sf s'.out ≠ sf s.out) : aliveB s id = true := by
  rcases createBusListener_spec h with ⟨h1, _⟩ | ⟨_, _, ha⟩
  · exact absurd h1 hs
  · exact ha

end Aldrin.Broker
