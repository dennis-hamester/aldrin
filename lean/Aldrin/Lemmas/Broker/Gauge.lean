/-
The statistics gauges for channels and bus listeners equal the sizes of the maps, for every history (C09): every
`MapStep` keeps a map free of duplicate keys, as large as its gauge says, and all its keys below the cookie counter
(`MapG`) — the last is what makes a cookie that is handed out fresh.
-/
import Aldrin.Lemmas.Broker.Inv

namespace Aldrin.Broker
open Generated

def KeysBelow {V : Type} (n : Nat) (m : List (Cookie × V)) : Prop := ∀ k v, AL.find? k m = some v → k < n

theorem KeysBelow_nil {V : Type} (n : Nat) : KeysBelow n ([] : List (Cookie × V)) := by intro k v h; simp at h

theorem KeysBelow_mono {V : Type} {n n' : Nat} {m : List (Cookie × V)} (h : KeysBelow n m) (hn : n ≤ n') : KeysBelow n' m :=
  fun k v hk => Nat.lt_of_lt_of_le (h k v hk) hn

theorem KeysBelow_insert {V : Type} {n : Nat} {m : List (Cookie × V)} {k : Cookie} {v : V}
    (h : KeysBelow n m) (hk : k < n) : KeysBelow n (AL.insert k v m) := by
  intro k' v' hf
  rw [AL.find?_insert] at hf
  split at hf
  · subst_vars; exact hk
  · exact h _ _ hf

theorem KeysBelow_erase {V : Type} {n : Nat} {m : List (Cookie × V)} {k : Cookie}
    (h : KeysBelow n m) : KeysBelow n (AL.erase k m) := by
  intro k' v' hf
  rw [AL.find?_erase] at hf
  split at hf
  · simp at hf
  · exact h _ _ hf

theorem KeysBelow_fresh {V : Type} {n : Nat} {m : List (Cookie × V)} (h : KeysBelow n m) : AL.find? n m = none := by
  cases hf : AL.find? n m with
  | none => rfl
  | some v => exact absurd (h _ _ hf) (Nat.lt_irrefl _)

/-- size bookkeeping of one map with its gauge -/
structure MapG {V : Type} (g : Nat) (next : Nat) (m : List (Cookie × V)) : Prop where
  size : g = m.length
  nodup : AL.NodupKeys m
  below : KeysBelow next m

theorem MapG_nil {V : Type} (n : Nat) : MapG 0 n ([] : List (Cookie × V)) := ⟨rfl, AL.nodupKeys_nil, KeysBelow_nil n⟩

theorem MapG_mono {V : Type} {g n n' : Nat} {m : List (Cookie × V)} (h : MapG g n m) (hn : n ≤ n') : MapG g n' m :=
  ⟨h.size, h.nodup, KeysBelow_mono h.below hn⟩

theorem MapG_insert_fresh {V : Type} {g n n' : Nat} {m : List (Cookie × V)} {v : V} (h : MapG g n m) (hn : n < n') :
    MapG (g + 1) n' (AL.insert n v m) :=
  ⟨by rw [AL.length_insert_of_none (KeysBelow_fresh h.below), h.size], AL.nodupKeys_insert h.nodup,
   KeysBelow_insert (KeysBelow_mono h.below (Nat.le_of_lt hn)) hn⟩

theorem MapG_insert_same {V : Type} {g n : Nat} {m : List (Cookie × V)} {k : Cookie} {v v' : V} (h : MapG g n m)
    (hk : AL.find? k m = some v') : MapG g n (AL.insert k v m) :=
  ⟨by rw [AL.length_insert_of_some hk, h.size], AL.nodupKeys_insert h.nodup, KeysBelow_insert h.below (h.below _ _ hk)⟩

theorem MapG_erase {V : Type} {g n : Nat} {m : List (Cookie × V)} {k : Cookie} {v' : V} (h : MapG g n m)
    (hk : AL.find? k m = some v') : MapG (g - 1) n (AL.erase k m) := by
  have := AL.length_erase_of_some h.nodup hk
  exact ⟨by rw [h.size]; omega, AL.nodupKeys_erase h.nodup, KeysBelow_erase h.below⟩

theorem MapStep.mapG {V : Type} {ok may : V → Prop} {g n g1 n1 : Nat} {m m1 : List (Cookie × V)} (h : MapStep ok may g n m g1 n1 m1) :
    MapG g n m → MapG g1 n1 m1 := by
  induction h with
  | same hn => exact (MapG_mono · hn)
  | fresh hn _ _ => exact (MapG_insert_fresh · hn)
  | update hk _ _ => exact (MapG_insert_same · hk)
  | erase hk => exact (MapG_erase · hk)
  | trans _ _ ih1 ih2 => exact ih2 ∘ ih1

def G2 (s : St) : Prop :=
  MapG s.b.stats.numChannels s.b.nextCookie s.b.channels ∧ MapG s.b.stats.numBusListeners s.b.nextCookie s.b.listeners

theorem CLStep.g2 {may : Listener → Prop} {s s' : St} (h : CLStep may s s') (hg : G2 s) : G2 s' := ⟨h.1.mapG hg.1, h.2.mapG hg.2⟩

theorem step_G2 {b b' : Broker} {w w' : Work} {e : Event} {out : List Out}
    (h : G2 ⟨b, w, []⟩) (hr : step b w e = .ok (b', w', out)) : G2 ⟨b', w', []⟩ :=
  ((step_cl hr).g2 h : G2 ⟨b', w', out⟩)

theorem G2_init : G2 ⟨{}, {}, []⟩ := ⟨MapG_nil _, MapG_nil _⟩

theorem run_G2 : ∀ (es : List Event) (b b' : Broker) (w w' : Work) (outs : List (List Out)),
    G2 ⟨b, w, []⟩ → run b w es = .ok (b', w', outs) → G2 ⟨b', w', []⟩ :=
  fun es b b' w w' outs h hr => (run_cl es b b' w w' outs hr).g2 h

end Aldrin.Broker
