/-
A view of the broker's state is a function into `Option`; `upd` changes it at one key. The abstract invariants
(`XP.lean`, `XReg.lean`, `XOwn.lean`, `XCallee.lean`) state their operations with it, and their proofs look an entry up after an
update through the lemmas here.
-/

namespace Aldrin.Broker

/-- pointwise update of a view -/
def upd {K V : Type} [DecidableEq K] (f : K → Option V) (k : K) (v : Option V) : K → Option V :=
  fun x => if k = x then v else f x

@[simp, grind =] theorem upd_apply {K V : Type} [DecidableEq K] (f : K → Option V) (k : K) (v : Option V) (x : K) :
    upd f k v x = if k = x then v else f x := rfl

section
variable {K V : Type} [DecidableEq K] {f : K → Option V} {k x : K} {v : Option V} {a a0 w : V}

theorem upd_self : upd f k v k = v := if_pos rfl

theorem upd_ne (h : k ≠ x) : upd f k v x = f x := if_neg h

theorem upd_same (h : f k = v) : upd f k v = f := by
  funext x
  rw [upd_apply]
  split
  · next e => rw [← e, h]
  · rfl

/-- `upd` with the test written the other way round -/
theorem upd_flip (f : K → Option V) (k : K) (v : Option V) : (fun x => if x = k then v else f x) = upd f k v := by
  funext x
  by_cases h : x = k
  · rw [upd_apply, if_pos h.symm]; exact if_pos h
  · rw [upd_apply, if_neg (Ne.symm h)]; exact if_neg h

theorem upd_of_fresh (hk : f k = none) (h : f x = some a) : upd f k v x = some a :=
  (upd_ne fun he => by rw [he, h] at hk; cases hk).trans h

theorem upd_eq_some (h : upd f k v x = some a) : k = x ∧ v = some a ∨ k ≠ x ∧ f x = some a := by
  rw [upd_apply] at h
  split at h
  · exact .inl ⟨‹_›, h⟩
  · exact .inr ⟨‹_›, h⟩

theorem upd_none_eq_some (h : upd f k none x = some a) : k ≠ x ∧ f x = some a :=
  (upd_eq_some h).resolve_left fun h => nomatch h.2

/-- "the entry at `x` has `p`" survives replacing the entry at `k` by one that has `p` if the old one had -/
theorem upd_exists {p : V → Prop} (hf : f k = some a0) (hk : p a0 → p w) (h : ∃ a, f x = some a ∧ p a) :
    ∃ a, upd f k (some w) x = some a ∧ p a := by
  obtain ⟨a, ha, hp⟩ := h
  by_cases he : k = x
  · subst he; rw [hf] at ha; cases ha; exact ⟨w, upd_self, hk hp⟩
  · exact ⟨a, (upd_ne he).trans ha, hp⟩

/-- what holds of every entry of a view holds of every entry after an update by an entry of which it holds -/
theorem upd_all {p : V → Prop} (hf : ∀ x a, f x = some a → p a) (hw : p w) (x : K) (a : V)
    (h : upd f k (some w) x = some a) : p a := by
  rcases upd_eq_some h with ⟨_, hv⟩ | ⟨_, h⟩
  · cases hv; exact hw
  · exact hf x a h

end

end Aldrin.Broker
