/-
Association-list / list-set lemmas used by all broker proofs.
-/
import Aldrin.Model.Broker.Types
import Aldrin.Lemmas.Lists

namespace Aldrin.Broker
namespace AL
variable {K V : Type} [DecidableEq K]

@[simp] theorem find?_nil (k : K) : find? k ([] : List (K × V)) = none := rfl

@[simp] theorem find?_cons (k k' : K) (v : V) (m : List (K × V)) :
    find? k ((k', v) :: m) = if k' = k then some v else find? k m := rfl

theorem find?_insert (k k' : K) (v : V) (m : List (K × V)) :
    find? k (insert k' v m) = if k' = k then some v else find? k m := by
  induction m with
  | nil => simp [insert]
  | cons p m ih =>
    obtain ⟨a, b⟩ := p
    simp only [insert]
    split
    · subst_vars; simp only [find?_cons]; split <;> rfl
    · simp only [find?_cons, ih]
      by_cases h1 : a = k <;> by_cases h2 : k' = k <;> simp_all

@[simp] theorem find?_insert_self (k : K) (v : V) (m : List (K × V)) : find? k (insert k v m) = some v := by
  simp [find?_insert]

theorem find?_insert_ne {k k' : K} (v : V) (m : List (K × V)) (h : k' ≠ k) :
    find? k (insert k' v m) = find? k m := by simp [find?_insert, h]

theorem map_find?_insert_same {α : Type} {f : V → α} {m : List (K × V)} {k0 : K} {old new : V} (h : find? k0 m = some old)
    (hf : f new = f old) (k : K) : (find? k (insert k0 new m)).map f = (find? k m).map f := by
  rw [find?_insert]
  split
  · subst_vars; rw [h, Option.map_some, Option.map_some, hf]
  · rfl

theorem find?_erase (k k' : K) (m : List (K × V)) :
    find? k (erase k' m) = if k' = k then none else find? k m := by
  induction m with
  | nil => simp [erase]
  | cons p m ih =>
    obtain ⟨a, b⟩ := p
    simp only [erase, List.filter_cons] at *
    by_cases h1 : a = k' <;> by_cases h2 : k' = k <;> simp_all

@[simp] theorem find?_erase_self (k : K) (m : List (K × V)) : find? k (erase k m) = none := by
  simp [find?_erase]

theorem find?_erase_ne {k k' : K} (m : List (K × V)) (h : k' ≠ k) : find? k (erase k' m) = find? k m := by
  simp [find?_erase, h]

theorem find?_some_mem {k : K} {v : V} {m : List (K × V)} (h : find? k m = some v) : (k, v) ∈ m := by
  induction m with
  | nil => simp at h
  | cons p m ih =>
    obtain ⟨a, b⟩ := p
    simp only [find?_cons] at h
    split at h
    · simp_all
    · simp [ih h]

def NodupKeys (m : List (K × V)) : Prop := (m.map Prod.fst).Nodup

theorem find?_none_iff {k : K} {m : List (K × V)} : find? k m = none ↔ k ∉ m.map Prod.fst := by
  induction m with
  | nil => simp
  | cons p m ih =>
    obtain ⟨a, b⟩ := p
    simp only [find?_cons, List.map_cons, List.mem_cons, not_or]
    split <;> simp_all [eq_comm]

theorem nodupKeys_nil : NodupKeys ([] : List (K × V)) := by simp [NodupKeys]

theorem keys_insert_of_none {k : K} {v : V} {m : List (K × V)} (h : find? k m = none) :
    (insert k v m).map Prod.fst = m.map Prod.fst ++ [k] := by
  induction m with
  | nil => simp [insert]
  | cons p m ih =>
    obtain ⟨a, b⟩ := p
    simp only [find?_cons] at h
    split at h
    · simp at h
    · simp_all [insert]

theorem keys_insert_of_some {k : K} {v v' : V} {m : List (K × V)} (h : find? k m = some v') :
    (insert k v m).map Prod.fst = m.map Prod.fst := by
  induction m with
  | nil => simp at h
  | cons p m ih =>
    obtain ⟨a, b⟩ := p
    simp only [find?_cons] at h
    split at h
    · simp_all [insert]
    · simp_all [insert]

theorem nodupKeys_insert {k : K} {v : V} {m : List (K × V)} (h : NodupKeys m) : NodupKeys (insert k v m) := by
  unfold NodupKeys at *
  cases hf : find? k m with
  | none =>
    rw [keys_insert_of_none hf]
    have := find?_none_iff.mp hf
    simp_all [List.nodup_append]
    intro a x hm h; subst h; exact this x hm
  | some v' => rw [keys_insert_of_some hf]; exact h

theorem nodupKeys_erase {k : K} {m : List (K × V)} (h : NodupKeys m) : NodupKeys (erase k m) := by
  unfold NodupKeys erase at *
  induction m with
  | nil => simp
  | cons p m ih =>
    simp only [List.filter_cons]
    simp only [List.map_cons, List.nodup_cons] at h
    split
    · simp only [List.map_cons, List.nodup_cons]
      refine ⟨?_, ih h.2⟩
      intro hm
      apply h.1
      simp only [List.mem_map] at *
      obtain ⟨x, hx, hx'⟩ := hm
      exact ⟨x, (List.mem_filter.mp hx).1, hx'⟩
    · exact ih h.2

theorem length_insert_of_none {k : K} {v : V} {m : List (K × V)} (h : find? k m = none) :
    (insert k v m).length = m.length + 1 := by
  have := congrArg List.length (keys_insert_of_none (v := v) h); simpa using this

theorem length_insert_of_some {k : K} {v v' : V} {m : List (K × V)} (h : find? k m = some v') :
    (insert k v m).length = m.length := by
  have := congrArg List.length (keys_insert_of_some (v := v) h); simpa using this

theorem length_erase_of_some {k : K} {v : V} {m : List (K × V)} (hn : NodupKeys m) (h : find? k m = some v) :
    (erase k m).length + 1 = m.length := by
  unfold NodupKeys erase at *
  induction m with
  | nil => simp at h
  | cons p m ih =>
    obtain ⟨a, b⟩ := p
    simp only [find?_cons] at h
    simp only [List.map_cons, List.nodup_cons] at hn
    simp only [List.filter_cons]
    split at h
    · subst_vars
      have : List.filter (fun p => decide (p.1 ≠ a)) m = m := by
        apply List.filter_eq_self.mpr
        intro x hx
        simp only [ne_eq, decide_not, Bool.not_eq_eq_eq_not, Bool.not_true, decide_eq_false_iff_not]
        intro hxa
        exact hn.1 (List.mem_map.mpr ⟨x, hx, hxa⟩)
      have h2 : (decide ((a, b).fst ≠ a)) = false := by simp
      rw [h2]
      simp only [Bool.false_eq_true, ↓reduceIte]
      rw [this]; rfl
    · have := ih hn.2 h
      simp_all

theorem length_erase_of_none {k : K} {m : List (K × V)} (h : find? k m = none) : (erase k m) = m := by
  unfold erase
  apply List.filter_eq_self.mpr
  intro x hx
  have := find?_none_iff.mp h
  simp only [ne_eq, decide_not, Bool.not_eq_eq_eq_not, Bool.not_true, decide_eq_false_iff_not]
  intro hxa
  exact this (List.mem_map.mpr ⟨x, hx, hxa⟩)

theorem length_erase_lt {k : K} {v : V} {m : List (K × V)} (h : find? k m = some v) : (erase k m).length < m.length :=
  List.length_filter_lt_length_iff_exists.mpr ⟨(k, v), find?_some_mem h, by simp⟩

theorem mem_keys_erase {m : List (K × V)} {k c : K} (h : c ∈ (erase k m).map Prod.fst) :
    c ∈ m.map Prod.fst ∧ c ≠ k := by
  simp only [erase, List.mem_map, List.mem_filter] at h
  obtain ⟨p, ⟨hp, hne⟩, rfl⟩ := h
  exact ⟨List.mem_map.mpr ⟨p, hp, rfl⟩, by simpa using hne⟩

theorem find?_append_one (k k' : K) (v : V) (l : List (K × V)) :
    find? k (l ++ [(k', v)]) = (find? k l).or (if k' = k then some v else none) := by
  induction l with
  | nil => simp [find?]
  | cons a l ih =>
    obtain ⟨ka, va⟩ := a
    simp only [List.cons_append, find?]
    split
    · simp
    · exact ih

end AL

theorem mem_sinsert {α : Type} [DecidableEq α] (a b : α) (s : List α) : b ∈ sinsert a s ↔ b = a ∨ b ∈ s := by
  unfold sinsert; split <;> simp_all [or_comm]

theorem mem_sremove {α : Type} [DecidableEq α] (a b : α) (s : List α) : b ∈ sremove a s ↔ b ≠ a ∧ b ∈ s := by
  unfold sremove; simp [and_comm]

theorem nodup_sinsert {α : Type} [DecidableEq α] (a : α) (s : List α) (h : s.Nodup) : (sinsert a s).Nodup := by
  unfold sinsert; split
  · exact h
  · simp_all [List.nodup_append]
    intro b hb h; subst h; contradiction

theorem nodup_sremove {α : Type} [DecidableEq α] (a : α) (s : List α) (h : s.Nodup) : (sremove a s).Nodup := by
  unfold sremove; exact h.filter _

theorem foldl_set {α β : Type} (g : List α → β → List α) (S : β → α → Prop)
    (hg : ∀ acc x, acc.Nodup → (g acc x).Nodup ∧ ∀ c, c ∈ g acc x ↔ c ∈ acc ∨ S x c) :
    ∀ (l : List β) (acc : List α), acc.Nodup →
      (l.foldl g acc).Nodup ∧ ∀ c, c ∈ l.foldl g acc ↔ c ∈ acc ∨ ∃ x ∈ l, S x c
  | [], _, h => ⟨h, by simp⟩
  | x :: l, acc, h => by
    obtain ⟨h1, h2⟩ := foldl_set g S hg l (g acc x) (hg acc x h).1
    exact ⟨h1, fun c => by rw [List.foldl_cons, h2, (hg acc x h).2, or_assoc]; simp⟩

theorem AL.find?_of_mem {K V : Type} [DecidableEq K] {m : List (K × V)} (hn : AL.NodupKeys m) {k : K} {v : V}
    (h : (k, v) ∈ m) : AL.find? k m = some v := by
  cases hf : AL.find? k m with
  | none => exact absurd (List.mem_map_of_mem (f := Prod.fst) h) (AL.find?_none_iff.1 hf)
  | some w => exact congrArg some (Prod.ext_iff.1 (eq_of_key_eq hn (AL.find?_some_mem hf) h rfl)).2

theorem AL.mem_iff_find? {K V : Type} [DecidableEq K] {m : List (K × V)} (hn : AL.NodupKeys m) {k : K} {v : V} :
    (k, v) ∈ m ↔ AL.find? k m = some v :=
  ⟨AL.find?_of_mem hn, AL.find?_some_mem⟩

theorem AL.eq_nil_of_find {K V : Type} [DecidableEq K] {m : List (K × V)} (h : ∀ k v, AL.find? k m ≠ some v) : m = [] := by
  cases m with
  | nil => rfl
  | cons p m => exact absurd (by simp [AL.find?]) (h p.1 p.2)

theorem AL.erase_insert {K V : Type} [DecidableEq K] (k : K) (v : V) :
    ∀ m : List (K × V), AL.erase k (AL.insert k v m) = AL.erase k m
  | [] => by simp [AL.erase, AL.insert]
  | (k', v') :: m => by
    have ih := AL.erase_insert k v m
    unfold AL.erase at ih ⊢
    simp only [AL.insert]
    split
    · next hk => simp [hk]
    · simp only [List.filter_cons, ih]

end Aldrin.Broker
