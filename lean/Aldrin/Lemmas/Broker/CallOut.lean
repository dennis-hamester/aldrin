/-
Which functions of the broker model put no `callFunctionReply` into any queue: everything but the call handlers
(`call_function_impl`, `call_function_reply`), `abort_call` and the deferred `remove_function_call` items of the work loop.
-/
import Aldrin.Lemmas.Broker.Footprint

namespace Aldrin.Broker

def isR : Rsp → Bool
  | .callFunctionReply _ _ => true
  | _ => false

@[simp, grind =] theorem isR_createObjectReply {a0 a1} : isR (.createObjectReply a0 a1) = false := rfl
@[simp, grind =] theorem isR_destroyObjectReply {a0 a1} : isR (.destroyObjectReply a0 a1) = false := rfl
@[simp, grind =] theorem isR_createServiceReply {a0 a1} : isR (.createServiceReply a0 a1) = false := rfl
@[simp, grind =] theorem isR_destroyServiceReply {a0 a1} : isR (.destroyServiceReply a0 a1) = false := rfl
@[simp, grind =] theorem isR_callFunction {a0 a1 a2 a3} : isR (.callFunction a0 a1 a2 a3) = false := rfl
@[simp, grind =] theorem isR_callFunction2 {a0 a1 a2 a3 a4} : isR (.callFunction2 a0 a1 a2 a3 a4) = false := rfl
@[simp, grind =] theorem isR_callFunctionReply {a0 a1} : isR (.callFunctionReply a0 a1) = true := rfl
@[simp, grind =] theorem isR_abortFunctionCall {a0} : isR (.abortFunctionCall a0) = false := rfl
@[simp, grind =] theorem isR_subscribeEvent {a0 a1} : isR (.subscribeEvent a0 a1) = false := rfl
@[simp, grind =] theorem isR_subscribeEventReply {a0 a1} : isR (.subscribeEventReply a0 a1) = false := rfl
@[simp, grind =] theorem isR_unsubscribeEvent {a0 a1} : isR (.unsubscribeEvent a0 a1) = false := rfl
@[simp, grind =] theorem isR_emitEvent {a0 a1 a2} : isR (.emitEvent a0 a1 a2) = false := rfl
@[simp, grind =] theorem isR_queryServiceVersionReply {a0 a1} : isR (.queryServiceVersionReply a0 a1) = false := rfl
@[simp, grind =] theorem isR_queryServiceInfoReply {a0 a1} : isR (.queryServiceInfoReply a0 a1) = false := rfl
@[simp, grind =] theorem isR_subscribeServiceReply {a0 a1} : isR (.subscribeServiceReply a0 a1) = false := rfl
@[simp, grind =] theorem isR_subscribeAllEvents {a0} : isR (.subscribeAllEvents a0) = false := rfl
@[simp, grind =] theorem isR_subscribeAllEventsReply {a0 a1} : isR (.subscribeAllEventsReply a0 a1) = false := rfl
@[simp, grind =] theorem isR_unsubscribeAllEvents {a0} : isR (.unsubscribeAllEvents a0) = false := rfl
@[simp, grind =] theorem isR_unsubscribeAllEventsReply {a0 a1} : isR (.unsubscribeAllEventsReply a0 a1) = false := rfl
@[simp, grind =] theorem isR_serviceDestroyed {a0} : isR (.serviceDestroyed a0) = false := rfl
@[simp, grind =] theorem isR_createChannelReply {a0 a1} : isR (.createChannelReply a0 a1) = false := rfl
@[simp, grind =] theorem isR_closeChannelEndReply {a0 a1} : isR (.closeChannelEndReply a0 a1) = false := rfl
@[simp, grind =] theorem isR_channelEndClosed {a0 a1} : isR (.channelEndClosed a0 a1) = false := rfl
@[simp, grind =] theorem isR_claimChannelEndReply {a0 a1} : isR (.claimChannelEndReply a0 a1) = false := rfl
@[simp, grind =] theorem isR_channelEndClaimed {a0 a1 a2} : isR (.channelEndClaimed a0 a1 a2) = false := rfl
@[simp, grind =] theorem isR_itemReceived {a0 a1} : isR (.itemReceived a0 a1) = false := rfl
@[simp, grind =] theorem isR_addChannelCapacity {a0 a1} : isR (.addChannelCapacity a0 a1) = false := rfl
@[simp, grind =] theorem isR_syncReply {a0} : isR (.syncReply a0) = false := rfl
@[simp, grind =] theorem isR_createBusListenerReply {a0 a1} : isR (.createBusListenerReply a0 a1) = false := rfl
@[simp, grind =] theorem isR_destroyBusListenerReply {a0 a1} : isR (.destroyBusListenerReply a0 a1) = false := rfl
@[simp, grind =] theorem isR_startBusListenerReply {a0 a1} : isR (.startBusListenerReply a0 a1) = false := rfl
@[simp, grind =] theorem isR_stopBusListenerReply {a0 a1} : isR (.stopBusListenerReply a0 a1) = false := rfl
@[simp, grind =] theorem isR_emitBusEvent {a0 a1} : isR (.emitBusEvent a0 a1) = false := rfl
@[simp, grind =] theorem isR_busListenerCurrentFinished {a0} : isR (.busListenerCurrentFinished a0) = false := rfl
@[simp, grind =] theorem isR_queryIntrospection {a0 a1} : isR (.queryIntrospection a0 a1) = false := rfl
@[simp, grind =] theorem isR_queryIntrospectionReply {a0 a1} : isR (.queryIntrospectionReply a0 a1) = false := rfl
@[simp, grind =] theorem isR_shutdown : isR .shutdown = false := rfl

def rf (l : List Out) : List Out := l.filter (fun o => isR o.msg)

@[simp, grind =] theorem rf_append (a b : List Out) : rf (a ++ b) = rf a ++ rf b := by simp [rf]
@[simp, grind =] theorem rf_nil : rf [] = [] := rfl
@[simp, grind =] theorem rf_single (o : Out) : rf [o] = if isR o.msg then [o] else [] := by
  cases h : isR o.msg <;> simp [rf, h]
theorem rf_cons (o : Out) (t : List Out) : rf (o :: t) = rf [o] ++ rf t := by
  rw [← rf_append]; rfl

/-- no call reply was added -/
def SameR (s s' : St) : Prop := rf s'.out = rf s.out

theorem SameR.refl (s : St) : SameR s s := rfl
theorem SameR.trans {a b c : St} (h1 : SameR a b) (h2 : SameR b c) : SameR a c := Eq.trans h2 h1

theorem SameR.frame : Frame SameR [.emit .callFunctionReply] :=
  Frame.ofFilter _ _ fun ⟨_, m, _⟩ hb => by cases m <;> first | rfl | (simp [Rsp.kind] at hb)

@[simp] theorem removeBusListener_rf (s : St) (c : Cookie) : rf (removeBusListener s c).out = rf s.out :=
  (removeBusListener_fp s c).frame SameR.frame

theorem handleMessage_r {s s' : St} {id : ConnId} {m : Req} {ok : Bool}
    (hr : handleMessage s id m = .ok (s', ok))
    (h1 : ∀ a b c d, m ≠ .callFunction a b c d) (h2 : ∀ a b c d e, m ≠ .callFunction2 a b c d e) (h3 : ∀ a b, m ≠ .callFunctionReply a b) :
    SameR s s' := by
  cases m
  case callFunction => exact absurd rfl (h1 _ _ _ _)
  case callFunction2 => exact absurd rfl (h2 _ _ _ _ _)
  case callFunctionReply => exact absurd rfl (h3 _ _)
  all_goals exact (handleMessage_fp hr).frame SameR.frame

end Aldrin.Broker
