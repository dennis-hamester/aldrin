/- GENERATED by tools/gen_prim.py (static, committed): projection lemmas for the state update primitives. -/
import Aldrin.Model.Broker.Step

namespace Aldrin.Broker

@[simp, grind =] theorem St.setConns_b_conns (s : St) (x : List (ConnId × Conn)) : (s.setConns x).b.conns = x := rfl
@[simp, grind =] theorem St.setConns_b_objUuids (s : St) (x : List (ConnId × Conn)) : (s.setConns x).b.objUuids = s.b.objUuids := rfl
@[simp, grind =] theorem St.setConns_b_objs (s : St) (x : List (ConnId × Conn)) : (s.setConns x).b.objs = s.b.objs := rfl
@[simp, grind =] theorem St.setConns_b_svcUuids (s : St) (x : List (ConnId × Conn)) : (s.setConns x).b.svcUuids = s.b.svcUuids := rfl
@[simp, grind =] theorem St.setConns_b_svcs (s : St) (x : List (ConnId × Conn)) : (s.setConns x).b.svcs = s.b.svcs := rfl
@[simp, grind =] theorem St.setConns_b_calls (s : St) (x : List (ConnId × Conn)) : (s.setConns x).b.calls = s.b.calls := rfl
@[simp, grind =] theorem St.setConns_b_channels (s : St) (x : List (ConnId × Conn)) : (s.setConns x).b.channels = s.b.channels := rfl
@[simp, grind =] theorem St.setConns_b_listeners (s : St) (x : List (ConnId × Conn)) : (s.setConns x).b.listeners = s.b.listeners := rfl
@[simp, grind =] theorem St.setConns_b_introspection (s : St) (x : List (ConnId × Conn)) : (s.setConns x).b.introspection = s.b.introspection := rfl
@[simp, grind =] theorem St.setConns_b_iqueries (s : St) (x : List (ConnId × Conn)) : (s.setConns x).b.iqueries = s.b.iqueries := rfl
@[simp, grind =] theorem St.setConns_b_nextCookie (s : St) (x : List (ConnId × Conn)) : (s.setConns x).b.nextCookie = s.b.nextCookie := rfl
@[simp, grind =] theorem St.setConns_b_stats (s : St) (x : List (ConnId × Conn)) : (s.setConns x).b.stats = s.b.stats := rfl
@[simp, grind =] theorem St.setConns_w_shutdownNow (s : St) (x : List (ConnId × Conn)) : (s.setConns x).w.shutdownNow = s.w.shutdownNow := rfl
@[simp, grind =] theorem St.setConns_w_shutdownIdle (s : St) (x : List (ConnId × Conn)) : (s.setConns x).w.shutdownIdle = s.w.shutdownIdle := rfl
@[simp, grind =] theorem St.setConns_w_removeConns (s : St) (x : List (ConnId × Conn)) : (s.setConns x).w.removeConns = s.w.removeConns := rfl
@[simp, grind =] theorem St.setConns_w_removeCalls (s : St) (x : List (ConnId × Conn)) : (s.setConns x).w.removeCalls = s.w.removeCalls := rfl
@[simp, grind =] theorem St.setConns_w_servicesDestroyed (s : St) (x : List (ConnId × Conn)) : (s.setConns x).w.servicesDestroyed = s.w.servicesDestroyed := rfl
@[simp, grind =] theorem St.setConns_w_unsubscribeEvent (s : St) (x : List (ConnId × Conn)) : (s.setConns x).w.unsubscribeEvent = s.w.unsubscribeEvent := rfl
@[simp, grind =] theorem St.setConns_w_unsubscribeAll (s : St) (x : List (ConnId × Conn)) : (s.setConns x).w.unsubscribeAll = s.w.unsubscribeAll := rfl
@[simp, grind =] theorem St.setConns_w_createObject (s : St) (x : List (ConnId × Conn)) : (s.setConns x).w.createObject = s.w.createObject := rfl
@[simp, grind =] theorem St.setConns_w_destroyObject (s : St) (x : List (ConnId × Conn)) : (s.setConns x).w.destroyObject = s.w.destroyObject := rfl
@[simp, grind =] theorem St.setConns_w_createService (s : St) (x : List (ConnId × Conn)) : (s.setConns x).w.createService = s.w.createService := rfl
@[simp, grind =] theorem St.setConns_w_destroyService (s : St) (x : List (ConnId × Conn)) : (s.setConns x).w.destroyService = s.w.destroyService := rfl
@[simp, grind =] theorem St.setConns_w_abortCalls (s : St) (x : List (ConnId × Conn)) : (s.setConns x).w.abortCalls = s.w.abortCalls := rfl
@[simp, grind =] theorem St.setConns_out (s : St) (x : List (ConnId × Conn)) : (s.setConns x).out = s.out := rfl
@[simp, grind =] theorem St.setObjUuids_b_conns (s : St) (x : List (Cookie × Uuid)) : (s.setObjUuids x).b.conns = s.b.conns := rfl
@[simp, grind =] theorem St.setObjUuids_b_objUuids (s : St) (x : List (Cookie × Uuid)) : (s.setObjUuids x).b.objUuids = x := rfl
@[simp, grind =] theorem St.setObjUuids_b_objs (s : St) (x : List (Cookie × Uuid)) : (s.setObjUuids x).b.objs = s.b.objs := rfl
@[simp, grind =] theorem St.setObjUuids_b_svcUuids (s : St) (x : List (Cookie × Uuid)) : (s.setObjUuids x).b.svcUuids = s.b.svcUuids := rfl
@[simp, grind =] theorem St.setObjUuids_b_svcs (s : St) (x : List (Cookie × Uuid)) : (s.setObjUuids x).b.svcs = s.b.svcs := rfl
@[simp, grind =] theorem St.setObjUuids_b_calls (s : St) (x : List (Cookie × Uuid)) : (s.setObjUuids x).b.calls = s.b.calls := rfl
@[simp, grind =] theorem St.setObjUuids_b_channels (s : St) (x : List (Cookie × Uuid)) : (s.setObjUuids x).b.channels = s.b.channels := rfl
@[simp, grind =] theorem St.setObjUuids_b_listeners (s : St) (x : List (Cookie × Uuid)) : (s.setObjUuids x).b.listeners = s.b.listeners := rfl
@[simp, grind =] theorem St.setObjUuids_b_introspection (s : St) (x : List (Cookie × Uuid)) : (s.setObjUuids x).b.introspection = s.b.introspection := rfl
@[simp, grind =] theorem St.setObjUuids_b_iqueries (s : St) (x : List (Cookie × Uuid)) : (s.setObjUuids x).b.iqueries = s.b.iqueries := rfl
@[simp, grind =] theorem St.setObjUuids_b_nextCookie (s : St) (x : List (Cookie × Uuid)) : (s.setObjUuids x).b.nextCookie = s.b.nextCookie := rfl
@[simp, grind =] theorem St.setObjUuids_b_stats (s : St) (x : List (Cookie × Uuid)) : (s.setObjUuids x).b.stats = s.b.stats := rfl
@[simp, grind =] theorem St.setObjUuids_w_shutdownNow (s : St) (x : List (Cookie × Uuid)) : (s.setObjUuids x).w.shutdownNow = s.w.shutdownNow := rfl
@[simp, grind =] theorem St.setObjUuids_w_shutdownIdle (s : St) (x : List (Cookie × Uuid)) : (s.setObjUuids x).w.shutdownIdle = s.w.shutdownIdle := rfl
@[simp, grind =] theorem St.setObjUuids_w_removeConns (s : St) (x : List (Cookie × Uuid)) : (s.setObjUuids x).w.removeConns = s.w.removeConns := rfl
@[simp, grind =] theorem St.setObjUuids_w_servicesDestroyed (s : St) (x : List (Cookie × Uuid)) : (s.setObjUuids x).w.servicesDestroyed = s.w.servicesDestroyed := rfl
@[simp, grind =] theorem St.setObjUuids_w_unsubscribeEvent (s : St) (x : List (Cookie × Uuid)) : (s.setObjUuids x).w.unsubscribeEvent = s.w.unsubscribeEvent := rfl
@[simp, grind =] theorem St.setObjUuids_w_unsubscribeAll (s : St) (x : List (Cookie × Uuid)) : (s.setObjUuids x).w.unsubscribeAll = s.w.unsubscribeAll := rfl
@[simp, grind =] theorem St.setObjUuids_w_createObject (s : St) (x : List (Cookie × Uuid)) : (s.setObjUuids x).w.createObject = s.w.createObject := rfl
@[simp, grind =] theorem St.setObjUuids_w_destroyObject (s : St) (x : List (Cookie × Uuid)) : (s.setObjUuids x).w.destroyObject = s.w.destroyObject := rfl
@[simp, grind =] theorem St.setObjUuids_w_createService (s : St) (x : List (Cookie × Uuid)) : (s.setObjUuids x).w.createService = s.w.createService := rfl
@[simp, grind =] theorem St.setObjUuids_w_destroyService (s : St) (x : List (Cookie × Uuid)) : (s.setObjUuids x).w.destroyService = s.w.destroyService := rfl
@[simp, grind =] theorem St.setObjUuids_out (s : St) (x : List (Cookie × Uuid)) : (s.setObjUuids x).out = s.out := rfl
@[simp, grind =] theorem St.setObjUuids_w (s : St) (x : List (Cookie × Uuid)) : (s.setObjUuids x).w = s.w := rfl
@[simp, grind =] theorem St.setObjs_b_conns (s : St) (x : List (Uuid × Obj)) : (s.setObjs x).b.conns = s.b.conns := rfl
@[simp, grind =] theorem St.setObjs_b_objUuids (s : St) (x : List (Uuid × Obj)) : (s.setObjs x).b.objUuids = s.b.objUuids := rfl
@[simp, grind =] theorem St.setObjs_b_objs (s : St) (x : List (Uuid × Obj)) : (s.setObjs x).b.objs = x := rfl
@[simp, grind =] theorem St.setObjs_b_svcUuids (s : St) (x : List (Uuid × Obj)) : (s.setObjs x).b.svcUuids = s.b.svcUuids := rfl
@[simp, grind =] theorem St.setObjs_b_svcs (s : St) (x : List (Uuid × Obj)) : (s.setObjs x).b.svcs = s.b.svcs := rfl
@[simp, grind =] theorem St.setObjs_b_calls (s : St) (x : List (Uuid × Obj)) : (s.setObjs x).b.calls = s.b.calls := rfl
@[simp, grind =] theorem St.setObjs_b_channels (s : St) (x : List (Uuid × Obj)) : (s.setObjs x).b.channels = s.b.channels := rfl
@[simp, grind =] theorem St.setObjs_b_listeners (s : St) (x : List (Uuid × Obj)) : (s.setObjs x).b.listeners = s.b.listeners := rfl
@[simp, grind =] theorem St.setObjs_b_introspection (s : St) (x : List (Uuid × Obj)) : (s.setObjs x).b.introspection = s.b.introspection := rfl
@[simp, grind =] theorem St.setObjs_b_iqueries (s : St) (x : List (Uuid × Obj)) : (s.setObjs x).b.iqueries = s.b.iqueries := rfl
@[simp, grind =] theorem St.setObjs_b_nextCookie (s : St) (x : List (Uuid × Obj)) : (s.setObjs x).b.nextCookie = s.b.nextCookie := rfl
@[simp, grind =] theorem St.setObjs_b_stats (s : St) (x : List (Uuid × Obj)) : (s.setObjs x).b.stats = s.b.stats := rfl
@[simp, grind =] theorem St.setObjs_w_shutdownNow (s : St) (x : List (Uuid × Obj)) : (s.setObjs x).w.shutdownNow = s.w.shutdownNow := rfl
@[simp, grind =] theorem St.setObjs_w_shutdownIdle (s : St) (x : List (Uuid × Obj)) : (s.setObjs x).w.shutdownIdle = s.w.shutdownIdle := rfl
@[simp, grind =] theorem St.setObjs_w_removeConns (s : St) (x : List (Uuid × Obj)) : (s.setObjs x).w.removeConns = s.w.removeConns := rfl
@[simp, grind =] theorem St.setObjs_w_servicesDestroyed (s : St) (x : List (Uuid × Obj)) : (s.setObjs x).w.servicesDestroyed = s.w.servicesDestroyed := rfl
@[simp, grind =] theorem St.setObjs_w_unsubscribeEvent (s : St) (x : List (Uuid × Obj)) : (s.setObjs x).w.unsubscribeEvent = s.w.unsubscribeEvent := rfl
@[simp, grind =] theorem St.setObjs_w_unsubscribeAll (s : St) (x : List (Uuid × Obj)) : (s.setObjs x).w.unsubscribeAll = s.w.unsubscribeAll := rfl
@[simp, grind =] theorem St.setObjs_w_createObject (s : St) (x : List (Uuid × Obj)) : (s.setObjs x).w.createObject = s.w.createObject := rfl
@[simp, grind =] theorem St.setObjs_w_destroyObject (s : St) (x : List (Uuid × Obj)) : (s.setObjs x).w.destroyObject = s.w.destroyObject := rfl
@[simp, grind =] theorem St.setObjs_w_createService (s : St) (x : List (Uuid × Obj)) : (s.setObjs x).w.createService = s.w.createService := rfl
@[simp, grind =] theorem St.setObjs_w_destroyService (s : St) (x : List (Uuid × Obj)) : (s.setObjs x).w.destroyService = s.w.destroyService := rfl
@[simp, grind =] theorem St.setObjs_out (s : St) (x : List (Uuid × Obj)) : (s.setObjs x).out = s.out := rfl
@[simp, grind =] theorem St.setObjs_w (s : St) (x : List (Uuid × Obj)) : (s.setObjs x).w = s.w := rfl
@[simp, grind =] theorem St.setSvcUuids_b_conns (s : St) (x : List (Cookie × (ObjId × Uuid × SvcInfo))) : (s.setSvcUuids x).b.conns = s.b.conns := rfl
@[simp, grind =] theorem St.setSvcUuids_b_objUuids (s : St) (x : List (Cookie × (ObjId × Uuid × SvcInfo))) : (s.setSvcUuids x).b.objUuids = s.b.objUuids := rfl
@[simp, grind =] theorem St.setSvcUuids_b_objs (s : St) (x : List (Cookie × (ObjId × Uuid × SvcInfo))) : (s.setSvcUuids x).b.objs = s.b.objs := rfl
@[simp, grind =] theorem St.setSvcUuids_b_svcUuids (s : St) (x : List (Cookie × (ObjId × Uuid × SvcInfo))) : (s.setSvcUuids x).b.svcUuids = x := rfl
@[simp, grind =] theorem St.setSvcUuids_b_svcs (s : St) (x : List (Cookie × (ObjId × Uuid × SvcInfo))) : (s.setSvcUuids x).b.svcs = s.b.svcs := rfl
@[simp, grind =] theorem St.setSvcUuids_b_calls (s : St) (x : List (Cookie × (ObjId × Uuid × SvcInfo))) : (s.setSvcUuids x).b.calls = s.b.calls := rfl
@[simp, grind =] theorem St.setSvcUuids_b_channels (s : St) (x : List (Cookie × (ObjId × Uuid × SvcInfo))) : (s.setSvcUuids x).b.channels = s.b.channels := rfl
@[simp, grind =] theorem St.setSvcUuids_b_listeners (s : St) (x : List (Cookie × (ObjId × Uuid × SvcInfo))) : (s.setSvcUuids x).b.listeners = s.b.listeners := rfl
@[simp, grind =] theorem St.setSvcUuids_b_introspection (s : St) (x : List (Cookie × (ObjId × Uuid × SvcInfo))) : (s.setSvcUuids x).b.introspection = s.b.introspection := rfl
@[simp, grind =] theorem St.setSvcUuids_b_iqueries (s : St) (x : List (Cookie × (ObjId × Uuid × SvcInfo))) : (s.setSvcUuids x).b.iqueries = s.b.iqueries := rfl
@[simp, grind =] theorem St.setSvcUuids_b_nextCookie (s : St) (x : List (Cookie × (ObjId × Uuid × SvcInfo))) : (s.setSvcUuids x).b.nextCookie = s.b.nextCookie := rfl
@[simp, grind =] theorem St.setSvcUuids_b_stats (s : St) (x : List (Cookie × (ObjId × Uuid × SvcInfo))) : (s.setSvcUuids x).b.stats = s.b.stats := rfl
@[simp, grind =] theorem St.setSvcUuids_w_shutdownNow (s : St) (x : List (Cookie × (ObjId × Uuid × SvcInfo))) : (s.setSvcUuids x).w.shutdownNow = s.w.shutdownNow := rfl
@[simp, grind =] theorem St.setSvcUuids_w_shutdownIdle (s : St) (x : List (Cookie × (ObjId × Uuid × SvcInfo))) : (s.setSvcUuids x).w.shutdownIdle = s.w.shutdownIdle := rfl
@[simp, grind =] theorem St.setSvcUuids_w_removeConns (s : St) (x : List (Cookie × (ObjId × Uuid × SvcInfo))) : (s.setSvcUuids x).w.removeConns = s.w.removeConns := rfl
@[simp, grind =] theorem St.setSvcUuids_w_servicesDestroyed (s : St) (x : List (Cookie × (ObjId × Uuid × SvcInfo))) : (s.setSvcUuids x).w.servicesDestroyed = s.w.servicesDestroyed := rfl
@[simp, grind =] theorem St.setSvcUuids_w_unsubscribeEvent (s : St) (x : List (Cookie × (ObjId × Uuid × SvcInfo))) : (s.setSvcUuids x).w.unsubscribeEvent = s.w.unsubscribeEvent := rfl
@[simp, grind =] theorem St.setSvcUuids_w_unsubscribeAll (s : St) (x : List (Cookie × (ObjId × Uuid × SvcInfo))) : (s.setSvcUuids x).w.unsubscribeAll = s.w.unsubscribeAll := rfl
@[simp, grind =] theorem St.setSvcUuids_w_createObject (s : St) (x : List (Cookie × (ObjId × Uuid × SvcInfo))) : (s.setSvcUuids x).w.createObject = s.w.createObject := rfl
@[simp, grind =] theorem St.setSvcUuids_w_destroyObject (s : St) (x : List (Cookie × (ObjId × Uuid × SvcInfo))) : (s.setSvcUuids x).w.destroyObject = s.w.destroyObject := rfl
@[simp, grind =] theorem St.setSvcUuids_w_createService (s : St) (x : List (Cookie × (ObjId × Uuid × SvcInfo))) : (s.setSvcUuids x).w.createService = s.w.createService := rfl
@[simp, grind =] theorem St.setSvcUuids_w_destroyService (s : St) (x : List (Cookie × (ObjId × Uuid × SvcInfo))) : (s.setSvcUuids x).w.destroyService = s.w.destroyService := rfl
@[simp, grind =] theorem St.setSvcUuids_out (s : St) (x : List (Cookie × (ObjId × Uuid × SvcInfo))) : (s.setSvcUuids x).out = s.out := rfl
@[simp, grind =] theorem St.setSvcUuids_w (s : St) (x : List (Cookie × (ObjId × Uuid × SvcInfo))) : (s.setSvcUuids x).w = s.w := rfl
@[simp, grind =] theorem St.setSvcs_b_conns (s : St) (x : List ((Uuid × Uuid) × Svc)) : (s.setSvcs x).b.conns = s.b.conns := rfl
@[simp, grind =] theorem St.setSvcs_b_objUuids (s : St) (x : List ((Uuid × Uuid) × Svc)) : (s.setSvcs x).b.objUuids = s.b.objUuids := rfl
@[simp, grind =] theorem St.setSvcs_b_objs (s : St) (x : List ((Uuid × Uuid) × Svc)) : (s.setSvcs x).b.objs = s.b.objs := rfl
@[simp, grind =] theorem St.setSvcs_b_svcUuids (s : St) (x : List ((Uuid × Uuid) × Svc)) : (s.setSvcs x).b.svcUuids = s.b.svcUuids := rfl
@[simp, grind =] theorem St.setSvcs_b_svcs (s : St) (x : List ((Uuid × Uuid) × Svc)) : (s.setSvcs x).b.svcs = x := rfl
@[simp, grind =] theorem St.setSvcs_b_calls (s : St) (x : List ((Uuid × Uuid) × Svc)) : (s.setSvcs x).b.calls = s.b.calls := rfl
@[simp, grind =] theorem St.setSvcs_b_channels (s : St) (x : List ((Uuid × Uuid) × Svc)) : (s.setSvcs x).b.channels = s.b.channels := rfl
@[simp, grind =] theorem St.setSvcs_b_listeners (s : St) (x : List ((Uuid × Uuid) × Svc)) : (s.setSvcs x).b.listeners = s.b.listeners := rfl
@[simp, grind =] theorem St.setSvcs_b_introspection (s : St) (x : List ((Uuid × Uuid) × Svc)) : (s.setSvcs x).b.introspection = s.b.introspection := rfl
@[simp, grind =] theorem St.setSvcs_b_iqueries (s : St) (x : List ((Uuid × Uuid) × Svc)) : (s.setSvcs x).b.iqueries = s.b.iqueries := rfl
@[simp, grind =] theorem St.setSvcs_b_nextCookie (s : St) (x : List ((Uuid × Uuid) × Svc)) : (s.setSvcs x).b.nextCookie = s.b.nextCookie := rfl
@[simp, grind =] theorem St.setSvcs_b_stats (s : St) (x : List ((Uuid × Uuid) × Svc)) : (s.setSvcs x).b.stats = s.b.stats := rfl
@[simp, grind =] theorem St.setSvcs_w_shutdownNow (s : St) (x : List ((Uuid × Uuid) × Svc)) : (s.setSvcs x).w.shutdownNow = s.w.shutdownNow := rfl
@[simp, grind =] theorem St.setSvcs_w_shutdownIdle (s : St) (x : List ((Uuid × Uuid) × Svc)) : (s.setSvcs x).w.shutdownIdle = s.w.shutdownIdle := rfl
@[simp, grind =] theorem St.setSvcs_w_removeConns (s : St) (x : List ((Uuid × Uuid) × Svc)) : (s.setSvcs x).w.removeConns = s.w.removeConns := rfl
@[simp, grind =] theorem St.setSvcs_w_servicesDestroyed (s : St) (x : List ((Uuid × Uuid) × Svc)) : (s.setSvcs x).w.servicesDestroyed = s.w.servicesDestroyed := rfl
@[simp, grind =] theorem St.setSvcs_w_unsubscribeEvent (s : St) (x : List ((Uuid × Uuid) × Svc)) : (s.setSvcs x).w.unsubscribeEvent = s.w.unsubscribeEvent := rfl
@[simp, grind =] theorem St.setSvcs_w_unsubscribeAll (s : St) (x : List ((Uuid × Uuid) × Svc)) : (s.setSvcs x).w.unsubscribeAll = s.w.unsubscribeAll := rfl
@[simp, grind =] theorem St.setSvcs_w_createObject (s : St) (x : List ((Uuid × Uuid) × Svc)) : (s.setSvcs x).w.createObject = s.w.createObject := rfl
@[simp, grind =] theorem St.setSvcs_w_destroyObject (s : St) (x : List ((Uuid × Uuid) × Svc)) : (s.setSvcs x).w.destroyObject = s.w.destroyObject := rfl
@[simp, grind =] theorem St.setSvcs_w_createService (s : St) (x : List ((Uuid × Uuid) × Svc)) : (s.setSvcs x).w.createService = s.w.createService := rfl
@[simp, grind =] theorem St.setSvcs_w_destroyService (s : St) (x : List ((Uuid × Uuid) × Svc)) : (s.setSvcs x).w.destroyService = s.w.destroyService := rfl
@[simp, grind =] theorem St.setSvcs_out (s : St) (x : List ((Uuid × Uuid) × Svc)) : (s.setSvcs x).out = s.out := rfl
@[simp, grind =] theorem St.setSvcs_w (s : St) (x : List ((Uuid × Uuid) × Svc)) : (s.setSvcs x).w = s.w := rfl
@[simp, grind =] theorem St.setCalls_b_conns (s : St) (x : SerialMap Call) : (s.setCalls x).b.conns = s.b.conns := rfl
@[simp, grind =] theorem St.setCalls_b_objUuids (s : St) (x : SerialMap Call) : (s.setCalls x).b.objUuids = s.b.objUuids := rfl
@[simp, grind =] theorem St.setCalls_b_objs (s : St) (x : SerialMap Call) : (s.setCalls x).b.objs = s.b.objs := rfl
@[simp, grind =] theorem St.setCalls_b_svcUuids (s : St) (x : SerialMap Call) : (s.setCalls x).b.svcUuids = s.b.svcUuids := rfl
@[simp, grind =] theorem St.setCalls_b_svcs (s : St) (x : SerialMap Call) : (s.setCalls x).b.svcs = s.b.svcs := rfl
@[simp, grind =] theorem St.setCalls_b_calls (s : St) (x : SerialMap Call) : (s.setCalls x).b.calls = x := rfl
@[simp, grind =] theorem St.setCalls_b_channels (s : St) (x : SerialMap Call) : (s.setCalls x).b.channels = s.b.channels := rfl
@[simp, grind =] theorem St.setCalls_b_listeners (s : St) (x : SerialMap Call) : (s.setCalls x).b.listeners = s.b.listeners := rfl
@[simp, grind =] theorem St.setCalls_b_introspection (s : St) (x : SerialMap Call) : (s.setCalls x).b.introspection = s.b.introspection := rfl
@[simp, grind =] theorem St.setCalls_b_iqueries (s : St) (x : SerialMap Call) : (s.setCalls x).b.iqueries = s.b.iqueries := rfl
@[simp, grind =] theorem St.setCalls_b_nextCookie (s : St) (x : SerialMap Call) : (s.setCalls x).b.nextCookie = s.b.nextCookie := rfl
@[simp, grind =] theorem St.setCalls_b_stats (s : St) (x : SerialMap Call) : (s.setCalls x).b.stats = s.b.stats := rfl
@[simp, grind =] theorem St.setCalls_w_shutdownNow (s : St) (x : SerialMap Call) : (s.setCalls x).w.shutdownNow = s.w.shutdownNow := rfl
@[simp, grind =] theorem St.setCalls_w_shutdownIdle (s : St) (x : SerialMap Call) : (s.setCalls x).w.shutdownIdle = s.w.shutdownIdle := rfl
@[simp, grind =] theorem St.setCalls_w_removeConns (s : St) (x : SerialMap Call) : (s.setCalls x).w.removeConns = s.w.removeConns := rfl
@[simp, grind =] theorem St.setCalls_w_removeCalls (s : St) (x : SerialMap Call) : (s.setCalls x).w.removeCalls = s.w.removeCalls := rfl
@[simp, grind =] theorem St.setCalls_w_servicesDestroyed (s : St) (x : SerialMap Call) : (s.setCalls x).w.servicesDestroyed = s.w.servicesDestroyed := rfl
@[simp, grind =] theorem St.setCalls_w_unsubscribeEvent (s : St) (x : SerialMap Call) : (s.setCalls x).w.unsubscribeEvent = s.w.unsubscribeEvent := rfl
@[simp, grind =] theorem St.setCalls_w_unsubscribeAll (s : St) (x : SerialMap Call) : (s.setCalls x).w.unsubscribeAll = s.w.unsubscribeAll := rfl
@[simp, grind =] theorem St.setCalls_w_createObject (s : St) (x : SerialMap Call) : (s.setCalls x).w.createObject = s.w.createObject := rfl
@[simp, grind =] theorem St.setCalls_w_destroyObject (s : St) (x : SerialMap Call) : (s.setCalls x).w.destroyObject = s.w.destroyObject := rfl
@[simp, grind =] theorem St.setCalls_w_createService (s : St) (x : SerialMap Call) : (s.setCalls x).w.createService = s.w.createService := rfl
@[simp, grind =] theorem St.setCalls_w_destroyService (s : St) (x : SerialMap Call) : (s.setCalls x).w.destroyService = s.w.destroyService := rfl
@[simp, grind =] theorem St.setCalls_w_abortCalls (s : St) (x : SerialMap Call) : (s.setCalls x).w.abortCalls = s.w.abortCalls := rfl
@[simp, grind =] theorem St.setCalls_out (s : St) (x : SerialMap Call) : (s.setCalls x).out = s.out := rfl
@[simp, grind =] theorem St.setChannels_b_conns (s : St) (x : List (Cookie × Chan)) : (s.setChannels x).b.conns = s.b.conns := rfl
@[simp, grind =] theorem St.setChannels_b_objUuids (s : St) (x : List (Cookie × Chan)) : (s.setChannels x).b.objUuids = s.b.objUuids := rfl
@[simp, grind =] theorem St.setChannels_b_objs (s : St) (x : List (Cookie × Chan)) : (s.setChannels x).b.objs = s.b.objs := rfl
@[simp, grind =] theorem St.setChannels_b_svcUuids (s : St) (x : List (Cookie × Chan)) : (s.setChannels x).b.svcUuids = s.b.svcUuids := rfl
@[simp, grind =] theorem St.setChannels_b_svcs (s : St) (x : List (Cookie × Chan)) : (s.setChannels x).b.svcs = s.b.svcs := rfl
@[simp, grind =] theorem St.setChannels_b_calls (s : St) (x : List (Cookie × Chan)) : (s.setChannels x).b.calls = s.b.calls := rfl
@[simp, grind =] theorem St.setChannels_b_channels (s : St) (x : List (Cookie × Chan)) : (s.setChannels x).b.channels = x := rfl
@[simp, grind =] theorem St.setChannels_b_listeners (s : St) (x : List (Cookie × Chan)) : (s.setChannels x).b.listeners = s.b.listeners := rfl
@[simp, grind =] theorem St.setChannels_b_introspection (s : St) (x : List (Cookie × Chan)) : (s.setChannels x).b.introspection = s.b.introspection := rfl
@[simp, grind =] theorem St.setChannels_b_iqueries (s : St) (x : List (Cookie × Chan)) : (s.setChannels x).b.iqueries = s.b.iqueries := rfl
@[simp, grind =] theorem St.setChannels_b_nextCookie (s : St) (x : List (Cookie × Chan)) : (s.setChannels x).b.nextCookie = s.b.nextCookie := rfl
@[simp, grind =] theorem St.setChannels_b_stats (s : St) (x : List (Cookie × Chan)) : (s.setChannels x).b.stats = s.b.stats := rfl
@[simp, grind =] theorem St.setChannels_w_shutdownNow (s : St) (x : List (Cookie × Chan)) : (s.setChannels x).w.shutdownNow = s.w.shutdownNow := rfl
@[simp, grind =] theorem St.setChannels_w_shutdownIdle (s : St) (x : List (Cookie × Chan)) : (s.setChannels x).w.shutdownIdle = s.w.shutdownIdle := rfl
@[simp, grind =] theorem St.setChannels_w_removeConns (s : St) (x : List (Cookie × Chan)) : (s.setChannels x).w.removeConns = s.w.removeConns := rfl
@[simp, grind =] theorem St.setChannels_w_servicesDestroyed (s : St) (x : List (Cookie × Chan)) : (s.setChannels x).w.servicesDestroyed = s.w.servicesDestroyed := rfl
@[simp, grind =] theorem St.setChannels_w_unsubscribeEvent (s : St) (x : List (Cookie × Chan)) : (s.setChannels x).w.unsubscribeEvent = s.w.unsubscribeEvent := rfl
@[simp, grind =] theorem St.setChannels_w_unsubscribeAll (s : St) (x : List (Cookie × Chan)) : (s.setChannels x).w.unsubscribeAll = s.w.unsubscribeAll := rfl
@[simp, grind =] theorem St.setChannels_w_createObject (s : St) (x : List (Cookie × Chan)) : (s.setChannels x).w.createObject = s.w.createObject := rfl
@[simp, grind =] theorem St.setChannels_w_destroyObject (s : St) (x : List (Cookie × Chan)) : (s.setChannels x).w.destroyObject = s.w.destroyObject := rfl
@[simp, grind =] theorem St.setChannels_w_createService (s : St) (x : List (Cookie × Chan)) : (s.setChannels x).w.createService = s.w.createService := rfl
@[simp, grind =] theorem St.setChannels_w_destroyService (s : St) (x : List (Cookie × Chan)) : (s.setChannels x).w.destroyService = s.w.destroyService := rfl
@[simp, grind =] theorem St.setChannels_out (s : St) (x : List (Cookie × Chan)) : (s.setChannels x).out = s.out := rfl
@[simp, grind =] theorem St.setChannels_w (s : St) (x : List (Cookie × Chan)) : (s.setChannels x).w = s.w := rfl
@[simp, grind =] theorem St.setListeners_b_conns (s : St) (x : List (Cookie × Listener)) : (s.setListeners x).b.conns = s.b.conns := rfl
@[simp, grind =] theorem St.setListeners_b_objUuids (s : St) (x : List (Cookie × Listener)) : (s.setListeners x).b.objUuids = s.b.objUuids := rfl
@[simp, grind =] theorem St.setListeners_b_objs (s : St) (x : List (Cookie × Listener)) : (s.setListeners x).b.objs = s.b.objs := rfl
@[simp, grind =] theorem St.setListeners_b_svcUuids (s : St) (x : List (Cookie × Listener)) : (s.setListeners x).b.svcUuids = s.b.svcUuids := rfl
@[simp, grind =] theorem St.setListeners_b_svcs (s : St) (x : List (Cookie × Listener)) : (s.setListeners x).b.svcs = s.b.svcs := rfl
@[simp, grind =] theorem St.setListeners_b_calls (s : St) (x : List (Cookie × Listener)) : (s.setListeners x).b.calls = s.b.calls := rfl
@[simp, grind =] theorem St.setListeners_b_channels (s : St) (x : List (Cookie × Listener)) : (s.setListeners x).b.channels = s.b.channels := rfl
@[simp, grind =] theorem St.setListeners_b_listeners (s : St) (x : List (Cookie × Listener)) : (s.setListeners x).b.listeners = x := rfl
@[simp, grind =] theorem St.setListeners_b_introspection (s : St) (x : List (Cookie × Listener)) : (s.setListeners x).b.introspection = s.b.introspection := rfl
@[simp, grind =] theorem St.setListeners_b_iqueries (s : St) (x : List (Cookie × Listener)) : (s.setListeners x).b.iqueries = s.b.iqueries := rfl
@[simp, grind =] theorem St.setListeners_b_nextCookie (s : St) (x : List (Cookie × Listener)) : (s.setListeners x).b.nextCookie = s.b.nextCookie := rfl
@[simp, grind =] theorem St.setListeners_b_stats (s : St) (x : List (Cookie × Listener)) : (s.setListeners x).b.stats = s.b.stats := rfl
@[simp, grind =] theorem St.setListeners_w_shutdownNow (s : St) (x : List (Cookie × Listener)) : (s.setListeners x).w.shutdownNow = s.w.shutdownNow := rfl
@[simp, grind =] theorem St.setListeners_w_shutdownIdle (s : St) (x : List (Cookie × Listener)) : (s.setListeners x).w.shutdownIdle = s.w.shutdownIdle := rfl
@[simp, grind =] theorem St.setListeners_w_removeConns (s : St) (x : List (Cookie × Listener)) : (s.setListeners x).w.removeConns = s.w.removeConns := rfl
@[simp, grind =] theorem St.setListeners_w_servicesDestroyed (s : St) (x : List (Cookie × Listener)) : (s.setListeners x).w.servicesDestroyed = s.w.servicesDestroyed := rfl
@[simp, grind =] theorem St.setListeners_w_unsubscribeEvent (s : St) (x : List (Cookie × Listener)) : (s.setListeners x).w.unsubscribeEvent = s.w.unsubscribeEvent := rfl
@[simp, grind =] theorem St.setListeners_w_unsubscribeAll (s : St) (x : List (Cookie × Listener)) : (s.setListeners x).w.unsubscribeAll = s.w.unsubscribeAll := rfl
@[simp, grind =] theorem St.setListeners_w_createObject (s : St) (x : List (Cookie × Listener)) : (s.setListeners x).w.createObject = s.w.createObject := rfl
@[simp, grind =] theorem St.setListeners_w_destroyObject (s : St) (x : List (Cookie × Listener)) : (s.setListeners x).w.destroyObject = s.w.destroyObject := rfl
@[simp, grind =] theorem St.setListeners_w_createService (s : St) (x : List (Cookie × Listener)) : (s.setListeners x).w.createService = s.w.createService := rfl
@[simp, grind =] theorem St.setListeners_w_destroyService (s : St) (x : List (Cookie × Listener)) : (s.setListeners x).w.destroyService = s.w.destroyService := rfl
@[simp, grind =] theorem St.setListeners_out (s : St) (x : List (Cookie × Listener)) : (s.setListeners x).out = s.out := rfl
@[simp, grind =] theorem St.setListeners_w (s : St) (x : List (Cookie × Listener)) : (s.setListeners x).w = s.w := rfl
@[simp, grind =] theorem St.setIntrospection_b_conns (s : St) (x : List (Uuid × IEntry)) : (s.setIntrospection x).b.conns = s.b.conns := rfl
@[simp, grind =] theorem St.setIntrospection_b_objUuids (s : St) (x : List (Uuid × IEntry)) : (s.setIntrospection x).b.objUuids = s.b.objUuids := rfl
@[simp, grind =] theorem St.setIntrospection_b_objs (s : St) (x : List (Uuid × IEntry)) : (s.setIntrospection x).b.objs = s.b.objs := rfl
@[simp, grind =] theorem St.setIntrospection_b_svcUuids (s : St) (x : List (Uuid × IEntry)) : (s.setIntrospection x).b.svcUuids = s.b.svcUuids := rfl
@[simp, grind =] theorem St.setIntrospection_b_svcs (s : St) (x : List (Uuid × IEntry)) : (s.setIntrospection x).b.svcs = s.b.svcs := rfl
@[simp, grind =] theorem St.setIntrospection_b_calls (s : St) (x : List (Uuid × IEntry)) : (s.setIntrospection x).b.calls = s.b.calls := rfl
@[simp, grind =] theorem St.setIntrospection_b_channels (s : St) (x : List (Uuid × IEntry)) : (s.setIntrospection x).b.channels = s.b.channels := rfl
@[simp, grind =] theorem St.setIntrospection_b_listeners (s : St) (x : List (Uuid × IEntry)) : (s.setIntrospection x).b.listeners = s.b.listeners := rfl
@[simp, grind =] theorem St.setIntrospection_b_introspection (s : St) (x : List (Uuid × IEntry)) : (s.setIntrospection x).b.introspection = x := rfl
@[simp, grind =] theorem St.setIntrospection_b_iqueries (s : St) (x : List (Uuid × IEntry)) : (s.setIntrospection x).b.iqueries = s.b.iqueries := rfl
@[simp, grind =] theorem St.setIntrospection_b_nextCookie (s : St) (x : List (Uuid × IEntry)) : (s.setIntrospection x).b.nextCookie = s.b.nextCookie := rfl
@[simp, grind =] theorem St.setIntrospection_b_stats (s : St) (x : List (Uuid × IEntry)) : (s.setIntrospection x).b.stats = s.b.stats := rfl
@[simp, grind =] theorem St.setIntrospection_w_shutdownNow (s : St) (x : List (Uuid × IEntry)) : (s.setIntrospection x).w.shutdownNow = s.w.shutdownNow := rfl
@[simp, grind =] theorem St.setIntrospection_w_shutdownIdle (s : St) (x : List (Uuid × IEntry)) : (s.setIntrospection x).w.shutdownIdle = s.w.shutdownIdle := rfl
@[simp, grind =] theorem St.setIntrospection_w_removeConns (s : St) (x : List (Uuid × IEntry)) : (s.setIntrospection x).w.removeConns = s.w.removeConns := rfl
@[simp, grind =] theorem St.setIntrospection_w_servicesDestroyed (s : St) (x : List (Uuid × IEntry)) : (s.setIntrospection x).w.servicesDestroyed = s.w.servicesDestroyed := rfl
@[simp, grind =] theorem St.setIntrospection_w_unsubscribeEvent (s : St) (x : List (Uuid × IEntry)) : (s.setIntrospection x).w.unsubscribeEvent = s.w.unsubscribeEvent := rfl
@[simp, grind =] theorem St.setIntrospection_w_unsubscribeAll (s : St) (x : List (Uuid × IEntry)) : (s.setIntrospection x).w.unsubscribeAll = s.w.unsubscribeAll := rfl
@[simp, grind =] theorem St.setIntrospection_w_createObject (s : St) (x : List (Uuid × IEntry)) : (s.setIntrospection x).w.createObject = s.w.createObject := rfl
@[simp, grind =] theorem St.setIntrospection_w_destroyObject (s : St) (x : List (Uuid × IEntry)) : (s.setIntrospection x).w.destroyObject = s.w.destroyObject := rfl
@[simp, grind =] theorem St.setIntrospection_w_createService (s : St) (x : List (Uuid × IEntry)) : (s.setIntrospection x).w.createService = s.w.createService := rfl
@[simp, grind =] theorem St.setIntrospection_w_destroyService (s : St) (x : List (Uuid × IEntry)) : (s.setIntrospection x).w.destroyService = s.w.destroyService := rfl
@[simp, grind =] theorem St.setIntrospection_out (s : St) (x : List (Uuid × IEntry)) : (s.setIntrospection x).out = s.out := rfl
@[simp, grind =] theorem St.setIntrospection_w (s : St) (x : List (Uuid × IEntry)) : (s.setIntrospection x).w = s.w := rfl
@[simp, grind =] theorem St.setIqueries_b_conns (s : St) (x : SerialMap Uuid) : (s.setIqueries x).b.conns = s.b.conns := rfl
@[simp, grind =] theorem St.setIqueries_b_objUuids (s : St) (x : SerialMap Uuid) : (s.setIqueries x).b.objUuids = s.b.objUuids := rfl
@[simp, grind =] theorem St.setIqueries_b_objs (s : St) (x : SerialMap Uuid) : (s.setIqueries x).b.objs = s.b.objs := rfl
@[simp, grind =] theorem St.setIqueries_b_svcUuids (s : St) (x : SerialMap Uuid) : (s.setIqueries x).b.svcUuids = s.b.svcUuids := rfl
@[simp, grind =] theorem St.setIqueries_b_svcs (s : St) (x : SerialMap Uuid) : (s.setIqueries x).b.svcs = s.b.svcs := rfl
@[simp, grind =] theorem St.setIqueries_b_calls (s : St) (x : SerialMap Uuid) : (s.setIqueries x).b.calls = s.b.calls := rfl
@[simp, grind =] theorem St.setIqueries_b_channels (s : St) (x : SerialMap Uuid) : (s.setIqueries x).b.channels = s.b.channels := rfl
@[simp, grind =] theorem St.setIqueries_b_listeners (s : St) (x : SerialMap Uuid) : (s.setIqueries x).b.listeners = s.b.listeners := rfl
@[simp, grind =] theorem St.setIqueries_b_introspection (s : St) (x : SerialMap Uuid) : (s.setIqueries x).b.introspection = s.b.introspection := rfl
@[simp, grind =] theorem St.setIqueries_b_iqueries (s : St) (x : SerialMap Uuid) : (s.setIqueries x).b.iqueries = x := rfl
@[simp, grind =] theorem St.setIqueries_b_nextCookie (s : St) (x : SerialMap Uuid) : (s.setIqueries x).b.nextCookie = s.b.nextCookie := rfl
@[simp, grind =] theorem St.setIqueries_b_stats (s : St) (x : SerialMap Uuid) : (s.setIqueries x).b.stats = s.b.stats := rfl
@[simp, grind =] theorem St.setIqueries_w_shutdownNow (s : St) (x : SerialMap Uuid) : (s.setIqueries x).w.shutdownNow = s.w.shutdownNow := rfl
@[simp, grind =] theorem St.setIqueries_w_shutdownIdle (s : St) (x : SerialMap Uuid) : (s.setIqueries x).w.shutdownIdle = s.w.shutdownIdle := rfl
@[simp, grind =] theorem St.setIqueries_w_removeConns (s : St) (x : SerialMap Uuid) : (s.setIqueries x).w.removeConns = s.w.removeConns := rfl
@[simp, grind =] theorem St.setIqueries_w_servicesDestroyed (s : St) (x : SerialMap Uuid) : (s.setIqueries x).w.servicesDestroyed = s.w.servicesDestroyed := rfl
@[simp, grind =] theorem St.setIqueries_w_unsubscribeEvent (s : St) (x : SerialMap Uuid) : (s.setIqueries x).w.unsubscribeEvent = s.w.unsubscribeEvent := rfl
@[simp, grind =] theorem St.setIqueries_w_unsubscribeAll (s : St) (x : SerialMap Uuid) : (s.setIqueries x).w.unsubscribeAll = s.w.unsubscribeAll := rfl
@[simp, grind =] theorem St.setIqueries_w_createObject (s : St) (x : SerialMap Uuid) : (s.setIqueries x).w.createObject = s.w.createObject := rfl
@[simp, grind =] theorem St.setIqueries_w_destroyObject (s : St) (x : SerialMap Uuid) : (s.setIqueries x).w.destroyObject = s.w.destroyObject := rfl
@[simp, grind =] theorem St.setIqueries_w_createService (s : St) (x : SerialMap Uuid) : (s.setIqueries x).w.createService = s.w.createService := rfl
@[simp, grind =] theorem St.setIqueries_w_destroyService (s : St) (x : SerialMap Uuid) : (s.setIqueries x).w.destroyService = s.w.destroyService := rfl
@[simp, grind =] theorem St.setIqueries_out (s : St) (x : SerialMap Uuid) : (s.setIqueries x).out = s.out := rfl
@[simp, grind =] theorem St.setIqueries_w (s : St) (x : SerialMap Uuid) : (s.setIqueries x).w = s.w := rfl
@[simp, grind =] theorem St.setNextCookie_b_conns (s : St) (x : Cookie) : (s.setNextCookie x).b.conns = s.b.conns := rfl
@[simp, grind =] theorem St.setNextCookie_b_objUuids (s : St) (x : Cookie) : (s.setNextCookie x).b.objUuids = s.b.objUuids := rfl
@[simp, grind =] theorem St.setNextCookie_b_objs (s : St) (x : Cookie) : (s.setNextCookie x).b.objs = s.b.objs := rfl
@[simp, grind =] theorem St.setNextCookie_b_svcUuids (s : St) (x : Cookie) : (s.setNextCookie x).b.svcUuids = s.b.svcUuids := rfl
@[simp, grind =] theorem St.setNextCookie_b_svcs (s : St) (x : Cookie) : (s.setNextCookie x).b.svcs = s.b.svcs := rfl
@[simp, grind =] theorem St.setNextCookie_b_calls (s : St) (x : Cookie) : (s.setNextCookie x).b.calls = s.b.calls := rfl
@[simp, grind =] theorem St.setNextCookie_b_channels (s : St) (x : Cookie) : (s.setNextCookie x).b.channels = s.b.channels := rfl
@[simp, grind =] theorem St.setNextCookie_b_listeners (s : St) (x : Cookie) : (s.setNextCookie x).b.listeners = s.b.listeners := rfl
@[simp, grind =] theorem St.setNextCookie_b_introspection (s : St) (x : Cookie) : (s.setNextCookie x).b.introspection = s.b.introspection := rfl
@[simp, grind =] theorem St.setNextCookie_b_iqueries (s : St) (x : Cookie) : (s.setNextCookie x).b.iqueries = s.b.iqueries := rfl
@[simp, grind =] theorem St.setNextCookie_b_nextCookie (s : St) (x : Cookie) : (s.setNextCookie x).b.nextCookie = x := rfl
@[simp, grind =] theorem St.setNextCookie_b_stats (s : St) (x : Cookie) : (s.setNextCookie x).b.stats = s.b.stats := rfl
@[simp, grind =] theorem St.setNextCookie_w_shutdownNow (s : St) (x : Cookie) : (s.setNextCookie x).w.shutdownNow = s.w.shutdownNow := rfl
@[simp, grind =] theorem St.setNextCookie_w_shutdownIdle (s : St) (x : Cookie) : (s.setNextCookie x).w.shutdownIdle = s.w.shutdownIdle := rfl
@[simp, grind =] theorem St.setNextCookie_w_removeConns (s : St) (x : Cookie) : (s.setNextCookie x).w.removeConns = s.w.removeConns := rfl
@[simp, grind =] theorem St.setNextCookie_w_removeCalls (s : St) (x : Cookie) : (s.setNextCookie x).w.removeCalls = s.w.removeCalls := rfl
@[simp, grind =] theorem St.setNextCookie_w_servicesDestroyed (s : St) (x : Cookie) : (s.setNextCookie x).w.servicesDestroyed = s.w.servicesDestroyed := rfl
@[simp, grind =] theorem St.setNextCookie_w_unsubscribeEvent (s : St) (x : Cookie) : (s.setNextCookie x).w.unsubscribeEvent = s.w.unsubscribeEvent := rfl
@[simp, grind =] theorem St.setNextCookie_w_unsubscribeAll (s : St) (x : Cookie) : (s.setNextCookie x).w.unsubscribeAll = s.w.unsubscribeAll := rfl
@[simp, grind =] theorem St.setNextCookie_w_createObject (s : St) (x : Cookie) : (s.setNextCookie x).w.createObject = s.w.createObject := rfl
@[simp, grind =] theorem St.setNextCookie_w_destroyObject (s : St) (x : Cookie) : (s.setNextCookie x).w.destroyObject = s.w.destroyObject := rfl
@[simp, grind =] theorem St.setNextCookie_w_createService (s : St) (x : Cookie) : (s.setNextCookie x).w.createService = s.w.createService := rfl
@[simp, grind =] theorem St.setNextCookie_w_destroyService (s : St) (x : Cookie) : (s.setNextCookie x).w.destroyService = s.w.destroyService := rfl
@[simp, grind =] theorem St.setNextCookie_w_abortCalls (s : St) (x : Cookie) : (s.setNextCookie x).w.abortCalls = s.w.abortCalls := rfl
@[simp, grind =] theorem St.setNextCookie_out (s : St) (x : Cookie) : (s.setNextCookie x).out = s.out := rfl
@[simp, grind =] theorem St.setWShutdownNow_b_conns (s : St) (x : Bool) : (s.setWShutdownNow x).b.conns = s.b.conns := rfl
@[simp, grind =] theorem St.setWShutdownNow_b_objUuids (s : St) (x : Bool) : (s.setWShutdownNow x).b.objUuids = s.b.objUuids := rfl
@[simp, grind =] theorem St.setWShutdownNow_b_objs (s : St) (x : Bool) : (s.setWShutdownNow x).b.objs = s.b.objs := rfl
@[simp, grind =] theorem St.setWShutdownNow_b_svcUuids (s : St) (x : Bool) : (s.setWShutdownNow x).b.svcUuids = s.b.svcUuids := rfl
@[simp, grind =] theorem St.setWShutdownNow_b_svcs (s : St) (x : Bool) : (s.setWShutdownNow x).b.svcs = s.b.svcs := rfl
@[simp, grind =] theorem St.setWShutdownNow_b_calls (s : St) (x : Bool) : (s.setWShutdownNow x).b.calls = s.b.calls := rfl
@[simp, grind =] theorem St.setWShutdownNow_b_channels (s : St) (x : Bool) : (s.setWShutdownNow x).b.channels = s.b.channels := rfl
@[simp, grind =] theorem St.setWShutdownNow_b_listeners (s : St) (x : Bool) : (s.setWShutdownNow x).b.listeners = s.b.listeners := rfl
@[simp, grind =] theorem St.setWShutdownNow_b_introspection (s : St) (x : Bool) : (s.setWShutdownNow x).b.introspection = s.b.introspection := rfl
@[simp, grind =] theorem St.setWShutdownNow_b_iqueries (s : St) (x : Bool) : (s.setWShutdownNow x).b.iqueries = s.b.iqueries := rfl
@[simp, grind =] theorem St.setWShutdownNow_b_nextCookie (s : St) (x : Bool) : (s.setWShutdownNow x).b.nextCookie = s.b.nextCookie := rfl
@[simp, grind =] theorem St.setWShutdownNow_b_stats (s : St) (x : Bool) : (s.setWShutdownNow x).b.stats = s.b.stats := rfl
@[simp, grind =] theorem St.setWShutdownNow_w_shutdownNow (s : St) (x : Bool) : (s.setWShutdownNow x).w.shutdownNow = x := rfl
@[simp, grind =] theorem St.setWShutdownNow_w_shutdownIdle (s : St) (x : Bool) : (s.setWShutdownNow x).w.shutdownIdle = s.w.shutdownIdle := rfl
@[simp, grind =] theorem St.setWShutdownNow_w_removeConns (s : St) (x : Bool) : (s.setWShutdownNow x).w.removeConns = s.w.removeConns := rfl
@[simp, grind =] theorem St.setWShutdownNow_w_removeCalls (s : St) (x : Bool) : (s.setWShutdownNow x).w.removeCalls = s.w.removeCalls := rfl
@[simp, grind =] theorem St.setWShutdownNow_w_servicesDestroyed (s : St) (x : Bool) : (s.setWShutdownNow x).w.servicesDestroyed = s.w.servicesDestroyed := rfl
@[simp, grind =] theorem St.setWShutdownNow_w_unsubscribeEvent (s : St) (x : Bool) : (s.setWShutdownNow x).w.unsubscribeEvent = s.w.unsubscribeEvent := rfl
@[simp, grind =] theorem St.setWShutdownNow_w_unsubscribeAll (s : St) (x : Bool) : (s.setWShutdownNow x).w.unsubscribeAll = s.w.unsubscribeAll := rfl
@[simp, grind =] theorem St.setWShutdownNow_w_createObject (s : St) (x : Bool) : (s.setWShutdownNow x).w.createObject = s.w.createObject := rfl
@[simp, grind =] theorem St.setWShutdownNow_w_destroyObject (s : St) (x : Bool) : (s.setWShutdownNow x).w.destroyObject = s.w.destroyObject := rfl
@[simp, grind =] theorem St.setWShutdownNow_w_createService (s : St) (x : Bool) : (s.setWShutdownNow x).w.createService = s.w.createService := rfl
@[simp, grind =] theorem St.setWShutdownNow_w_destroyService (s : St) (x : Bool) : (s.setWShutdownNow x).w.destroyService = s.w.destroyService := rfl
@[simp, grind =] theorem St.setWShutdownNow_w_abortCalls (s : St) (x : Bool) : (s.setWShutdownNow x).w.abortCalls = s.w.abortCalls := rfl
@[simp, grind =] theorem St.setWShutdownNow_out (s : St) (x : Bool) : (s.setWShutdownNow x).out = s.out := rfl
@[simp, grind =] theorem St.setWShutdownIdle_b_conns (s : St) (x : Bool) : (s.setWShutdownIdle x).b.conns = s.b.conns := rfl
@[simp, grind =] theorem St.setWShutdownIdle_b_objUuids (s : St) (x : Bool) : (s.setWShutdownIdle x).b.objUuids = s.b.objUuids := rfl
@[simp, grind =] theorem St.setWShutdownIdle_b_objs (s : St) (x : Bool) : (s.setWShutdownIdle x).b.objs = s.b.objs := rfl
@[simp, grind =] theorem St.setWShutdownIdle_b_svcUuids (s : St) (x : Bool) : (s.setWShutdownIdle x).b.svcUuids = s.b.svcUuids := rfl
@[simp, grind =] theorem St.setWShutdownIdle_b_svcs (s : St) (x : Bool) : (s.setWShutdownIdle x).b.svcs = s.b.svcs := rfl
@[simp, grind =] theorem St.setWShutdownIdle_b_calls (s : St) (x : Bool) : (s.setWShutdownIdle x).b.calls = s.b.calls := rfl
@[simp, grind =] theorem St.setWShutdownIdle_b_channels (s : St) (x : Bool) : (s.setWShutdownIdle x).b.channels = s.b.channels := rfl
@[simp, grind =] theorem St.setWShutdownIdle_b_listeners (s : St) (x : Bool) : (s.setWShutdownIdle x).b.listeners = s.b.listeners := rfl
@[simp, grind =] theorem St.setWShutdownIdle_b_introspection (s : St) (x : Bool) : (s.setWShutdownIdle x).b.introspection = s.b.introspection := rfl
@[simp, grind =] theorem St.setWShutdownIdle_b_iqueries (s : St) (x : Bool) : (s.setWShutdownIdle x).b.iqueries = s.b.iqueries := rfl
@[simp, grind =] theorem St.setWShutdownIdle_b_nextCookie (s : St) (x : Bool) : (s.setWShutdownIdle x).b.nextCookie = s.b.nextCookie := rfl
@[simp, grind =] theorem St.setWShutdownIdle_b_stats (s : St) (x : Bool) : (s.setWShutdownIdle x).b.stats = s.b.stats := rfl
@[simp, grind =] theorem St.setWShutdownIdle_w_shutdownNow (s : St) (x : Bool) : (s.setWShutdownIdle x).w.shutdownNow = s.w.shutdownNow := rfl
@[simp, grind =] theorem St.setWShutdownIdle_w_shutdownIdle (s : St) (x : Bool) : (s.setWShutdownIdle x).w.shutdownIdle = x := rfl
@[simp, grind =] theorem St.setWShutdownIdle_w_removeConns (s : St) (x : Bool) : (s.setWShutdownIdle x).w.removeConns = s.w.removeConns := rfl
@[simp, grind =] theorem St.setWShutdownIdle_w_removeCalls (s : St) (x : Bool) : (s.setWShutdownIdle x).w.removeCalls = s.w.removeCalls := rfl
@[simp, grind =] theorem St.setWShutdownIdle_w_servicesDestroyed (s : St) (x : Bool) : (s.setWShutdownIdle x).w.servicesDestroyed = s.w.servicesDestroyed := rfl
@[simp, grind =] theorem St.setWShutdownIdle_w_unsubscribeEvent (s : St) (x : Bool) : (s.setWShutdownIdle x).w.unsubscribeEvent = s.w.unsubscribeEvent := rfl
@[simp, grind =] theorem St.setWShutdownIdle_w_unsubscribeAll (s : St) (x : Bool) : (s.setWShutdownIdle x).w.unsubscribeAll = s.w.unsubscribeAll := rfl
@[simp, grind =] theorem St.setWShutdownIdle_w_createObject (s : St) (x : Bool) : (s.setWShutdownIdle x).w.createObject = s.w.createObject := rfl
@[simp, grind =] theorem St.setWShutdownIdle_w_destroyObject (s : St) (x : Bool) : (s.setWShutdownIdle x).w.destroyObject = s.w.destroyObject := rfl
@[simp, grind =] theorem St.setWShutdownIdle_w_createService (s : St) (x : Bool) : (s.setWShutdownIdle x).w.createService = s.w.createService := rfl
@[simp, grind =] theorem St.setWShutdownIdle_w_destroyService (s : St) (x : Bool) : (s.setWShutdownIdle x).w.destroyService = s.w.destroyService := rfl
@[simp, grind =] theorem St.setWShutdownIdle_w_abortCalls (s : St) (x : Bool) : (s.setWShutdownIdle x).w.abortCalls = s.w.abortCalls := rfl
@[simp, grind =] theorem St.setWShutdownIdle_out (s : St) (x : Bool) : (s.setWShutdownIdle x).out = s.out := rfl
@[simp, grind =] theorem St.setWRemoveConns_b_conns (s : St) (x : List (ConnId × Bool)) : (s.setWRemoveConns x).b.conns = s.b.conns := rfl
@[simp, grind =] theorem St.setWRemoveConns_b_objUuids (s : St) (x : List (ConnId × Bool)) : (s.setWRemoveConns x).b.objUuids = s.b.objUuids := rfl
@[simp, grind =] theorem St.setWRemoveConns_b_objs (s : St) (x : List (ConnId × Bool)) : (s.setWRemoveConns x).b.objs = s.b.objs := rfl
@[simp, grind =] theorem St.setWRemoveConns_b_svcUuids (s : St) (x : List (ConnId × Bool)) : (s.setWRemoveConns x).b.svcUuids = s.b.svcUuids := rfl
@[simp, grind =] theorem St.setWRemoveConns_b_svcs (s : St) (x : List (ConnId × Bool)) : (s.setWRemoveConns x).b.svcs = s.b.svcs := rfl
@[simp, grind =] theorem St.setWRemoveConns_b_calls (s : St) (x : List (ConnId × Bool)) : (s.setWRemoveConns x).b.calls = s.b.calls := rfl
@[simp, grind =] theorem St.setWRemoveConns_b_channels (s : St) (x : List (ConnId × Bool)) : (s.setWRemoveConns x).b.channels = s.b.channels := rfl
@[simp, grind =] theorem St.setWRemoveConns_b_listeners (s : St) (x : List (ConnId × Bool)) : (s.setWRemoveConns x).b.listeners = s.b.listeners := rfl
@[simp, grind =] theorem St.setWRemoveConns_b_introspection (s : St) (x : List (ConnId × Bool)) : (s.setWRemoveConns x).b.introspection = s.b.introspection := rfl
@[simp, grind =] theorem St.setWRemoveConns_b_iqueries (s : St) (x : List (ConnId × Bool)) : (s.setWRemoveConns x).b.iqueries = s.b.iqueries := rfl
@[simp, grind =] theorem St.setWRemoveConns_b_nextCookie (s : St) (x : List (ConnId × Bool)) : (s.setWRemoveConns x).b.nextCookie = s.b.nextCookie := rfl
@[simp, grind =] theorem St.setWRemoveConns_b_stats (s : St) (x : List (ConnId × Bool)) : (s.setWRemoveConns x).b.stats = s.b.stats := rfl
@[simp, grind =] theorem St.setWRemoveConns_w_shutdownNow (s : St) (x : List (ConnId × Bool)) : (s.setWRemoveConns x).w.shutdownNow = s.w.shutdownNow := rfl
@[simp, grind =] theorem St.setWRemoveConns_w_shutdownIdle (s : St) (x : List (ConnId × Bool)) : (s.setWRemoveConns x).w.shutdownIdle = s.w.shutdownIdle := rfl
@[simp, grind =] theorem St.setWRemoveConns_w_removeConns (s : St) (x : List (ConnId × Bool)) : (s.setWRemoveConns x).w.removeConns = x := rfl
@[simp, grind =] theorem St.setWRemoveConns_w_removeCalls (s : St) (x : List (ConnId × Bool)) : (s.setWRemoveConns x).w.removeCalls = s.w.removeCalls := rfl
@[simp, grind =] theorem St.setWRemoveConns_w_servicesDestroyed (s : St) (x : List (ConnId × Bool)) : (s.setWRemoveConns x).w.servicesDestroyed = s.w.servicesDestroyed := rfl
@[simp, grind =] theorem St.setWRemoveConns_w_unsubscribeEvent (s : St) (x : List (ConnId × Bool)) : (s.setWRemoveConns x).w.unsubscribeEvent = s.w.unsubscribeEvent := rfl
@[simp, grind =] theorem St.setWRemoveConns_w_unsubscribeAll (s : St) (x : List (ConnId × Bool)) : (s.setWRemoveConns x).w.unsubscribeAll = s.w.unsubscribeAll := rfl
@[simp, grind =] theorem St.setWRemoveConns_w_createObject (s : St) (x : List (ConnId × Bool)) : (s.setWRemoveConns x).w.createObject = s.w.createObject := rfl
@[simp, grind =] theorem St.setWRemoveConns_w_destroyObject (s : St) (x : List (ConnId × Bool)) : (s.setWRemoveConns x).w.destroyObject = s.w.destroyObject := rfl
@[simp, grind =] theorem St.setWRemoveConns_w_createService (s : St) (x : List (ConnId × Bool)) : (s.setWRemoveConns x).w.createService = s.w.createService := rfl
@[simp, grind =] theorem St.setWRemoveConns_w_destroyService (s : St) (x : List (ConnId × Bool)) : (s.setWRemoveConns x).w.destroyService = s.w.destroyService := rfl
@[simp, grind =] theorem St.setWRemoveConns_w_abortCalls (s : St) (x : List (ConnId × Bool)) : (s.setWRemoveConns x).w.abortCalls = s.w.abortCalls := rfl
@[simp, grind =] theorem St.setWRemoveConns_out (s : St) (x : List (ConnId × Bool)) : (s.setWRemoveConns x).out = s.out := rfl
@[simp, grind =] theorem St.setWRemoveCalls_b_conns (s : St) (x : List (Nat × ConnId × CallResult)) : (s.setWRemoveCalls x).b.conns = s.b.conns := rfl
@[simp, grind =] theorem St.setWRemoveCalls_b_objUuids (s : St) (x : List (Nat × ConnId × CallResult)) : (s.setWRemoveCalls x).b.objUuids = s.b.objUuids := rfl
@[simp, grind =] theorem St.setWRemoveCalls_b_objs (s : St) (x : List (Nat × ConnId × CallResult)) : (s.setWRemoveCalls x).b.objs = s.b.objs := rfl
@[simp, grind =] theorem St.setWRemoveCalls_b_svcUuids (s : St) (x : List (Nat × ConnId × CallResult)) : (s.setWRemoveCalls x).b.svcUuids = s.b.svcUuids := rfl
@[simp, grind =] theorem St.setWRemoveCalls_b_svcs (s : St) (x : List (Nat × ConnId × CallResult)) : (s.setWRemoveCalls x).b.svcs = s.b.svcs := rfl
@[simp, grind =] theorem St.setWRemoveCalls_b_calls (s : St) (x : List (Nat × ConnId × CallResult)) : (s.setWRemoveCalls x).b.calls = s.b.calls := rfl
@[simp, grind =] theorem St.setWRemoveCalls_b_channels (s : St) (x : List (Nat × ConnId × CallResult)) : (s.setWRemoveCalls x).b.channels = s.b.channels := rfl
@[simp, grind =] theorem St.setWRemoveCalls_b_listeners (s : St) (x : List (Nat × ConnId × CallResult)) : (s.setWRemoveCalls x).b.listeners = s.b.listeners := rfl
@[simp, grind =] theorem St.setWRemoveCalls_b_introspection (s : St) (x : List (Nat × ConnId × CallResult)) : (s.setWRemoveCalls x).b.introspection = s.b.introspection := rfl
@[simp, grind =] theorem St.setWRemoveCalls_b_iqueries (s : St) (x : List (Nat × ConnId × CallResult)) : (s.setWRemoveCalls x).b.iqueries = s.b.iqueries := rfl
@[simp, grind =] theorem St.setWRemoveCalls_b_nextCookie (s : St) (x : List (Nat × ConnId × CallResult)) : (s.setWRemoveCalls x).b.nextCookie = s.b.nextCookie := rfl
@[simp, grind =] theorem St.setWRemoveCalls_b_stats (s : St) (x : List (Nat × ConnId × CallResult)) : (s.setWRemoveCalls x).b.stats = s.b.stats := rfl
@[simp, grind =] theorem St.setWRemoveCalls_w_shutdownNow (s : St) (x : List (Nat × ConnId × CallResult)) : (s.setWRemoveCalls x).w.shutdownNow = s.w.shutdownNow := rfl
@[simp, grind =] theorem St.setWRemoveCalls_w_shutdownIdle (s : St) (x : List (Nat × ConnId × CallResult)) : (s.setWRemoveCalls x).w.shutdownIdle = s.w.shutdownIdle := rfl
@[simp, grind =] theorem St.setWRemoveCalls_w_removeConns (s : St) (x : List (Nat × ConnId × CallResult)) : (s.setWRemoveCalls x).w.removeConns = s.w.removeConns := rfl
@[simp, grind =] theorem St.setWRemoveCalls_w_removeCalls (s : St) (x : List (Nat × ConnId × CallResult)) : (s.setWRemoveCalls x).w.removeCalls = x := rfl
@[simp, grind =] theorem St.setWRemoveCalls_w_servicesDestroyed (s : St) (x : List (Nat × ConnId × CallResult)) : (s.setWRemoveCalls x).w.servicesDestroyed = s.w.servicesDestroyed := rfl
@[simp, grind =] theorem St.setWRemoveCalls_w_unsubscribeEvent (s : St) (x : List (Nat × ConnId × CallResult)) : (s.setWRemoveCalls x).w.unsubscribeEvent = s.w.unsubscribeEvent := rfl
@[simp, grind =] theorem St.setWRemoveCalls_w_unsubscribeAll (s : St) (x : List (Nat × ConnId × CallResult)) : (s.setWRemoveCalls x).w.unsubscribeAll = s.w.unsubscribeAll := rfl
@[simp, grind =] theorem St.setWRemoveCalls_w_createObject (s : St) (x : List (Nat × ConnId × CallResult)) : (s.setWRemoveCalls x).w.createObject = s.w.createObject := rfl
@[simp, grind =] theorem St.setWRemoveCalls_w_destroyObject (s : St) (x : List (Nat × ConnId × CallResult)) : (s.setWRemoveCalls x).w.destroyObject = s.w.destroyObject := rfl
@[simp, grind =] theorem St.setWRemoveCalls_w_createService (s : St) (x : List (Nat × ConnId × CallResult)) : (s.setWRemoveCalls x).w.createService = s.w.createService := rfl
@[simp, grind =] theorem St.setWRemoveCalls_w_destroyService (s : St) (x : List (Nat × ConnId × CallResult)) : (s.setWRemoveCalls x).w.destroyService = s.w.destroyService := rfl
@[simp, grind =] theorem St.setWRemoveCalls_w_abortCalls (s : St) (x : List (Nat × ConnId × CallResult)) : (s.setWRemoveCalls x).w.abortCalls = s.w.abortCalls := rfl
@[simp, grind =] theorem St.setWRemoveCalls_out (s : St) (x : List (Nat × ConnId × CallResult)) : (s.setWRemoveCalls x).out = s.out := rfl
@[simp, grind =] theorem St.setWServicesDestroyed_b_conns (s : St) (x : List (ConnId × Cookie)) : (s.setWServicesDestroyed x).b.conns = s.b.conns := rfl
@[simp, grind =] theorem St.setWServicesDestroyed_b_objUuids (s : St) (x : List (ConnId × Cookie)) : (s.setWServicesDestroyed x).b.objUuids = s.b.objUuids := rfl
@[simp, grind =] theorem St.setWServicesDestroyed_b_objs (s : St) (x : List (ConnId × Cookie)) : (s.setWServicesDestroyed x).b.objs = s.b.objs := rfl
@[simp, grind =] theorem St.setWServicesDestroyed_b_svcUuids (s : St) (x : List (ConnId × Cookie)) : (s.setWServicesDestroyed x).b.svcUuids = s.b.svcUuids := rfl
@[simp, grind =] theorem St.setWServicesDestroyed_b_svcs (s : St) (x : List (ConnId × Cookie)) : (s.setWServicesDestroyed x).b.svcs = s.b.svcs := rfl
@[simp, grind =] theorem St.setWServicesDestroyed_b_calls (s : St) (x : List (ConnId × Cookie)) : (s.setWServicesDestroyed x).b.calls = s.b.calls := rfl
@[simp, grind =] theorem St.setWServicesDestroyed_b_channels (s : St) (x : List (ConnId × Cookie)) : (s.setWServicesDestroyed x).b.channels = s.b.channels := rfl
@[simp, grind =] theorem St.setWServicesDestroyed_b_listeners (s : St) (x : List (ConnId × Cookie)) : (s.setWServicesDestroyed x).b.listeners = s.b.listeners := rfl
@[simp, grind =] theorem St.setWServicesDestroyed_b_introspection (s : St) (x : List (ConnId × Cookie)) : (s.setWServicesDestroyed x).b.introspection = s.b.introspection := rfl
@[simp, grind =] theorem St.setWServicesDestroyed_b_iqueries (s : St) (x : List (ConnId × Cookie)) : (s.setWServicesDestroyed x).b.iqueries = s.b.iqueries := rfl
@[simp, grind =] theorem St.setWServicesDestroyed_b_nextCookie (s : St) (x : List (ConnId × Cookie)) : (s.setWServicesDestroyed x).b.nextCookie = s.b.nextCookie := rfl
@[simp, grind =] theorem St.setWServicesDestroyed_b_stats (s : St) (x : List (ConnId × Cookie)) : (s.setWServicesDestroyed x).b.stats = s.b.stats := rfl
@[simp, grind =] theorem St.setWServicesDestroyed_w_shutdownNow (s : St) (x : List (ConnId × Cookie)) : (s.setWServicesDestroyed x).w.shutdownNow = s.w.shutdownNow := rfl
@[simp, grind =] theorem St.setWServicesDestroyed_w_shutdownIdle (s : St) (x : List (ConnId × Cookie)) : (s.setWServicesDestroyed x).w.shutdownIdle = s.w.shutdownIdle := rfl
@[simp, grind =] theorem St.setWServicesDestroyed_w_removeConns (s : St) (x : List (ConnId × Cookie)) : (s.setWServicesDestroyed x).w.removeConns = s.w.removeConns := rfl
@[simp, grind =] theorem St.setWServicesDestroyed_w_removeCalls (s : St) (x : List (ConnId × Cookie)) : (s.setWServicesDestroyed x).w.removeCalls = s.w.removeCalls := rfl
@[simp, grind =] theorem St.setWServicesDestroyed_w_servicesDestroyed (s : St) (x : List (ConnId × Cookie)) : (s.setWServicesDestroyed x).w.servicesDestroyed = x := rfl
@[simp, grind =] theorem St.setWServicesDestroyed_w_unsubscribeEvent (s : St) (x : List (ConnId × Cookie)) : (s.setWServicesDestroyed x).w.unsubscribeEvent = s.w.unsubscribeEvent := rfl
@[simp, grind =] theorem St.setWServicesDestroyed_w_unsubscribeAll (s : St) (x : List (ConnId × Cookie)) : (s.setWServicesDestroyed x).w.unsubscribeAll = s.w.unsubscribeAll := rfl
@[simp, grind =] theorem St.setWServicesDestroyed_w_createObject (s : St) (x : List (ConnId × Cookie)) : (s.setWServicesDestroyed x).w.createObject = s.w.createObject := rfl
@[simp, grind =] theorem St.setWServicesDestroyed_w_destroyObject (s : St) (x : List (ConnId × Cookie)) : (s.setWServicesDestroyed x).w.destroyObject = s.w.destroyObject := rfl
@[simp, grind =] theorem St.setWServicesDestroyed_w_createService (s : St) (x : List (ConnId × Cookie)) : (s.setWServicesDestroyed x).w.createService = s.w.createService := rfl
@[simp, grind =] theorem St.setWServicesDestroyed_w_destroyService (s : St) (x : List (ConnId × Cookie)) : (s.setWServicesDestroyed x).w.destroyService = s.w.destroyService := rfl
@[simp, grind =] theorem St.setWServicesDestroyed_w_abortCalls (s : St) (x : List (ConnId × Cookie)) : (s.setWServicesDestroyed x).w.abortCalls = s.w.abortCalls := rfl
@[simp, grind =] theorem St.setWServicesDestroyed_out (s : St) (x : List (ConnId × Cookie)) : (s.setWServicesDestroyed x).out = s.out := rfl
@[simp, grind =] theorem St.setWUnsubscribeEvent_b_introspection (s : St) (x : List (ConnId × Cookie × Nat)) : (s.setWUnsubscribeEvent x).b.introspection = s.b.introspection := rfl
@[simp, grind =] theorem St.setWUnsubscribeEvent_b_iqueries (s : St) (x : List (ConnId × Cookie × Nat)) : (s.setWUnsubscribeEvent x).b.iqueries = s.b.iqueries := rfl
@[simp, grind =] theorem St.setWUnsubscribeEvent_w_shutdownNow (s : St) (x : List (ConnId × Cookie × Nat)) : (s.setWUnsubscribeEvent x).w.shutdownNow = s.w.shutdownNow := rfl
@[simp, grind =] theorem St.setWUnsubscribeEvent_w_shutdownIdle (s : St) (x : List (ConnId × Cookie × Nat)) : (s.setWUnsubscribeEvent x).w.shutdownIdle = s.w.shutdownIdle := rfl
@[simp, grind =] theorem St.setWUnsubscribeEvent_w_removeConns (s : St) (x : List (ConnId × Cookie × Nat)) : (s.setWUnsubscribeEvent x).w.removeConns = s.w.removeConns := rfl
@[simp, grind =] theorem St.setWUnsubscribeEvent_w_removeCalls (s : St) (x : List (ConnId × Cookie × Nat)) : (s.setWUnsubscribeEvent x).w.removeCalls = s.w.removeCalls := rfl
@[simp, grind =] theorem St.setWUnsubscribeEvent_w_servicesDestroyed (s : St) (x : List (ConnId × Cookie × Nat)) : (s.setWUnsubscribeEvent x).w.servicesDestroyed = s.w.servicesDestroyed := rfl
@[simp, grind =] theorem St.setWUnsubscribeEvent_w_unsubscribeEvent (s : St) (x : List (ConnId × Cookie × Nat)) : (s.setWUnsubscribeEvent x).w.unsubscribeEvent = x := rfl
@[simp, grind =] theorem St.setWUnsubscribeEvent_w_unsubscribeAll (s : St) (x : List (ConnId × Cookie × Nat)) : (s.setWUnsubscribeEvent x).w.unsubscribeAll = s.w.unsubscribeAll := rfl
@[simp, grind =] theorem St.setWUnsubscribeEvent_w_createObject (s : St) (x : List (ConnId × Cookie × Nat)) : (s.setWUnsubscribeEvent x).w.createObject = s.w.createObject := rfl
@[simp, grind =] theorem St.setWUnsubscribeEvent_w_destroyObject (s : St) (x : List (ConnId × Cookie × Nat)) : (s.setWUnsubscribeEvent x).w.destroyObject = s.w.destroyObject := rfl
@[simp, grind =] theorem St.setWUnsubscribeEvent_w_createService (s : St) (x : List (ConnId × Cookie × Nat)) : (s.setWUnsubscribeEvent x).w.createService = s.w.createService := rfl
@[simp, grind =] theorem St.setWUnsubscribeEvent_w_destroyService (s : St) (x : List (ConnId × Cookie × Nat)) : (s.setWUnsubscribeEvent x).w.destroyService = s.w.destroyService := rfl
@[simp, grind =] theorem St.setWUnsubscribeEvent_w_abortCalls (s : St) (x : List (ConnId × Cookie × Nat)) : (s.setWUnsubscribeEvent x).w.abortCalls = s.w.abortCalls := rfl
@[simp, grind =] theorem St.setWUnsubscribeEvent_out (s : St) (x : List (ConnId × Cookie × Nat)) : (s.setWUnsubscribeEvent x).out = s.out := rfl
@[simp, grind =] theorem St.setWUnsubscribeEvent_b (s : St) (x : List (ConnId × Cookie × Nat)) : (s.setWUnsubscribeEvent x).b = s.b := rfl
@[simp, grind =] theorem St.setWUnsubscribeAll_b_introspection (s : St) (x : List (ConnId × Cookie)) : (s.setWUnsubscribeAll x).b.introspection = s.b.introspection := rfl
@[simp, grind =] theorem St.setWUnsubscribeAll_b_iqueries (s : St) (x : List (ConnId × Cookie)) : (s.setWUnsubscribeAll x).b.iqueries = s.b.iqueries := rfl
@[simp, grind =] theorem St.setWUnsubscribeAll_w_shutdownNow (s : St) (x : List (ConnId × Cookie)) : (s.setWUnsubscribeAll x).w.shutdownNow = s.w.shutdownNow := rfl
@[simp, grind =] theorem St.setWUnsubscribeAll_w_shutdownIdle (s : St) (x : List (ConnId × Cookie)) : (s.setWUnsubscribeAll x).w.shutdownIdle = s.w.shutdownIdle := rfl
@[simp, grind =] theorem St.setWUnsubscribeAll_w_removeConns (s : St) (x : List (ConnId × Cookie)) : (s.setWUnsubscribeAll x).w.removeConns = s.w.removeConns := rfl
@[simp, grind =] theorem St.setWUnsubscribeAll_w_removeCalls (s : St) (x : List (ConnId × Cookie)) : (s.setWUnsubscribeAll x).w.removeCalls = s.w.removeCalls := rfl
@[simp, grind =] theorem St.setWUnsubscribeAll_w_servicesDestroyed (s : St) (x : List (ConnId × Cookie)) : (s.setWUnsubscribeAll x).w.servicesDestroyed = s.w.servicesDestroyed := rfl
@[simp, grind =] theorem St.setWUnsubscribeAll_w_unsubscribeEvent (s : St) (x : List (ConnId × Cookie)) : (s.setWUnsubscribeAll x).w.unsubscribeEvent = s.w.unsubscribeEvent := rfl
@[simp, grind =] theorem St.setWUnsubscribeAll_w_unsubscribeAll (s : St) (x : List (ConnId × Cookie)) : (s.setWUnsubscribeAll x).w.unsubscribeAll = x := rfl
@[simp, grind =] theorem St.setWUnsubscribeAll_w_createObject (s : St) (x : List (ConnId × Cookie)) : (s.setWUnsubscribeAll x).w.createObject = s.w.createObject := rfl
@[simp, grind =] theorem St.setWUnsubscribeAll_w_destroyObject (s : St) (x : List (ConnId × Cookie)) : (s.setWUnsubscribeAll x).w.destroyObject = s.w.destroyObject := rfl
@[simp, grind =] theorem St.setWUnsubscribeAll_w_createService (s : St) (x : List (ConnId × Cookie)) : (s.setWUnsubscribeAll x).w.createService = s.w.createService := rfl
@[simp, grind =] theorem St.setWUnsubscribeAll_w_destroyService (s : St) (x : List (ConnId × Cookie)) : (s.setWUnsubscribeAll x).w.destroyService = s.w.destroyService := rfl
@[simp, grind =] theorem St.setWUnsubscribeAll_w_abortCalls (s : St) (x : List (ConnId × Cookie)) : (s.setWUnsubscribeAll x).w.abortCalls = s.w.abortCalls := rfl
@[simp, grind =] theorem St.setWUnsubscribeAll_out (s : St) (x : List (ConnId × Cookie)) : (s.setWUnsubscribeAll x).out = s.out := rfl
@[simp, grind =] theorem St.setWUnsubscribeAll_b (s : St) (x : List (ConnId × Cookie)) : (s.setWUnsubscribeAll x).b = s.b := rfl
@[simp, grind =] theorem St.setWCreateObject_b_conns (s : St) (x : List ObjId) : (s.setWCreateObject x).b.conns = s.b.conns := rfl
@[simp, grind =] theorem St.setWCreateObject_b_objUuids (s : St) (x : List ObjId) : (s.setWCreateObject x).b.objUuids = s.b.objUuids := rfl
@[simp, grind =] theorem St.setWCreateObject_b_objs (s : St) (x : List ObjId) : (s.setWCreateObject x).b.objs = s.b.objs := rfl
@[simp, grind =] theorem St.setWCreateObject_b_svcUuids (s : St) (x : List ObjId) : (s.setWCreateObject x).b.svcUuids = s.b.svcUuids := rfl
@[simp, grind =] theorem St.setWCreateObject_b_svcs (s : St) (x : List ObjId) : (s.setWCreateObject x).b.svcs = s.b.svcs := rfl
@[simp, grind =] theorem St.setWCreateObject_b_introspection (s : St) (x : List ObjId) : (s.setWCreateObject x).b.introspection = s.b.introspection := rfl
@[simp, grind =] theorem St.setWCreateObject_b_iqueries (s : St) (x : List ObjId) : (s.setWCreateObject x).b.iqueries = s.b.iqueries := rfl
@[simp, grind =] theorem St.setWCreateObject_w_shutdownNow (s : St) (x : List ObjId) : (s.setWCreateObject x).w.shutdownNow = s.w.shutdownNow := rfl
@[simp, grind =] theorem St.setWCreateObject_w_shutdownIdle (s : St) (x : List ObjId) : (s.setWCreateObject x).w.shutdownIdle = s.w.shutdownIdle := rfl
@[simp, grind =] theorem St.setWCreateObject_w_removeConns (s : St) (x : List ObjId) : (s.setWCreateObject x).w.removeConns = s.w.removeConns := rfl
@[simp, grind =] theorem St.setWCreateObject_w_removeCalls (s : St) (x : List ObjId) : (s.setWCreateObject x).w.removeCalls = s.w.removeCalls := rfl
@[simp, grind =] theorem St.setWCreateObject_w_servicesDestroyed (s : St) (x : List ObjId) : (s.setWCreateObject x).w.servicesDestroyed = s.w.servicesDestroyed := rfl
@[simp, grind =] theorem St.setWCreateObject_w_unsubscribeEvent (s : St) (x : List ObjId) : (s.setWCreateObject x).w.unsubscribeEvent = s.w.unsubscribeEvent := rfl
@[simp, grind =] theorem St.setWCreateObject_w_unsubscribeAll (s : St) (x : List ObjId) : (s.setWCreateObject x).w.unsubscribeAll = s.w.unsubscribeAll := rfl
@[simp, grind =] theorem St.setWCreateObject_w_createObject (s : St) (x : List ObjId) : (s.setWCreateObject x).w.createObject = x := rfl
@[simp, grind =] theorem St.setWCreateObject_w_destroyObject (s : St) (x : List ObjId) : (s.setWCreateObject x).w.destroyObject = s.w.destroyObject := rfl
@[simp, grind =] theorem St.setWCreateObject_w_createService (s : St) (x : List ObjId) : (s.setWCreateObject x).w.createService = s.w.createService := rfl
@[simp, grind =] theorem St.setWCreateObject_w_destroyService (s : St) (x : List ObjId) : (s.setWCreateObject x).w.destroyService = s.w.destroyService := rfl
@[simp, grind =] theorem St.setWCreateObject_w_abortCalls (s : St) (x : List ObjId) : (s.setWCreateObject x).w.abortCalls = s.w.abortCalls := rfl
@[simp, grind =] theorem St.setWCreateObject_out (s : St) (x : List ObjId) : (s.setWCreateObject x).out = s.out := rfl
@[simp, grind =] theorem St.setWCreateObject_b (s : St) (x : List ObjId) : (s.setWCreateObject x).b = s.b := rfl
@[simp, grind =] theorem St.setWDestroyObject_b_conns (s : St) (x : List ObjId) : (s.setWDestroyObject x).b.conns = s.b.conns := rfl
@[simp, grind =] theorem St.setWDestroyObject_b_objUuids (s : St) (x : List ObjId) : (s.setWDestroyObject x).b.objUuids = s.b.objUuids := rfl
@[simp, grind =] theorem St.setWDestroyObject_b_objs (s : St) (x : List ObjId) : (s.setWDestroyObject x).b.objs = s.b.objs := rfl
@[simp, grind =] theorem St.setWDestroyObject_b_svcUuids (s : St) (x : List ObjId) : (s.setWDestroyObject x).b.svcUuids = s.b.svcUuids := rfl
@[simp, grind =] theorem St.setWDestroyObject_b_svcs (s : St) (x : List ObjId) : (s.setWDestroyObject x).b.svcs = s.b.svcs := rfl
@[simp, grind =] theorem St.setWDestroyObject_b_calls (s : St) (x : List ObjId) : (s.setWDestroyObject x).b.calls = s.b.calls := rfl
@[simp, grind =] theorem St.setWDestroyObject_b_channels (s : St) (x : List ObjId) : (s.setWDestroyObject x).b.channels = s.b.channels := rfl
@[simp, grind =] theorem St.setWDestroyObject_b_listeners (s : St) (x : List ObjId) : (s.setWDestroyObject x).b.listeners = s.b.listeners := rfl
@[simp, grind =] theorem St.setWDestroyObject_b_introspection (s : St) (x : List ObjId) : (s.setWDestroyObject x).b.introspection = s.b.introspection := rfl
@[simp, grind =] theorem St.setWDestroyObject_b_iqueries (s : St) (x : List ObjId) : (s.setWDestroyObject x).b.iqueries = s.b.iqueries := rfl
@[simp, grind =] theorem St.setWDestroyObject_b_nextCookie (s : St) (x : List ObjId) : (s.setWDestroyObject x).b.nextCookie = s.b.nextCookie := rfl
@[simp, grind =] theorem St.setWDestroyObject_b_stats (s : St) (x : List ObjId) : (s.setWDestroyObject x).b.stats = s.b.stats := rfl
@[simp, grind =] theorem St.setWDestroyObject_w_shutdownNow (s : St) (x : List ObjId) : (s.setWDestroyObject x).w.shutdownNow = s.w.shutdownNow := rfl
@[simp, grind =] theorem St.setWDestroyObject_w_shutdownIdle (s : St) (x : List ObjId) : (s.setWDestroyObject x).w.shutdownIdle = s.w.shutdownIdle := rfl
@[simp, grind =] theorem St.setWDestroyObject_w_removeConns (s : St) (x : List ObjId) : (s.setWDestroyObject x).w.removeConns = s.w.removeConns := rfl
@[simp, grind =] theorem St.setWDestroyObject_w_removeCalls (s : St) (x : List ObjId) : (s.setWDestroyObject x).w.removeCalls = s.w.removeCalls := rfl
@[simp, grind =] theorem St.setWDestroyObject_w_servicesDestroyed (s : St) (x : List ObjId) : (s.setWDestroyObject x).w.servicesDestroyed = s.w.servicesDestroyed := rfl
@[simp, grind =] theorem St.setWDestroyObject_w_unsubscribeEvent (s : St) (x : List ObjId) : (s.setWDestroyObject x).w.unsubscribeEvent = s.w.unsubscribeEvent := rfl
@[simp, grind =] theorem St.setWDestroyObject_w_unsubscribeAll (s : St) (x : List ObjId) : (s.setWDestroyObject x).w.unsubscribeAll = s.w.unsubscribeAll := rfl
@[simp, grind =] theorem St.setWDestroyObject_w_createObject (s : St) (x : List ObjId) : (s.setWDestroyObject x).w.createObject = s.w.createObject := rfl
@[simp, grind =] theorem St.setWDestroyObject_w_destroyObject (s : St) (x : List ObjId) : (s.setWDestroyObject x).w.destroyObject = x := rfl
@[simp, grind =] theorem St.setWDestroyObject_w_createService (s : St) (x : List ObjId) : (s.setWDestroyObject x).w.createService = s.w.createService := rfl
@[simp, grind =] theorem St.setWDestroyObject_w_destroyService (s : St) (x : List ObjId) : (s.setWDestroyObject x).w.destroyService = s.w.destroyService := rfl
@[simp, grind =] theorem St.setWDestroyObject_w_abortCalls (s : St) (x : List ObjId) : (s.setWDestroyObject x).w.abortCalls = s.w.abortCalls := rfl
@[simp, grind =] theorem St.setWDestroyObject_out (s : St) (x : List ObjId) : (s.setWDestroyObject x).out = s.out := rfl
@[simp, grind =] theorem St.setWCreateService_b_conns (s : St) (x : List SvcId) : (s.setWCreateService x).b.conns = s.b.conns := rfl
@[simp, grind =] theorem St.setWCreateService_b_objUuids (s : St) (x : List SvcId) : (s.setWCreateService x).b.objUuids = s.b.objUuids := rfl
@[simp, grind =] theorem St.setWCreateService_b_objs (s : St) (x : List SvcId) : (s.setWCreateService x).b.objs = s.b.objs := rfl
@[simp, grind =] theorem St.setWCreateService_b_svcUuids (s : St) (x : List SvcId) : (s.setWCreateService x).b.svcUuids = s.b.svcUuids := rfl
@[simp, grind =] theorem St.setWCreateService_b_svcs (s : St) (x : List SvcId) : (s.setWCreateService x).b.svcs = s.b.svcs := rfl
@[simp, grind =] theorem St.setWCreateService_b_introspection (s : St) (x : List SvcId) : (s.setWCreateService x).b.introspection = s.b.introspection := rfl
@[simp, grind =] theorem St.setWCreateService_b_iqueries (s : St) (x : List SvcId) : (s.setWCreateService x).b.iqueries = s.b.iqueries := rfl
@[simp, grind =] theorem St.setWCreateService_w_shutdownNow (s : St) (x : List SvcId) : (s.setWCreateService x).w.shutdownNow = s.w.shutdownNow := rfl
@[simp, grind =] theorem St.setWCreateService_w_shutdownIdle (s : St) (x : List SvcId) : (s.setWCreateService x).w.shutdownIdle = s.w.shutdownIdle := rfl
@[simp, grind =] theorem St.setWCreateService_w_removeConns (s : St) (x : List SvcId) : (s.setWCreateService x).w.removeConns = s.w.removeConns := rfl
@[simp, grind =] theorem St.setWCreateService_w_removeCalls (s : St) (x : List SvcId) : (s.setWCreateService x).w.removeCalls = s.w.removeCalls := rfl
@[simp, grind =] theorem St.setWCreateService_w_servicesDestroyed (s : St) (x : List SvcId) : (s.setWCreateService x).w.servicesDestroyed = s.w.servicesDestroyed := rfl
@[simp, grind =] theorem St.setWCreateService_w_unsubscribeEvent (s : St) (x : List SvcId) : (s.setWCreateService x).w.unsubscribeEvent = s.w.unsubscribeEvent := rfl
@[simp, grind =] theorem St.setWCreateService_w_unsubscribeAll (s : St) (x : List SvcId) : (s.setWCreateService x).w.unsubscribeAll = s.w.unsubscribeAll := rfl
@[simp, grind =] theorem St.setWCreateService_w_createObject (s : St) (x : List SvcId) : (s.setWCreateService x).w.createObject = s.w.createObject := rfl
@[simp, grind =] theorem St.setWCreateService_w_destroyObject (s : St) (x : List SvcId) : (s.setWCreateService x).w.destroyObject = s.w.destroyObject := rfl
@[simp, grind =] theorem St.setWCreateService_w_createService (s : St) (x : List SvcId) : (s.setWCreateService x).w.createService = x := rfl
@[simp, grind =] theorem St.setWCreateService_w_destroyService (s : St) (x : List SvcId) : (s.setWCreateService x).w.destroyService = s.w.destroyService := rfl
@[simp, grind =] theorem St.setWCreateService_w_abortCalls (s : St) (x : List SvcId) : (s.setWCreateService x).w.abortCalls = s.w.abortCalls := rfl
@[simp, grind =] theorem St.setWCreateService_out (s : St) (x : List SvcId) : (s.setWCreateService x).out = s.out := rfl
@[simp, grind =] theorem St.setWCreateService_b (s : St) (x : List SvcId) : (s.setWCreateService x).b = s.b := rfl
@[simp, grind =] theorem St.setWDestroyService_b_conns (s : St) (x : List SvcId) : (s.setWDestroyService x).b.conns = s.b.conns := rfl
@[simp, grind =] theorem St.setWDestroyService_b_objUuids (s : St) (x : List SvcId) : (s.setWDestroyService x).b.objUuids = s.b.objUuids := rfl
@[simp, grind =] theorem St.setWDestroyService_b_objs (s : St) (x : List SvcId) : (s.setWDestroyService x).b.objs = s.b.objs := rfl
@[simp, grind =] theorem St.setWDestroyService_b_svcUuids (s : St) (x : List SvcId) : (s.setWDestroyService x).b.svcUuids = s.b.svcUuids := rfl
@[simp, grind =] theorem St.setWDestroyService_b_svcs (s : St) (x : List SvcId) : (s.setWDestroyService x).b.svcs = s.b.svcs := rfl
@[simp, grind =] theorem St.setWDestroyService_b_calls (s : St) (x : List SvcId) : (s.setWDestroyService x).b.calls = s.b.calls := rfl
@[simp, grind =] theorem St.setWDestroyService_b_channels (s : St) (x : List SvcId) : (s.setWDestroyService x).b.channels = s.b.channels := rfl
@[simp, grind =] theorem St.setWDestroyService_b_listeners (s : St) (x : List SvcId) : (s.setWDestroyService x).b.listeners = s.b.listeners := rfl
@[simp, grind =] theorem St.setWDestroyService_b_introspection (s : St) (x : List SvcId) : (s.setWDestroyService x).b.introspection = s.b.introspection := rfl
@[simp, grind =] theorem St.setWDestroyService_b_iqueries (s : St) (x : List SvcId) : (s.setWDestroyService x).b.iqueries = s.b.iqueries := rfl
@[simp, grind =] theorem St.setWDestroyService_b_nextCookie (s : St) (x : List SvcId) : (s.setWDestroyService x).b.nextCookie = s.b.nextCookie := rfl
@[simp, grind =] theorem St.setWDestroyService_b_stats (s : St) (x : List SvcId) : (s.setWDestroyService x).b.stats = s.b.stats := rfl
@[simp, grind =] theorem St.setWDestroyService_w_shutdownNow (s : St) (x : List SvcId) : (s.setWDestroyService x).w.shutdownNow = s.w.shutdownNow := rfl
@[simp, grind =] theorem St.setWDestroyService_w_shutdownIdle (s : St) (x : List SvcId) : (s.setWDestroyService x).w.shutdownIdle = s.w.shutdownIdle := rfl
@[simp, grind =] theorem St.setWDestroyService_w_removeConns (s : St) (x : List SvcId) : (s.setWDestroyService x).w.removeConns = s.w.removeConns := rfl
@[simp, grind =] theorem St.setWDestroyService_w_removeCalls (s : St) (x : List SvcId) : (s.setWDestroyService x).w.removeCalls = s.w.removeCalls := rfl
@[simp, grind =] theorem St.setWDestroyService_w_servicesDestroyed (s : St) (x : List SvcId) : (s.setWDestroyService x).w.servicesDestroyed = s.w.servicesDestroyed := rfl
@[simp, grind =] theorem St.setWDestroyService_w_unsubscribeEvent (s : St) (x : List SvcId) : (s.setWDestroyService x).w.unsubscribeEvent = s.w.unsubscribeEvent := rfl
@[simp, grind =] theorem St.setWDestroyService_w_unsubscribeAll (s : St) (x : List SvcId) : (s.setWDestroyService x).w.unsubscribeAll = s.w.unsubscribeAll := rfl
@[simp, grind =] theorem St.setWDestroyService_w_createObject (s : St) (x : List SvcId) : (s.setWDestroyService x).w.createObject = s.w.createObject := rfl
@[simp, grind =] theorem St.setWDestroyService_w_destroyObject (s : St) (x : List SvcId) : (s.setWDestroyService x).w.destroyObject = s.w.destroyObject := rfl
@[simp, grind =] theorem St.setWDestroyService_w_createService (s : St) (x : List SvcId) : (s.setWDestroyService x).w.createService = s.w.createService := rfl
@[simp, grind =] theorem St.setWDestroyService_w_destroyService (s : St) (x : List SvcId) : (s.setWDestroyService x).w.destroyService = x := rfl
@[simp, grind =] theorem St.setWDestroyService_w_abortCalls (s : St) (x : List SvcId) : (s.setWDestroyService x).w.abortCalls = s.w.abortCalls := rfl
@[simp, grind =] theorem St.setWDestroyService_out (s : St) (x : List SvcId) : (s.setWDestroyService x).out = s.out := rfl
@[simp, grind =] theorem St.setWAbortCalls_b_calls (s : St) (x : List (Nat × ConnId)) : (s.setWAbortCalls x).b.calls = s.b.calls := rfl
@[simp, grind =] theorem St.setWAbortCalls_b_introspection (s : St) (x : List (Nat × ConnId)) : (s.setWAbortCalls x).b.introspection = s.b.introspection := rfl
@[simp, grind =] theorem St.setWAbortCalls_b_iqueries (s : St) (x : List (Nat × ConnId)) : (s.setWAbortCalls x).b.iqueries = s.b.iqueries := rfl
@[simp, grind =] theorem St.setWAbortCalls_w_shutdownNow (s : St) (x : List (Nat × ConnId)) : (s.setWAbortCalls x).w.shutdownNow = s.w.shutdownNow := rfl
@[simp, grind =] theorem St.setWAbortCalls_w_shutdownIdle (s : St) (x : List (Nat × ConnId)) : (s.setWAbortCalls x).w.shutdownIdle = s.w.shutdownIdle := rfl
@[simp, grind =] theorem St.setWAbortCalls_w_removeConns (s : St) (x : List (Nat × ConnId)) : (s.setWAbortCalls x).w.removeConns = s.w.removeConns := rfl
@[simp, grind =] theorem St.setWAbortCalls_w_removeCalls (s : St) (x : List (Nat × ConnId)) : (s.setWAbortCalls x).w.removeCalls = s.w.removeCalls := rfl
@[simp, grind =] theorem St.setWAbortCalls_w_servicesDestroyed (s : St) (x : List (Nat × ConnId)) : (s.setWAbortCalls x).w.servicesDestroyed = s.w.servicesDestroyed := rfl
@[simp, grind =] theorem St.setWAbortCalls_w_unsubscribeEvent (s : St) (x : List (Nat × ConnId)) : (s.setWAbortCalls x).w.unsubscribeEvent = s.w.unsubscribeEvent := rfl
@[simp, grind =] theorem St.setWAbortCalls_w_unsubscribeAll (s : St) (x : List (Nat × ConnId)) : (s.setWAbortCalls x).w.unsubscribeAll = s.w.unsubscribeAll := rfl
@[simp, grind =] theorem St.setWAbortCalls_w_createObject (s : St) (x : List (Nat × ConnId)) : (s.setWAbortCalls x).w.createObject = s.w.createObject := rfl
@[simp, grind =] theorem St.setWAbortCalls_w_destroyObject (s : St) (x : List (Nat × ConnId)) : (s.setWAbortCalls x).w.destroyObject = s.w.destroyObject := rfl
@[simp, grind =] theorem St.setWAbortCalls_w_createService (s : St) (x : List (Nat × ConnId)) : (s.setWAbortCalls x).w.createService = s.w.createService := rfl
@[simp, grind =] theorem St.setWAbortCalls_w_destroyService (s : St) (x : List (Nat × ConnId)) : (s.setWAbortCalls x).w.destroyService = s.w.destroyService := rfl
@[simp, grind =] theorem St.setWAbortCalls_w_abortCalls (s : St) (x : List (Nat × ConnId)) : (s.setWAbortCalls x).w.abortCalls = x := rfl
@[simp, grind =] theorem St.setWAbortCalls_out (s : St) (x : List (Nat × ConnId)) : (s.setWAbortCalls x).out = s.out := rfl
@[simp, grind =] theorem St.setWAbortCalls_b (s : St) (x : List (Nat × ConnId)) : (s.setWAbortCalls x).b = s.b := rfl
@[simp, grind =] theorem St.setOut_b_conns (s : St) (x : List Out) : (s.setOut x).b.conns = s.b.conns := rfl
@[simp, grind =] theorem St.setOut_b_objUuids (s : St) (x : List Out) : (s.setOut x).b.objUuids = s.b.objUuids := rfl
@[simp, grind =] theorem St.setOut_b_objs (s : St) (x : List Out) : (s.setOut x).b.objs = s.b.objs := rfl
@[simp, grind =] theorem St.setOut_b_svcUuids (s : St) (x : List Out) : (s.setOut x).b.svcUuids = s.b.svcUuids := rfl
@[simp, grind =] theorem St.setOut_b_svcs (s : St) (x : List Out) : (s.setOut x).b.svcs = s.b.svcs := rfl
@[simp, grind =] theorem St.setOut_b_calls (s : St) (x : List Out) : (s.setOut x).b.calls = s.b.calls := rfl
@[simp, grind =] theorem St.setOut_b_channels (s : St) (x : List Out) : (s.setOut x).b.channels = s.b.channels := rfl
@[simp, grind =] theorem St.setOut_b_listeners (s : St) (x : List Out) : (s.setOut x).b.listeners = s.b.listeners := rfl
@[simp, grind =] theorem St.setOut_b_introspection (s : St) (x : List Out) : (s.setOut x).b.introspection = s.b.introspection := rfl
@[simp, grind =] theorem St.setOut_b_iqueries (s : St) (x : List Out) : (s.setOut x).b.iqueries = s.b.iqueries := rfl
@[simp, grind =] theorem St.setOut_b_nextCookie (s : St) (x : List Out) : (s.setOut x).b.nextCookie = s.b.nextCookie := rfl
@[simp, grind =] theorem St.setOut_b_stats (s : St) (x : List Out) : (s.setOut x).b.stats = s.b.stats := rfl
@[simp, grind =] theorem St.setOut_w_shutdownNow (s : St) (x : List Out) : (s.setOut x).w.shutdownNow = s.w.shutdownNow := rfl
@[simp, grind =] theorem St.setOut_w_shutdownIdle (s : St) (x : List Out) : (s.setOut x).w.shutdownIdle = s.w.shutdownIdle := rfl
@[simp, grind =] theorem St.setOut_w_removeConns (s : St) (x : List Out) : (s.setOut x).w.removeConns = s.w.removeConns := rfl
@[simp, grind =] theorem St.setOut_w_removeCalls (s : St) (x : List Out) : (s.setOut x).w.removeCalls = s.w.removeCalls := rfl
@[simp, grind =] theorem St.setOut_w_servicesDestroyed (s : St) (x : List Out) : (s.setOut x).w.servicesDestroyed = s.w.servicesDestroyed := rfl
@[simp, grind =] theorem St.setOut_w_unsubscribeEvent (s : St) (x : List Out) : (s.setOut x).w.unsubscribeEvent = s.w.unsubscribeEvent := rfl
@[simp, grind =] theorem St.setOut_w_unsubscribeAll (s : St) (x : List Out) : (s.setOut x).w.unsubscribeAll = s.w.unsubscribeAll := rfl
@[simp, grind =] theorem St.setOut_w_createObject (s : St) (x : List Out) : (s.setOut x).w.createObject = s.w.createObject := rfl
@[simp, grind =] theorem St.setOut_w_destroyObject (s : St) (x : List Out) : (s.setOut x).w.destroyObject = s.w.destroyObject := rfl
@[simp, grind =] theorem St.setOut_w_createService (s : St) (x : List Out) : (s.setOut x).w.createService = s.w.createService := rfl
@[simp, grind =] theorem St.setOut_w_destroyService (s : St) (x : List Out) : (s.setOut x).w.destroyService = s.w.destroyService := rfl
@[simp, grind =] theorem St.setOut_w_abortCalls (s : St) (x : List Out) : (s.setOut x).w.abortCalls = s.w.abortCalls := rfl
@[simp, grind =] theorem St.setOut_out (s : St) (x : List Out) : (s.setOut x).out = x := rfl
@[simp, grind =] theorem St.stat_b_conns (s : St) (f : Stats → Stats) : (s.stat f).b.conns = s.b.conns := rfl
@[simp, grind =] theorem St.stat_b_objUuids (s : St) (f : Stats → Stats) : (s.stat f).b.objUuids = s.b.objUuids := rfl
@[simp, grind =] theorem St.stat_b_objs (s : St) (f : Stats → Stats) : (s.stat f).b.objs = s.b.objs := rfl
@[simp, grind =] theorem St.stat_b_svcUuids (s : St) (f : Stats → Stats) : (s.stat f).b.svcUuids = s.b.svcUuids := rfl
@[simp, grind =] theorem St.stat_b_svcs (s : St) (f : Stats → Stats) : (s.stat f).b.svcs = s.b.svcs := rfl
@[simp, grind =] theorem St.stat_b_calls (s : St) (f : Stats → Stats) : (s.stat f).b.calls = s.b.calls := rfl
@[simp, grind =] theorem St.stat_b_channels (s : St) (f : Stats → Stats) : (s.stat f).b.channels = s.b.channels := rfl
@[simp, grind =] theorem St.stat_b_listeners (s : St) (f : Stats → Stats) : (s.stat f).b.listeners = s.b.listeners := rfl
@[simp, grind =] theorem St.stat_b_introspection (s : St) (f : Stats → Stats) : (s.stat f).b.introspection = s.b.introspection := rfl
@[simp, grind =] theorem St.stat_b_iqueries (s : St) (f : Stats → Stats) : (s.stat f).b.iqueries = s.b.iqueries := rfl
@[simp, grind =] theorem St.stat_b_nextCookie (s : St) (f : Stats → Stats) : (s.stat f).b.nextCookie = s.b.nextCookie := rfl
@[simp, grind =] theorem St.stat_b_stats (s : St) (f : Stats → Stats) : (s.stat f).b.stats = f s.b.stats := rfl
@[simp, grind =] theorem St.stat_w_shutdownNow (s : St) (f : Stats → Stats) : (s.stat f).w.shutdownNow = s.w.shutdownNow := rfl
@[simp, grind =] theorem St.stat_w_shutdownIdle (s : St) (f : Stats → Stats) : (s.stat f).w.shutdownIdle = s.w.shutdownIdle := rfl
@[simp, grind =] theorem St.stat_w_removeConns (s : St) (f : Stats → Stats) : (s.stat f).w.removeConns = s.w.removeConns := rfl
@[simp, grind =] theorem St.stat_w_servicesDestroyed (s : St) (f : Stats → Stats) : (s.stat f).w.servicesDestroyed = s.w.servicesDestroyed := rfl
@[simp, grind =] theorem St.stat_w_unsubscribeEvent (s : St) (f : Stats → Stats) : (s.stat f).w.unsubscribeEvent = s.w.unsubscribeEvent := rfl
@[simp, grind =] theorem St.stat_w_unsubscribeAll (s : St) (f : Stats → Stats) : (s.stat f).w.unsubscribeAll = s.w.unsubscribeAll := rfl
@[simp, grind =] theorem St.stat_w_createObject (s : St) (f : Stats → Stats) : (s.stat f).w.createObject = s.w.createObject := rfl
@[simp, grind =] theorem St.stat_w_destroyObject (s : St) (f : Stats → Stats) : (s.stat f).w.destroyObject = s.w.destroyObject := rfl
@[simp, grind =] theorem St.stat_w_createService (s : St) (f : Stats → Stats) : (s.stat f).w.createService = s.w.createService := rfl
@[simp, grind =] theorem St.stat_w_destroyService (s : St) (f : Stats → Stats) : (s.stat f).w.destroyService = s.w.destroyService := rfl
@[simp, grind =] theorem St.stat_out (s : St) (f : Stats → Stats) : (s.stat f).out = s.out := rfl
@[simp, grind =] theorem St.stat_w (s : St) (f : Stats → Stats) : (s.stat f).w = s.w := rfl

@[simp, grind =] theorem St.setConn_b_conns (s : St) (id : ConnId) (c : Conn) : (s.setConn id c).b.conns = AL.insert id c s.b.conns := rfl
@[simp, grind =] theorem St.pushRemoveConn_b_conns (s : St) (id : ConnId) (b : Bool) : (s.pushRemoveConn id b).b.conns = s.b.conns := rfl
@[simp, grind =] theorem St.send_b_conns (s : St) (to : ConnId) (m : Rsp) (v : Option Nat) : (s.send to m v).1.b.conns = s.b.conns := by
  unfold St.send; simp only []; split <;> (try split) <;> rfl
@[simp, grind =] theorem St.sendOrRemove_b_conns (s : St) (to : ConnId) (m : Rsp) (v : Option Nat) : (s.sendOrRemove to m v).b.conns = s.b.conns := by
  unfold St.sendOrRemove; simp only []; split <;> simp
@[simp, grind =] theorem St.freshCookie_b_conns (s : St) : s.freshCookie.1.b.conns = s.b.conns := rfl
@[simp, grind =] theorem St.setConn_b_objUuids (s : St) (id : ConnId) (c : Conn) : (s.setConn id c).b.objUuids = s.b.objUuids := rfl
@[simp, grind =] theorem St.updConn_b_objUuids (s : St) (id : ConnId) (f : Conn → Conn) : (s.updConn id f).b.objUuids = s.b.objUuids := by
  unfold St.updConn; split <;> rfl
@[simp, grind =] theorem St.pushRemoveConn_b_objUuids (s : St) (id : ConnId) (b : Bool) : (s.pushRemoveConn id b).b.objUuids = s.b.objUuids := rfl
@[simp, grind =] theorem St.send_b_objUuids (s : St) (to : ConnId) (m : Rsp) (v : Option Nat) : (s.send to m v).1.b.objUuids = s.b.objUuids := by
  unfold St.send; simp only []; split <;> (try split) <;> rfl
@[simp, grind =] theorem St.sendOrRemove_b_objUuids (s : St) (to : ConnId) (m : Rsp) (v : Option Nat) : (s.sendOrRemove to m v).b.objUuids = s.b.objUuids := by
  unfold St.sendOrRemove; simp only []; split <;> simp
@[simp, grind =] theorem St.freshCookie_b_objUuids (s : St) : s.freshCookie.1.b.objUuids = s.b.objUuids := rfl
@[simp, grind =] theorem St.setConn_b_objs (s : St) (id : ConnId) (c : Conn) : (s.setConn id c).b.objs = s.b.objs := rfl
@[simp, grind =] theorem St.updConn_b_objs (s : St) (id : ConnId) (f : Conn → Conn) : (s.updConn id f).b.objs = s.b.objs := by
  unfold St.updConn; split <;> rfl
@[simp, grind =] theorem St.pushRemoveConn_b_objs (s : St) (id : ConnId) (b : Bool) : (s.pushRemoveConn id b).b.objs = s.b.objs := rfl
@[simp, grind =] theorem St.send_b_objs (s : St) (to : ConnId) (m : Rsp) (v : Option Nat) : (s.send to m v).1.b.objs = s.b.objs := by
  unfold St.send; simp only []; split <;> (try split) <;> rfl
@[simp, grind =] theorem St.sendOrRemove_b_objs (s : St) (to : ConnId) (m : Rsp) (v : Option Nat) : (s.sendOrRemove to m v).b.objs = s.b.objs := by
  unfold St.sendOrRemove; simp only []; split <;> simp
@[simp, grind =] theorem St.freshCookie_b_objs (s : St) : s.freshCookie.1.b.objs = s.b.objs := rfl
@[simp, grind =] theorem St.setConn_b_svcUuids (s : St) (id : ConnId) (c : Conn) : (s.setConn id c).b.svcUuids = s.b.svcUuids := rfl
@[simp, grind =] theorem St.updConn_b_svcUuids (s : St) (id : ConnId) (f : Conn → Conn) : (s.updConn id f).b.svcUuids = s.b.svcUuids := by
  unfold St.updConn; split <;> rfl
@[simp, grind =] theorem St.pushRemoveConn_b_svcUuids (s : St) (id : ConnId) (b : Bool) : (s.pushRemoveConn id b).b.svcUuids = s.b.svcUuids := rfl
@[simp, grind =] theorem St.send_b_svcUuids (s : St) (to : ConnId) (m : Rsp) (v : Option Nat) : (s.send to m v).1.b.svcUuids = s.b.svcUuids := by
  unfold St.send; simp only []; split <;> (try split) <;> rfl
@[simp, grind =] theorem St.sendOrRemove_b_svcUuids (s : St) (to : ConnId) (m : Rsp) (v : Option Nat) : (s.sendOrRemove to m v).b.svcUuids = s.b.svcUuids := by
  unfold St.sendOrRemove; simp only []; split <;> simp
@[simp, grind =] theorem St.freshCookie_b_svcUuids (s : St) : s.freshCookie.1.b.svcUuids = s.b.svcUuids := rfl
@[simp, grind =] theorem St.setConn_b_svcs (s : St) (id : ConnId) (c : Conn) : (s.setConn id c).b.svcs = s.b.svcs := rfl
@[simp, grind =] theorem St.updConn_b_svcs (s : St) (id : ConnId) (f : Conn → Conn) : (s.updConn id f).b.svcs = s.b.svcs := by
  unfold St.updConn; split <;> rfl
@[simp, grind =] theorem St.pushRemoveConn_b_svcs (s : St) (id : ConnId) (b : Bool) : (s.pushRemoveConn id b).b.svcs = s.b.svcs := rfl
@[simp, grind =] theorem St.send_b_svcs (s : St) (to : ConnId) (m : Rsp) (v : Option Nat) : (s.send to m v).1.b.svcs = s.b.svcs := by
  unfold St.send; simp only []; split <;> (try split) <;> rfl
@[simp, grind =] theorem St.sendOrRemove_b_svcs (s : St) (to : ConnId) (m : Rsp) (v : Option Nat) : (s.sendOrRemove to m v).b.svcs = s.b.svcs := by
  unfold St.sendOrRemove; simp only []; split <;> simp
@[simp, grind =] theorem St.freshCookie_b_svcs (s : St) : s.freshCookie.1.b.svcs = s.b.svcs := rfl
@[simp, grind =] theorem St.setConn_b_calls (s : St) (id : ConnId) (c : Conn) : (s.setConn id c).b.calls = s.b.calls := rfl
@[simp, grind =] theorem St.updConn_b_calls (s : St) (id : ConnId) (f : Conn → Conn) : (s.updConn id f).b.calls = s.b.calls := by
  unfold St.updConn; split <;> rfl
@[simp, grind =] theorem St.pushRemoveConn_b_calls (s : St) (id : ConnId) (b : Bool) : (s.pushRemoveConn id b).b.calls = s.b.calls := rfl
@[simp, grind =] theorem St.send_b_calls (s : St) (to : ConnId) (m : Rsp) (v : Option Nat) : (s.send to m v).1.b.calls = s.b.calls := by
  unfold St.send; simp only []; split <;> (try split) <;> rfl
@[simp, grind =] theorem St.sendOrRemove_b_calls (s : St) (to : ConnId) (m : Rsp) (v : Option Nat) : (s.sendOrRemove to m v).b.calls = s.b.calls := by
  unfold St.sendOrRemove; simp only []; split <;> simp
@[simp, grind =] theorem St.freshCookie_b_calls (s : St) : s.freshCookie.1.b.calls = s.b.calls := rfl
@[simp, grind =] theorem St.setConn_b_channels (s : St) (id : ConnId) (c : Conn) : (s.setConn id c).b.channels = s.b.channels := rfl
@[simp, grind =] theorem St.updConn_b_channels (s : St) (id : ConnId) (f : Conn → Conn) : (s.updConn id f).b.channels = s.b.channels := by
  unfold St.updConn; split <;> rfl
@[simp, grind =] theorem St.pushRemoveConn_b_channels (s : St) (id : ConnId) (b : Bool) : (s.pushRemoveConn id b).b.channels = s.b.channels := rfl
@[simp, grind =] theorem St.send_b_channels (s : St) (to : ConnId) (m : Rsp) (v : Option Nat) : (s.send to m v).1.b.channels = s.b.channels := by
  unfold St.send; simp only []; split <;> (try split) <;> rfl
@[simp, grind =] theorem St.sendOrRemove_b_channels (s : St) (to : ConnId) (m : Rsp) (v : Option Nat) : (s.sendOrRemove to m v).b.channels = s.b.channels := by
  unfold St.sendOrRemove; simp only []; split <;> simp
@[simp, grind =] theorem St.freshCookie_b_channels (s : St) : s.freshCookie.1.b.channels = s.b.channels := rfl
@[simp, grind =] theorem St.setConn_b_listeners (s : St) (id : ConnId) (c : Conn) : (s.setConn id c).b.listeners = s.b.listeners := rfl
@[simp, grind =] theorem St.updConn_b_listeners (s : St) (id : ConnId) (f : Conn → Conn) : (s.updConn id f).b.listeners = s.b.listeners := by
  unfold St.updConn; split <;> rfl
@[simp, grind =] theorem St.pushRemoveConn_b_listeners (s : St) (id : ConnId) (b : Bool) : (s.pushRemoveConn id b).b.listeners = s.b.listeners := rfl
@[simp, grind =] theorem St.send_b_listeners (s : St) (to : ConnId) (m : Rsp) (v : Option Nat) : (s.send to m v).1.b.listeners = s.b.listeners := by
  unfold St.send; simp only []; split <;> (try split) <;> rfl
@[simp, grind =] theorem St.sendOrRemove_b_listeners (s : St) (to : ConnId) (m : Rsp) (v : Option Nat) : (s.sendOrRemove to m v).b.listeners = s.b.listeners := by
  unfold St.sendOrRemove; simp only []; split <;> simp
@[simp, grind =] theorem St.freshCookie_b_listeners (s : St) : s.freshCookie.1.b.listeners = s.b.listeners := rfl
@[simp, grind =] theorem St.setConn_b_introspection (s : St) (id : ConnId) (c : Conn) : (s.setConn id c).b.introspection = s.b.introspection := rfl
@[simp, grind =] theorem St.updConn_b_introspection (s : St) (id : ConnId) (f : Conn → Conn) : (s.updConn id f).b.introspection = s.b.introspection := by
  unfold St.updConn; split <;> rfl
@[simp, grind =] theorem St.pushRemoveConn_b_introspection (s : St) (id : ConnId) (b : Bool) : (s.pushRemoveConn id b).b.introspection = s.b.introspection := rfl
@[simp, grind =] theorem St.send_b_introspection (s : St) (to : ConnId) (m : Rsp) (v : Option Nat) : (s.send to m v).1.b.introspection = s.b.introspection := by
  unfold St.send; simp only []; split <;> (try split) <;> rfl
@[simp, grind =] theorem St.sendOrRemove_b_introspection (s : St) (to : ConnId) (m : Rsp) (v : Option Nat) : (s.sendOrRemove to m v).b.introspection = s.b.introspection := by
  unfold St.sendOrRemove; simp only []; split <;> simp
@[simp, grind =] theorem St.freshCookie_b_introspection (s : St) : s.freshCookie.1.b.introspection = s.b.introspection := rfl
@[simp, grind =] theorem St.setConn_b_iqueries (s : St) (id : ConnId) (c : Conn) : (s.setConn id c).b.iqueries = s.b.iqueries := rfl
@[simp, grind =] theorem St.updConn_b_iqueries (s : St) (id : ConnId) (f : Conn → Conn) : (s.updConn id f).b.iqueries = s.b.iqueries := by
  unfold St.updConn; split <;> rfl
@[simp, grind =] theorem St.pushRemoveConn_b_iqueries (s : St) (id : ConnId) (b : Bool) : (s.pushRemoveConn id b).b.iqueries = s.b.iqueries := rfl
@[simp, grind =] theorem St.send_b_iqueries (s : St) (to : ConnId) (m : Rsp) (v : Option Nat) : (s.send to m v).1.b.iqueries = s.b.iqueries := by
  unfold St.send; simp only []; split <;> (try split) <;> rfl
@[simp, grind =] theorem St.sendOrRemove_b_iqueries (s : St) (to : ConnId) (m : Rsp) (v : Option Nat) : (s.sendOrRemove to m v).b.iqueries = s.b.iqueries := by
  unfold St.sendOrRemove; simp only []; split <;> simp
@[simp, grind =] theorem St.freshCookie_b_iqueries (s : St) : s.freshCookie.1.b.iqueries = s.b.iqueries := rfl
@[simp, grind =] theorem St.setConn_b_nextCookie (s : St) (id : ConnId) (c : Conn) : (s.setConn id c).b.nextCookie = s.b.nextCookie := rfl
@[simp, grind =] theorem St.updConn_b_nextCookie (s : St) (id : ConnId) (f : Conn → Conn) : (s.updConn id f).b.nextCookie = s.b.nextCookie := by
  unfold St.updConn; split <;> rfl
@[simp, grind =] theorem St.pushRemoveConn_b_nextCookie (s : St) (id : ConnId) (b : Bool) : (s.pushRemoveConn id b).b.nextCookie = s.b.nextCookie := rfl
@[simp, grind =] theorem St.send_b_nextCookie (s : St) (to : ConnId) (m : Rsp) (v : Option Nat) : (s.send to m v).1.b.nextCookie = s.b.nextCookie := by
  unfold St.send; simp only []; split <;> (try split) <;> rfl
@[simp, grind =] theorem St.sendOrRemove_b_nextCookie (s : St) (to : ConnId) (m : Rsp) (v : Option Nat) : (s.sendOrRemove to m v).b.nextCookie = s.b.nextCookie := by
  unfold St.sendOrRemove; simp only []; split <;> simp
@[simp, grind =] theorem St.setConn_b_stats (s : St) (id : ConnId) (c : Conn) : (s.setConn id c).b.stats = s.b.stats := rfl
@[simp, grind =] theorem St.updConn_b_stats (s : St) (id : ConnId) (f : Conn → Conn) : (s.updConn id f).b.stats = s.b.stats := by
  unfold St.updConn; split <;> rfl
@[simp, grind =] theorem St.pushRemoveConn_b_stats (s : St) (id : ConnId) (b : Bool) : (s.pushRemoveConn id b).b.stats = s.b.stats := rfl
@[simp, grind =] theorem St.freshCookie_b_stats (s : St) : s.freshCookie.1.b.stats = s.b.stats := rfl
@[simp, grind =] theorem St.setConn_w_shutdownNow (s : St) (id : ConnId) (c : Conn) : (s.setConn id c).w.shutdownNow = s.w.shutdownNow := rfl
@[simp, grind =] theorem St.pushRemoveConn_w_shutdownNow (s : St) (id : ConnId) (b : Bool) : (s.pushRemoveConn id b).w.shutdownNow = s.w.shutdownNow := rfl
@[simp, grind =] theorem St.send_w_shutdownNow (s : St) (to : ConnId) (m : Rsp) (v : Option Nat) : (s.send to m v).1.w.shutdownNow = s.w.shutdownNow := by
  unfold St.send; simp only []; split <;> (try split) <;> rfl
@[simp, grind =] theorem St.sendOrRemove_w_shutdownNow (s : St) (to : ConnId) (m : Rsp) (v : Option Nat) : (s.sendOrRemove to m v).w.shutdownNow = s.w.shutdownNow := by
  unfold St.sendOrRemove; simp only []; split <;> simp
@[simp, grind =] theorem St.freshCookie_w_shutdownNow (s : St) : s.freshCookie.1.w.shutdownNow = s.w.shutdownNow := rfl
@[simp, grind =] theorem St.setConn_w_shutdownIdle (s : St) (id : ConnId) (c : Conn) : (s.setConn id c).w.shutdownIdle = s.w.shutdownIdle := rfl
@[simp, grind =] theorem St.updConn_w_shutdownIdle (s : St) (id : ConnId) (f : Conn → Conn) : (s.updConn id f).w.shutdownIdle = s.w.shutdownIdle := by
  unfold St.updConn; split <;> rfl
@[simp, grind =] theorem St.pushRemoveConn_w_shutdownIdle (s : St) (id : ConnId) (b : Bool) : (s.pushRemoveConn id b).w.shutdownIdle = s.w.shutdownIdle := rfl
@[simp, grind =] theorem St.send_w_shutdownIdle (s : St) (to : ConnId) (m : Rsp) (v : Option Nat) : (s.send to m v).1.w.shutdownIdle = s.w.shutdownIdle := by
  unfold St.send; simp only []; split <;> (try split) <;> rfl
@[simp, grind =] theorem St.sendOrRemove_w_shutdownIdle (s : St) (to : ConnId) (m : Rsp) (v : Option Nat) : (s.sendOrRemove to m v).w.shutdownIdle = s.w.shutdownIdle := by
  unfold St.sendOrRemove; simp only []; split <;> simp
@[simp, grind =] theorem St.freshCookie_w_shutdownIdle (s : St) : s.freshCookie.1.w.shutdownIdle = s.w.shutdownIdle := rfl
@[simp, grind =] theorem St.setConn_w_removeConns (s : St) (id : ConnId) (c : Conn) : (s.setConn id c).w.removeConns = s.w.removeConns := rfl
@[simp, grind =] theorem St.send_w_removeConns (s : St) (to : ConnId) (m : Rsp) (v : Option Nat) : (s.send to m v).1.w.removeConns = s.w.removeConns := by
  unfold St.send; simp only []; split <;> (try split) <;> rfl
@[simp, grind =] theorem St.freshCookie_w_removeConns (s : St) : s.freshCookie.1.w.removeConns = s.w.removeConns := rfl
@[simp, grind =] theorem St.setConn_w_removeCalls (s : St) (id : ConnId) (c : Conn) : (s.setConn id c).w.removeCalls = s.w.removeCalls := rfl
@[simp, grind =] theorem St.pushRemoveConn_w_removeCalls (s : St) (id : ConnId) (b : Bool) : (s.pushRemoveConn id b).w.removeCalls = s.w.removeCalls := rfl
@[simp, grind =] theorem St.send_w_removeCalls (s : St) (to : ConnId) (m : Rsp) (v : Option Nat) : (s.send to m v).1.w.removeCalls = s.w.removeCalls := by
  unfold St.send; simp only []; split <;> (try split) <;> rfl
@[simp, grind =] theorem St.sendOrRemove_w_removeCalls (s : St) (to : ConnId) (m : Rsp) (v : Option Nat) : (s.sendOrRemove to m v).w.removeCalls = s.w.removeCalls := by
  unfold St.sendOrRemove; simp only []; split <;> simp
@[simp, grind =] theorem St.freshCookie_w_removeCalls (s : St) : s.freshCookie.1.w.removeCalls = s.w.removeCalls := rfl
@[simp, grind =] theorem St.setConn_w_servicesDestroyed (s : St) (id : ConnId) (c : Conn) : (s.setConn id c).w.servicesDestroyed = s.w.servicesDestroyed := rfl
@[simp, grind =] theorem St.updConn_w_servicesDestroyed (s : St) (id : ConnId) (f : Conn → Conn) : (s.updConn id f).w.servicesDestroyed = s.w.servicesDestroyed := by
  unfold St.updConn; split <;> rfl
@[simp, grind =] theorem St.pushRemoveConn_w_servicesDestroyed (s : St) (id : ConnId) (b : Bool) : (s.pushRemoveConn id b).w.servicesDestroyed = s.w.servicesDestroyed := rfl
@[simp, grind =] theorem St.send_w_servicesDestroyed (s : St) (to : ConnId) (m : Rsp) (v : Option Nat) : (s.send to m v).1.w.servicesDestroyed = s.w.servicesDestroyed := by
  unfold St.send; simp only []; split <;> (try split) <;> rfl
@[simp, grind =] theorem St.sendOrRemove_w_servicesDestroyed (s : St) (to : ConnId) (m : Rsp) (v : Option Nat) : (s.sendOrRemove to m v).w.servicesDestroyed = s.w.servicesDestroyed := by
  unfold St.sendOrRemove; simp only []; split <;> simp
@[simp, grind =] theorem St.freshCookie_w_servicesDestroyed (s : St) : s.freshCookie.1.w.servicesDestroyed = s.w.servicesDestroyed := rfl
@[simp, grind =] theorem St.setConn_w_unsubscribeEvent (s : St) (id : ConnId) (c : Conn) : (s.setConn id c).w.unsubscribeEvent = s.w.unsubscribeEvent := rfl
@[simp, grind =] theorem St.pushRemoveConn_w_unsubscribeEvent (s : St) (id : ConnId) (b : Bool) : (s.pushRemoveConn id b).w.unsubscribeEvent = s.w.unsubscribeEvent := rfl
@[simp, grind =] theorem St.send_w_unsubscribeEvent (s : St) (to : ConnId) (m : Rsp) (v : Option Nat) : (s.send to m v).1.w.unsubscribeEvent = s.w.unsubscribeEvent := by
  unfold St.send; simp only []; split <;> (try split) <;> rfl
@[simp, grind =] theorem St.sendOrRemove_w_unsubscribeEvent (s : St) (to : ConnId) (m : Rsp) (v : Option Nat) : (s.sendOrRemove to m v).w.unsubscribeEvent = s.w.unsubscribeEvent := by
  unfold St.sendOrRemove; simp only []; split <;> simp
@[simp, grind =] theorem St.freshCookie_w_unsubscribeEvent (s : St) : s.freshCookie.1.w.unsubscribeEvent = s.w.unsubscribeEvent := rfl
@[simp, grind =] theorem St.setConn_w_unsubscribeAll (s : St) (id : ConnId) (c : Conn) : (s.setConn id c).w.unsubscribeAll = s.w.unsubscribeAll := rfl
@[simp, grind =] theorem St.pushRemoveConn_w_unsubscribeAll (s : St) (id : ConnId) (b : Bool) : (s.pushRemoveConn id b).w.unsubscribeAll = s.w.unsubscribeAll := rfl
@[simp, grind =] theorem St.send_w_unsubscribeAll (s : St) (to : ConnId) (m : Rsp) (v : Option Nat) : (s.send to m v).1.w.unsubscribeAll = s.w.unsubscribeAll := by
  unfold St.send; simp only []; split <;> (try split) <;> rfl
@[simp, grind =] theorem St.sendOrRemove_w_unsubscribeAll (s : St) (to : ConnId) (m : Rsp) (v : Option Nat) : (s.sendOrRemove to m v).w.unsubscribeAll = s.w.unsubscribeAll := by
  unfold St.sendOrRemove; simp only []; split <;> simp
@[simp, grind =] theorem St.freshCookie_w_unsubscribeAll (s : St) : s.freshCookie.1.w.unsubscribeAll = s.w.unsubscribeAll := rfl
@[simp, grind =] theorem St.setConn_w_createObject (s : St) (id : ConnId) (c : Conn) : (s.setConn id c).w.createObject = s.w.createObject := rfl
@[simp, grind =] theorem St.pushRemoveConn_w_createObject (s : St) (id : ConnId) (b : Bool) : (s.pushRemoveConn id b).w.createObject = s.w.createObject := rfl
@[simp, grind =] theorem St.send_w_createObject (s : St) (to : ConnId) (m : Rsp) (v : Option Nat) : (s.send to m v).1.w.createObject = s.w.createObject := by
  unfold St.send; simp only []; split <;> (try split) <;> rfl
@[simp, grind =] theorem St.sendOrRemove_w_createObject (s : St) (to : ConnId) (m : Rsp) (v : Option Nat) : (s.sendOrRemove to m v).w.createObject = s.w.createObject := by
  unfold St.sendOrRemove; simp only []; split <;> simp
@[simp, grind =] theorem St.freshCookie_w_createObject (s : St) : s.freshCookie.1.w.createObject = s.w.createObject := rfl
@[simp, grind =] theorem St.setConn_w_destroyObject (s : St) (id : ConnId) (c : Conn) : (s.setConn id c).w.destroyObject = s.w.destroyObject := rfl
@[simp, grind =] theorem St.pushRemoveConn_w_destroyObject (s : St) (id : ConnId) (b : Bool) : (s.pushRemoveConn id b).w.destroyObject = s.w.destroyObject := rfl
@[simp, grind =] theorem St.send_w_destroyObject (s : St) (to : ConnId) (m : Rsp) (v : Option Nat) : (s.send to m v).1.w.destroyObject = s.w.destroyObject := by
  unfold St.send; simp only []; split <;> (try split) <;> rfl
@[simp, grind =] theorem St.sendOrRemove_w_destroyObject (s : St) (to : ConnId) (m : Rsp) (v : Option Nat) : (s.sendOrRemove to m v).w.destroyObject = s.w.destroyObject := by
  unfold St.sendOrRemove; simp only []; split <;> simp
@[simp, grind =] theorem St.freshCookie_w_destroyObject (s : St) : s.freshCookie.1.w.destroyObject = s.w.destroyObject := rfl
@[simp, grind =] theorem St.setConn_w_createService (s : St) (id : ConnId) (c : Conn) : (s.setConn id c).w.createService = s.w.createService := rfl
@[simp, grind =] theorem St.updConn_w_createService (s : St) (id : ConnId) (f : Conn → Conn) : (s.updConn id f).w.createService = s.w.createService := by
  unfold St.updConn; split <;> rfl
@[simp, grind =] theorem St.pushRemoveConn_w_createService (s : St) (id : ConnId) (b : Bool) : (s.pushRemoveConn id b).w.createService = s.w.createService := rfl
@[simp, grind =] theorem St.send_w_createService (s : St) (to : ConnId) (m : Rsp) (v : Option Nat) : (s.send to m v).1.w.createService = s.w.createService := by
  unfold St.send; simp only []; split <;> (try split) <;> rfl
@[simp, grind =] theorem St.sendOrRemove_w_createService (s : St) (to : ConnId) (m : Rsp) (v : Option Nat) : (s.sendOrRemove to m v).w.createService = s.w.createService := by
  unfold St.sendOrRemove; simp only []; split <;> simp
@[simp, grind =] theorem St.freshCookie_w_createService (s : St) : s.freshCookie.1.w.createService = s.w.createService := rfl
@[simp, grind =] theorem St.setConn_w_destroyService (s : St) (id : ConnId) (c : Conn) : (s.setConn id c).w.destroyService = s.w.destroyService := rfl
@[simp, grind =] theorem St.pushRemoveConn_w_destroyService (s : St) (id : ConnId) (b : Bool) : (s.pushRemoveConn id b).w.destroyService = s.w.destroyService := rfl
@[simp, grind =] theorem St.send_w_destroyService (s : St) (to : ConnId) (m : Rsp) (v : Option Nat) : (s.send to m v).1.w.destroyService = s.w.destroyService := by
  unfold St.send; simp only []; split <;> (try split) <;> rfl
@[simp, grind =] theorem St.sendOrRemove_w_destroyService (s : St) (to : ConnId) (m : Rsp) (v : Option Nat) : (s.sendOrRemove to m v).w.destroyService = s.w.destroyService := by
  unfold St.sendOrRemove; simp only []; split <;> simp
@[simp, grind =] theorem St.freshCookie_w_destroyService (s : St) : s.freshCookie.1.w.destroyService = s.w.destroyService := rfl
@[simp, grind =] theorem St.setConn_w_abortCalls (s : St) (id : ConnId) (c : Conn) : (s.setConn id c).w.abortCalls = s.w.abortCalls := rfl
@[simp, grind =] theorem St.pushRemoveConn_w_abortCalls (s : St) (id : ConnId) (b : Bool) : (s.pushRemoveConn id b).w.abortCalls = s.w.abortCalls := rfl
@[simp, grind =] theorem St.send_w_abortCalls (s : St) (to : ConnId) (m : Rsp) (v : Option Nat) : (s.send to m v).1.w.abortCalls = s.w.abortCalls := by
  unfold St.send; simp only []; split <;> (try split) <;> rfl
@[simp, grind =] theorem St.sendOrRemove_w_abortCalls (s : St) (to : ConnId) (m : Rsp) (v : Option Nat) : (s.sendOrRemove to m v).w.abortCalls = s.w.abortCalls := by
  unfold St.sendOrRemove; simp only []; split <;> simp
@[simp, grind =] theorem St.freshCookie_w_abortCalls (s : St) : s.freshCookie.1.w.abortCalls = s.w.abortCalls := rfl
@[simp, grind =] theorem St.setConn_out (s : St) (id : ConnId) (c : Conn) : (s.setConn id c).out = s.out := rfl
@[simp, grind =] theorem St.updConn_out (s : St) (id : ConnId) (f : Conn → Conn) : (s.updConn id f).out = s.out := by
  unfold St.updConn; split <;> rfl
@[simp, grind =] theorem St.pushRemoveConn_out (s : St) (id : ConnId) (b : Bool) : (s.pushRemoveConn id b).out = s.out := rfl
@[simp, grind =] theorem St.freshCookie_out (s : St) : s.freshCookie.1.out = s.out := rfl
@[simp, grind =] theorem St.updConn_w (s : St) (id : ConnId) (f : Conn → Conn) : (s.updConn id f).w = s.w := by
  unfold St.updConn; split <;> rfl
@[simp, grind =] theorem St.send_gauge_numConnections (s : St) (to : ConnId) (m : Rsp) (v : Option Nat) : (s.send to m v).1.b.stats.numConnections = s.b.stats.numConnections := by
  unfold St.send; simp only []; split <;> (try split) <;> rfl
@[simp, grind =] theorem St.sendOrRemove_gauge_numConnections (s : St) (to : ConnId) (m : Rsp) (v : Option Nat) : (s.sendOrRemove to m v).b.stats.numConnections = s.b.stats.numConnections := by
  unfold St.sendOrRemove; simp only []; split <;> simp
@[simp, grind =] theorem St.send_gauge_numObjects (s : St) (to : ConnId) (m : Rsp) (v : Option Nat) : (s.send to m v).1.b.stats.numObjects = s.b.stats.numObjects := by
  unfold St.send; simp only []; split <;> (try split) <;> rfl
@[simp, grind =] theorem St.sendOrRemove_gauge_numObjects (s : St) (to : ConnId) (m : Rsp) (v : Option Nat) : (s.sendOrRemove to m v).b.stats.numObjects = s.b.stats.numObjects := by
  unfold St.sendOrRemove; simp only []; split <;> simp
@[simp, grind =] theorem St.send_gauge_numServices (s : St) (to : ConnId) (m : Rsp) (v : Option Nat) : (s.send to m v).1.b.stats.numServices = s.b.stats.numServices := by
  unfold St.send; simp only []; split <;> (try split) <;> rfl
@[simp, grind =] theorem St.sendOrRemove_gauge_numServices (s : St) (to : ConnId) (m : Rsp) (v : Option Nat) : (s.sendOrRemove to m v).b.stats.numServices = s.b.stats.numServices := by
  unfold St.sendOrRemove; simp only []; split <;> simp
@[simp, grind =] theorem St.send_gauge_numChannels (s : St) (to : ConnId) (m : Rsp) (v : Option Nat) : (s.send to m v).1.b.stats.numChannels = s.b.stats.numChannels := by
  unfold St.send; simp only []; split <;> (try split) <;> rfl
@[simp, grind =] theorem St.sendOrRemove_gauge_numChannels (s : St) (to : ConnId) (m : Rsp) (v : Option Nat) : (s.sendOrRemove to m v).b.stats.numChannels = s.b.stats.numChannels := by
  unfold St.sendOrRemove; simp only []; split <;> simp
@[simp, grind =] theorem St.send_gauge_numBusListeners (s : St) (to : ConnId) (m : Rsp) (v : Option Nat) : (s.send to m v).1.b.stats.numBusListeners = s.b.stats.numBusListeners := by
  unfold St.send; simp only []; split <;> (try split) <;> rfl
@[simp, grind =] theorem St.sendOrRemove_gauge_numBusListeners (s : St) (to : ConnId) (m : Rsp) (v : Option Nat) : (s.sendOrRemove to m v).b.stats.numBusListeners = s.b.stats.numBusListeners := by
  unfold St.sendOrRemove; simp only []; split <;> simp
@[simp, grind =] theorem St.freshCookie_b_nextCookie (s : St) : s.freshCookie.1.b.nextCookie = s.b.nextCookie + 1 := rfl
@[simp, grind =] theorem St.freshCookie_snd (s : St) : s.freshCookie.2 = s.b.nextCookie := rfl
@[simp, grind =] theorem St.conn?_def (s : St) (id : ConnId) : s.conn? id = AL.find? id s.b.conns := rfl

end Aldrin.Broker
