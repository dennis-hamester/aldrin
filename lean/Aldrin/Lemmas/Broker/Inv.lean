/-
The channel map and the bus listener map through every function of the broker model. A function changes such a map, its
statistics gauge and the cookie counter only in the four ways of `MapStep` (`CLStep` for the two maps together). Hence
every channel in the map satisfies the channel invariant (`Chan.OK`) and every bus listener the listener invariant
(`Listener.OK`), for every history (`CLInv`).
-/
import Aldrin.Lemmas.Broker.SameCL
import Aldrin.Lemmas.Broker.Turn
import Aldrin.Lemmas.Broker.Listener
import Aldrin.Lemmas.Broker.Outcomes

namespace Aldrin.Broker
open Generated

def AllV {K V : Type} [DecidableEq K] (P : V → Prop) (m : List (K × V)) : Prop := ∀ k v, AL.find? k m = some v → P v

theorem AllV_find {K V : Type} [DecidableEq K] {P : V → Prop} {m : List (K × V)} {k : K} {v : V}
    (h : AllV P m) (hf : AL.find? k m = some v) : P v := h k v hf

theorem AllV_insert {K V : Type} [DecidableEq K] {P : V → Prop} {m : List (K × V)} {k : K} {v : V}
    (h : AllV P m) (hv : P v) : AllV P (AL.insert k v m) := by
  intro k' v' hk
  rw [AL.find?_insert] at hk
  split at hk
  · cases hk; exact hv
  · exact h _ _ hk

theorem AllV_erase {K V : Type} [DecidableEq K] {P : V → Prop} {m : List (K × V)} {k : K}
    (h : AllV P m) : AllV P (AL.erase k m) := by
  intro k' v' hk
  rw [AL.find?_erase] at hk
  split at hk
  · cases hk
  · exact h _ _ hk

theorem AllV_nil {K V : Type} [DecidableEq K] {P : V → Prop} : AllV P ([] : List (K × V)) := nofun

/-- How a function of the model changes a map keyed by cookies together with its gauge and the cookie counter: not at all
(the counter may advance), by a new entry under the next cookie, by a new value under a key that is there, by the removal
of an entry. `ok` is what the values are to satisfy, `may` which values may be put in (for a request: those of its
sender; for the removal of a connection and the work loop: none). -/
inductive MapStep {V : Type} (ok may : V → Prop) : Nat → Nat → List (Cookie × V) → Nat → Nat → List (Cookie × V) → Prop
  | same {g n n' m} : n ≤ n' → MapStep ok may g n m g n' m
  | fresh {g n n' m v} : n < n' → ok v → may v → MapStep ok may g n m (g + 1) n' (AL.insert n v m)
  | update {g n m k v v'} : AL.find? k m = some v → (ok v → ok v') → may v' → MapStep ok may g n m g n (AL.insert k v' m)
  | erase {g n m k v} : AL.find? k m = some v → MapStep ok may g n m (g - 1) n (AL.erase k m)
  | trans {g n m g1 n1 m1 g2 n2 m2} : MapStep ok may g n m g1 n1 m1 → MapStep ok may g1 n1 m1 g2 n2 m2 → MapStep ok may g n m g2 n2 m2

namespace MapStep
variable {V : Type} {ok may : V → Prop} {g n g1 n1 g2 n2 : Nat} {m m1 m2 : List (Cookie × V)}

theorem refl : MapStep ok may g n m g n m := .same (Nat.le_refl _)

theorem cast (h : MapStep ok may g n m g1 n1 m1) (eg : g2 = g1) (en : n2 = n1) (em : m2 = m1) : MapStep ok may g n m g2 n2 m2 := by
  subst eg en em; exact h

theorem allV (h : MapStep ok may g n m g1 n1 m1) : AllV ok m → AllV ok m1 := by
  induction h with
  | same => exact id
  | fresh _ hv _ => exact (AllV_insert · hv)
  | update hk hv _ => exact fun h => AllV_insert h (hv (h _ _ hk))
  | erase => exact AllV_erase
  | trans _ _ ih1 ih2 => exact ih2 ∘ ih1

theorem mono {may' : V → Prop} (h : MapStep ok may g n m g1 n1 m1) (ho : ∀ v, may v → may' v) : MapStep ok may' g n m g1 n1 m1 := by
  induction h with
  | same hn => exact .same hn
  | fresh hn hv hw => exact .fresh hn hv (ho _ hw)
  | update hk hv hw => exact .update hk hv (ho _ hw)
  | erase hk => exact .erase hk
  | trans _ _ ih1 ih2 => exact .trans ih1 ih2

theorem sub (h : MapStep ok may g n m g1 n1 m1) : ∀ k v, AL.find? k m1 = some v → may v ∨ AL.find? k m = some v := by
  induction h with
  | same => exact fun _ _ h => .inr h
  | fresh _ _ hw | update _ _ hw =>
    intro k v hk
    rw [AL.find?_insert] at hk
    split at hk
    · cases hk; exact .inl hw
    · exact .inr hk
  | erase =>
    intro k v hk
    rw [AL.find?_erase] at hk
    split at hk
    · cases hk
    · exact .inr hk
  | trans _ _ ih1 ih2 => exact fun k v hk => (ih2 k v hk).elim .inl (ih1 k v)

end MapStep

def ChStep (s s' : St) : Prop :=
  MapStep Chan.OK (fun _ => True) s.b.stats.numChannels s.b.nextCookie s.b.channels s'.b.stats.numChannels s'.b.nextCookie s'.b.channels

def LStep (may : Listener → Prop) (s s' : St) : Prop :=
  MapStep Listener.OK may s.b.stats.numBusListeners s.b.nextCookie s.b.listeners
    s'.b.stats.numBusListeners s'.b.nextCookie s'.b.listeners

/-- what a function does to the channels and the bus listeners -/
def CLStep (may : Listener → Prop) (s s' : St) : Prop := ChStep s s' ∧ LStep may s s'

variable {may : Listener → Prop}

theorem ChStep.frame : Frame ChStep [.channels, .stat .numChannels] := by
  refine ⟨fun _ => .refl, .trans, fun h hb => ?_⟩
  cases h
  case channels => simp at hb
  case cookie => exact .same (Nat.le_succ _)
  case stat f g hf => simp at hb; exact MapStep.refl.cast ((hf _).numChannels hb) rfl rfl
  case connDead => exact MapStep.refl.cast (by simp) (by simp) (by simp)
  all_goals exact .refl

theorem LStep.frame : Frame (LStep may) [.listeners, .stat .numBusListeners] := by
  refine ⟨fun _ => .refl, .trans, fun h hb => ?_⟩
  cases h
  case listeners => simp at hb
  case cookie => exact .same (Nat.le_succ _)
  case stat f g hf => simp at hb; exact MapStep.refl.cast ((hf _).numBusListeners hb) rfl rfl
  case connDead => exact MapStep.refl.cast (by simp) (by simp) (by simp)
  all_goals exact .refl

theorem CLStep.frame : Frame (CLStep may) ([.channels, .stat .numChannels] ++ [.listeners, .stat .numBusListeners]) :=
  ChStep.frame.and LStep.frame

theorem CLStep.refl (s : St) : CLStep may s s := CLStep.frame.refl s
theorem CLStep.trans {a b c : St} (h1 : CLStep may a b) (h2 : CLStep may b c) : CLStep may a c := CLStep.frame.trans h1 h2
theorem CLStep.mono {may' : Listener → Prop} {s s' : St} (h : CLStep may s s') (ho : ∀ l, may l → may' l) : CLStep may' s s' := ⟨h.1, h.2.mono ho⟩

/-- the frame of "`s0` has come to here" -/
theorem CLStep.from (s0 : St) : Frame (fun s t => CLStep may s0 s → CLStep may s0 t) ([.channels, .stat .numChannels] ++ [.listeners, .stat .numBusListeners]) :=
  CLStep.frame.carries (fun hst h0 => h0.trans hst)

theorem ChStep.update {s : St} {c : Cookie} {ch ch' : Chan} (hf : AL.find? c s.b.channels = some ch) (h : ch.OK → ch'.OK) :
    ChStep s (s.setChannels (AL.insert c ch' s.b.channels)) := MapStep.update hf h trivial

theorem LStep.update {s : St} {c : Cookie} {l l' : Listener} (hf : AL.find? c s.b.listeners = some l) (h : l.OK → l'.OK) (ho : may l') :
    LStep may s (s.setListeners (AL.insert c l' s.b.listeners)) := MapStep.update hf h ho

theorem St.send_cl (s : St) (to : ConnId) (m : Rsp) (v : Option Nat) : CLStep may s (s.send to m v).1 :=
  (Fp.send (W := [.emit m.kind, .stat .messagesSent]) (.refl s) (by simp) (by simp)).frame CLStep.frame (by simp)

theorem removeChannelEnd_ch {s s' : St} {c e o} (h : removeChannelEnd s c e o = .ok s') : ChStep s s' := by
  rcases removeChannelEnd_outcome h with ⟨-, rfl⟩ | ⟨ch, ch', other, hf, hc, rfl⟩
  · exact .refl
  rcases rceFinish_cases (rceConn s c e o) c e ch' other with ⟨oid, rfl, -, heq⟩ | ⟨-, heq⟩ <;> rw [heq]
  · -- the owner of the other end is told
    exact ((MapStep.update hf (close_preserves · hc) trivial).cast (by simp [rceConn_stats]) (by simp [rceConn_nextCookie])
      (by simp [rceConn_channels]))
  · -- the channel goes: nobody is left to be told
    exact (MapStep.erase hf).cast (by simp [rceDrop, rceConn_stats]) (by simp [rceDrop, rceConn_nextCookie])
      (by simp [rceDrop, rceConn_channels, AL.erase_insert])

theorem createChannel_ch {s : St} {id serial e cap r} (h : createChannel s id serial e cap = .ok r) : ChStep s r.1 := by
  rcases createChannel_outcome h with hr | ⟨_, -, hr⟩ <;> rw [hr]
  · exact .refl
  · have hok : (Chan.fresh e id cap).OK := by
      cases e
      · exact withClaimedSender_ok _
      · exact withClaimedReceiver_ok _ _
    exact (MapStep.fresh (n' := s.b.nextCookie + 1) (Nat.lt_succ_self _) hok trivial).cast (by simp [openChannel])
      (by simp [openChannel]) (by simp [openChannel])

theorem claimChannelEnd_ch {s : St} {id serial c e cap r} (h : claimChannelEnd s id serial c e cap = .ok r) : ChStep s r.1 := by
  rcases claimChannelEnd_outcome h with hf | ⟨_, ch, ch', _, _, -, hch, hcl, hf⟩
  · exact hf.frame ChStep.frame
  · exact ((MapStep.update hch (fun _ => Chan.claim_preserves hcl) trivial).cast (by simp [claimEnd]) (by simp [claimEnd])
      (by simp [claimEnd])).trans (hf.frame ChStep.frame)

theorem closeChannelEnd_ch {s : St} {id serial c e r} (h : closeChannelEnd s id serial c e = .ok r) : ChStep s r.1 := by
  rcases closeChannelEnd_outcome h with hf | ⟨_, _, -, -, hr⟩
  · exact hf.frame ChStep.frame
  · exact MapStep.trans (St.send_cl (may := fun _ => True) ..).1 (removeChannelEnd_ch hr)

theorem addChannelCapacity_ch {s : St} {id c cap r} (h : addChannelCapacity s id c cap = .ok r) : ChStep s r.1 := by
  rcases addChannelCapacity_outcome h with hr | ⟨_, -, -, hr⟩ | ⟨ch, ch', fwd, hf, ha, hr⟩
  · rw [hr]; exact .refl
  · exact removeChannelEnd_ch hr
  · rw [hr]; exact MapStep.trans (ChStep.update hf (addCapacity_preserves · ha)) ((passCapacity_fp ..).frame ChStep.frame)

theorem sendItem_ch {s : St} {id c p r} (h : sendItem s id c p = .ok r) : ChStep s r.1 := by
  rcases sendItem_outcome h with hr | ⟨_, t, -, -, h1, h2⟩ | ⟨_, -, -, hr⟩ | ⟨_, ch, ch', rid, add, -, hf, hs, hr⟩
  · rw [hr]; exact .refl
  · exact MapStep.trans (removeChannelEnd_ch h1) (removeChannelEnd_ch h2)
  · exact removeChannelEnd_ch hr
  · rw [hr]; exact MapStep.trans (ChStep.update hf (sendItem_preserves · hs)) ((passItem_fp ..).frame ChStep.frame)

theorem removeBusListener_l (s : St) (c : Cookie) : LStep may s (removeBusListener s c) := by
  fun_cases removeBusListener s c
  · exact .refl
  · next l hf s1 s2 => exact (MapStep.erase hf).cast (by simp [s2, s1]) (by simp [s2, s1]) (by simp [s2, s1])

theorem destroyBusListener_l {s : St} {id serial c r} (h : destroyBusListener s id serial c = .ok r) : LStep may s r.1 := by
  rcases destroyBusListener_outcome h with hf | hr
  · exact hf.frame LStep.frame
  · rw [hr]; exact MapStep.trans (St.send_cl ..).2 (removeBusListener_l _ c)

theorem createBusListener_l {s : St} {id serial r} (h : createBusListener s id serial = .ok r) : LStep (·.conn = id) s r.1 := by
  rcases createBusListener_outcome h with hf | ⟨_, -, hr⟩
  · exact hf.frame LStep.frame
  · rw [hr]
    refine MapStep.cast (MapStep.fresh (n' := s.b.nextCookie + 1) (v := ({ conn := id } : Listener)) (Nat.lt_succ_self _)
      (Listener.new_ok id) rfl) ?_ ?_ ?_
    all_goals simp [addListener]

theorem updListener_l {s : St} {id c r} {f : Listener → Listener} (hf : ∀ l, l.OK → (f l).OK) (hc : ∀ l, (f l).conn = l.conn)
    (h : updListener s id c f = .ok r) : LStep (·.conn = id) s r.1 := by
  rcases updListener_outcome h with hr | ⟨l, hl, ho, hr⟩ <;> rw [hr]
  · exact .refl
  · exact .update hl (hf _) ((hc _).trans ho)

theorem stopBusListener_l {s : St} {id serial c r} (h : stopBusListener s id serial c = .ok r) : LStep (·.conn = id) s r.1 := by
  rcases stopBusListener_outcome h with hf | ⟨l, hl, ho, hr⟩
  · exact hf.frame LStep.frame
  · rw [hr]; exact MapStep.trans (LStep.update hl (Listener.setScope_ok none) ho) (St.send_cl ..).2

/-- the listener is started and told so; the events for what exists already change no map -/
theorem startBusListener_l {s : St} {id serial c sc r} (h : startBusListener s id serial c sc = .ok r) : LStep (·.conn = id) s r.1 := by
  rcases startBusListener_outcome h with hf | ⟨l, hl, ho, hf⟩
  · exact hf.frame LStep.frame
  · exact MapStep.trans (LStep.update hl (Listener.setScope_ok (some sc)) ho) (hf.frame LStep.frame)

theorem handleMessage_cl {s : St} {id : ConnId} {r} {m : Req} (h : handleMessage s id m = .ok r) : CLStep (·.conn = id) s r.1 := by
  cases m
  case createChannel => exact ⟨createChannel_ch h, (createChannel_fp h).frame LStep.frame⟩
  case closeChannelEnd => exact ⟨closeChannelEnd_ch h, (closeChannelEnd_fp h).frame LStep.frame⟩
  case claimChannelEnd => exact ⟨claimChannelEnd_ch h, (claimChannelEnd_fp h).frame LStep.frame⟩
  case sendItem => exact ⟨sendItem_ch h, (sendItem_fp h).frame LStep.frame⟩
  case addChannelCapacity => exact ⟨addChannelCapacity_ch h, (addChannelCapacity_fp h).frame LStep.frame⟩
  case createBusListener => exact ⟨(createBusListener_fp h).frame ChStep.frame, createBusListener_l h⟩
  case destroyBusListener => exact ⟨(destroyBusListener_fp h).frame ChStep.frame, destroyBusListener_l h⟩
  case addFilter f => exact ⟨(updListener_fp h).frame ChStep.frame, updListener_l (fun _ => Listener.addFilter_ok f) (fun _ => rfl) h⟩
  case removeFilter f => exact ⟨(updListener_fp h).frame ChStep.frame, updListener_l (fun _ => Listener.removeFilter_ok f) (fun _ => rfl) h⟩
  case clearFilters => exact ⟨(updListener_fp h).frame ChStep.frame, updListener_l (fun l _ => l.clearFilters_ok) (fun _ => rfl) h⟩
  case startBusListener => exact ⟨(startBusListener_fp h).frame ChStep.frame, startBusListener_l h⟩
  case stopBusListener => exact ⟨(stopBusListener_fp h).frame ChStep.frame, stopBusListener_l h⟩
  all_goals exact (handleMessage_fp h).frame CLStep.frame

/-- the removal of a connection creates and changes no listener -/
theorem shutdownConnection_cl {s s' : St} {id b} (h : shutdownConnection s id b = .ok s') : CLStep may s s' :=
  shutdownConnection_inv CLStep.frame (fun t c => ⟨(removeBusListener_fp t c).frame ChStep.frame, removeBusListener_l t c⟩)
    (fun _ _ _ hr => (removeObject_fp hr).frame CLStep.frame)
    (fun _ _ _ _ hr => ⟨removeChannelEnd_ch hr, (removeChannelEnd_fp hr).frame LStep.frame⟩) h

theorem handleEvent_cl {s s' : St} {e : Event} (h : handleEvent s e = .ok s') : CLStep (fun _ => True) s s' :=
  handleEvent_inv (CLStep.from s) (.refl s) (fun _ _ _ _ hm => (handleMessage_cl hm).mono fun _ _ => trivial)
    (fun id _ _ hn => CLStep.frame.step (.connNew s id _ hn) (by decide)) (fun id _ => CLStep.frame.step (.connDead s id) (by decide)) h

theorem processOne_cl {s s' : St} (h : processOne s = some (.ok s')) : CLStep may s s' :=
  processOne_inv (CLStep.from s) (.refl s) h fun _ _ _ hp hr => hp.trans (shutdownConnection_cl hr)

theorem step_cl {b b' : Broker} {w w' : Work} {e : Event} {out : List Out} (h : step b w e = .ok (b', w', out)) :
    CLStep (fun _ => True) ⟨b, w, []⟩ ⟨b', w', out⟩ :=
  step_inv (P := CLStep (fun _ => True) ⟨b, w, []⟩) (fun _ h1 => handleEvent_cl h1) (fun _ _ hp h1 => hp.trans (processOne_cl h1)) h

theorem run_cl (es : List Event) (b b' : Broker) (w w' : Work) (outs : List (List Out)) (h : run b w es = .ok (b', w', outs)) :
    CLStep (fun _ => True) ⟨b, w, []⟩ ⟨b', w', []⟩ :=
  run_inv (P := fun b1 w1 => CLStep (fun _ => True) ⟨b, w, []⟩ ⟨b1, w1, []⟩) (fun _ _ _ _ _ _ hp hs => hp.trans (step_cl hs : CLStep _ _ ⟨_, _, _⟩))
    es b b' w w' outs (.refl _) h

def ChInv (s : St) : Prop := AllV Chan.OK s.b.channels
def LInv (s : St) : Prop := AllV Listener.OK s.b.listeners
def CLInv (s : St) : Prop := ChInv s ∧ LInv s

theorem CLStep.clinv {s s' : St} (h : CLStep may s s') (hi : CLInv s) : CLInv s' := ⟨h.1.allV hi.1, h.2.allV hi.2⟩

theorem ChInv_of_eq {s s' : St} (h : ChInv s) (hs : s'.b.channels = s.b.channels) : ChInv s' := by
  unfold ChInv at *; rw [hs]; exact h

theorem removeChannelEnd_ChInv {s s' : St} {c e o} (h : ChInv s) (hr : removeChannelEnd s c e o = .ok s') : ChInv s' :=
  (removeChannelEnd_ch hr).allV h

theorem handleEvent_CLInv {s s' : St} {e : Event} (h : CLInv s) (hr : handleEvent s e = .ok s') : CLInv s' :=
  (handleEvent_cl hr).clinv h

@[simp] theorem emitBusEvent_channels (s : St) (e : BusEv) : (emitBusEvent s e).b.channels = s.b.channels := (emitBusEvent_cl s e).1
@[simp] theorem emitBusEvent_listeners (s : St) (e : BusEv) : (emitBusEvent s e).b.listeners = s.b.listeners := (emitBusEvent_cl s e).2.1
@[simp] theorem emitBusEvent_numChannels (s : St) (e : BusEv) : (emitBusEvent s e).b.stats.numChannels = s.b.stats.numChannels := (emitBusEvent_cl s e).2.2.1
@[simp] theorem emitBusEvent_numBusListeners (s : St) (e : BusEv) : (emitBusEvent s e).b.stats.numBusListeners = s.b.stats.numBusListeners := (emitBusEvent_cl s e).2.2.2.1
theorem emitBusEvent_nextCookie (s : St) (e : BusEv) : s.b.nextCookie ≤ (emitBusEvent s e).b.nextCookie := (emitBusEvent_cl s e).2.2.2.2

theorem processOne_CLInv {s s' : St} (h : CLInv s) (hr : processOne s = some (.ok s')) : CLInv s' :=
  (processOne_cl (may := fun _ => True) hr).clinv h

theorem step_CLInv {b b' : Broker} {w w' : Work} {e : Event} {out : List Out}
    (h : CLInv ⟨b, w, []⟩) (hr : step b w e = .ok (b', w', out)) : CLInv ⟨b', w', []⟩ :=
  ((step_cl hr).clinv h : CLInv ⟨b', w', out⟩)

theorem CLInv_init : CLInv ⟨{}, {}, []⟩ := ⟨AllV_nil, AllV_nil⟩

theorem CLInv_b {b : Broker} {w w' : Work} {o o' : List Out} (h : CLInv ⟨b, w, o⟩) : CLInv ⟨b, w', o'⟩ := h

/-- For every history: whenever the run does not panic, every channel and every bus listener of the
final state satisfies its invariant. -/
theorem run_CLInv : ∀ (es : List Event) (b b' : Broker) (w w' : Work) (outs : List (List Out)),
    CLInv ⟨b, w, []⟩ → run b w es = .ok (b', w', outs) → CLInv ⟨b', w', []⟩ :=
  fun es b b' w w' outs h hr => (run_cl es b b' w w' outs hr).clinv h

end Aldrin.Broker
