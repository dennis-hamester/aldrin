/-
Which messages that the client checks against its book-keeping — replies by their serial, the created-events and the
marker that answer the start of a bus listener by their listener tag (`sf`) — one turn of the broker model puts into the
connections' queues: handling a request appends at most one such reply, to the requesting connection, of the request's
kind and with its serial (`AtMost`); `startBusListener` alone is followed by tagged messages to the same connection
(`AtMostT`, `OneReply`); nothing else the broker does (clean-up of a connection, the deferred work loop, bus events, the
other events of `Broker::run`) appends any.
(`queryIntrospectionReply` is not among them: it is produced later, when another client has answered.)
-/
import Aldrin.Lemmas.Broker.SameCL
import Aldrin.Lemmas.Broker.Send
import Aldrin.Lemmas.Broker.Turn
import Aldrin.Lemmas.Client.Pending

namespace Aldrin.Broker
open Aldrin.Client (SKind rspKey reqKey)

/-- kind and serial of a reply that is produced while the request is handled -/
def strictKey (m : Rsp) : Option (SKind × Nat) :=
  match rspKey m with
  | some (.queryIntrospection, _) => none
  | x => x

/-- kind and serial under which a request is answered while it is handled -/
def reqKeyS (r : Req) : Option (SKind × Nat) :=
  match reqKey r with
  | some (.queryIntrospection, _) => none
  | x => x

@[simp, grind =] theorem strictKey_createObjectReply {a0 a1} : strictKey (.createObjectReply a0 a1) = some (.createObject, a0) := rfl
@[simp, grind =] theorem strictKey_destroyObjectReply {a0 a1} : strictKey (.destroyObjectReply a0 a1) = none := rfl
@[simp, grind =] theorem strictKey_createServiceReply {a0 a1} : strictKey (.createServiceReply a0 a1) = some (.createService, a0) := rfl
@[simp, grind =] theorem strictKey_destroyServiceReply {a0 a1} : strictKey (.destroyServiceReply a0 a1) = none := rfl
@[simp, grind =] theorem strictKey_callFunction {a0 a1 a2 a3} : strictKey (.callFunction a0 a1 a2 a3) = none := rfl
@[simp, grind =] theorem strictKey_callFunction2 {a0 a1 a2 a3 a4} : strictKey (.callFunction2 a0 a1 a2 a3 a4) = none := rfl
@[simp, grind =] theorem strictKey_callFunctionReply {a0 a1} : strictKey (.callFunctionReply a0 a1) = none := rfl
@[simp, grind =] theorem strictKey_abortFunctionCall {a0} : strictKey (.abortFunctionCall a0) = none := rfl
@[simp, grind =] theorem strictKey_subscribeEvent {a0 a1} : strictKey (.subscribeEvent a0 a1) = none := rfl
@[simp, grind =] theorem strictKey_subscribeEventReply {a0 a1} : strictKey (.subscribeEventReply a0 a1) = some (.subscribeEvent, a0) := rfl
@[simp, grind =] theorem strictKey_unsubscribeEvent {a0 a1} : strictKey (.unsubscribeEvent a0 a1) = none := rfl
@[simp, grind =] theorem strictKey_emitEvent {a0 a1 a2} : strictKey (.emitEvent a0 a1 a2) = none := rfl
@[simp, grind =] theorem strictKey_queryServiceVersionReply {a0 a1} : strictKey (.queryServiceVersionReply a0 a1) = some (.queryServiceVersion, a0) := rfl
@[simp, grind =] theorem strictKey_queryServiceInfoReply {a0 a1} : strictKey (.queryServiceInfoReply a0 a1) = some (.queryServiceInfo, a0) := rfl
@[simp, grind =] theorem strictKey_subscribeServiceReply {a0 a1} : strictKey (.subscribeServiceReply a0 a1) = some (.subscribeService, a0) := rfl
@[simp, grind =] theorem strictKey_subscribeAllEvents {a0} : strictKey (.subscribeAllEvents a0) = none := rfl
@[simp, grind =] theorem strictKey_subscribeAllEventsReply {a0 a1} : strictKey (.subscribeAllEventsReply a0 a1) = some (.subscribeAllEvents, a0) := rfl
@[simp, grind =] theorem strictKey_unsubscribeAllEvents {a0} : strictKey (.unsubscribeAllEvents a0) = none := rfl
@[simp, grind =] theorem strictKey_unsubscribeAllEventsReply {a0 a1} : strictKey (.unsubscribeAllEventsReply a0 a1) = some (.unsubscribeAllEvents, a0) := rfl
@[simp, grind =] theorem strictKey_serviceDestroyed {a0} : strictKey (.serviceDestroyed a0) = none := rfl
@[simp, grind =] theorem strictKey_createChannelReply {a0 a1} : strictKey (.createChannelReply a0 a1) = some (.createChannel, a0) := rfl
@[simp, grind =] theorem strictKey_closeChannelEndReply {a0 a1} : strictKey (.closeChannelEndReply a0 a1) = some (.closeChannelEnd, a0) := rfl
@[simp, grind =] theorem strictKey_channelEndClosed {a0 a1} : strictKey (.channelEndClosed a0 a1) = none := rfl
@[simp, grind =] theorem strictKey_claimChannelEndReply {a0 a1} : strictKey (.claimChannelEndReply a0 a1) = some (.claimChannelEnd, a0) := rfl
@[simp, grind =] theorem strictKey_channelEndClaimed {a0 a1 a2} : strictKey (.channelEndClaimed a0 a1 a2) = none := rfl
@[simp, grind =] theorem strictKey_itemReceived {a0 a1} : strictKey (.itemReceived a0 a1) = none := rfl
@[simp, grind =] theorem strictKey_addChannelCapacity {a0 a1} : strictKey (.addChannelCapacity a0 a1) = none := rfl
@[simp, grind =] theorem strictKey_syncReply {a0} : strictKey (.syncReply a0) = some (.sync, a0) := rfl
@[simp, grind =] theorem strictKey_createBusListenerReply {a0 a1} : strictKey (.createBusListenerReply a0 a1) = some (.createBusListener, a0) := rfl
@[simp, grind =] theorem strictKey_destroyBusListenerReply {a0 a1} : strictKey (.destroyBusListenerReply a0 a1) = some (.destroyBusListener, a0) := rfl
@[simp, grind =] theorem strictKey_startBusListenerReply {a0 a1} : strictKey (.startBusListenerReply a0 a1) = some (.startBusListener, a0) := rfl
@[simp, grind =] theorem strictKey_stopBusListenerReply {a0 a1} : strictKey (.stopBusListenerReply a0 a1) = some (.stopBusListener, a0) := rfl
@[simp, grind =] theorem strictKey_emitBusEvent {a0 a1} : strictKey (.emitBusEvent a0 a1) = none := rfl
@[simp, grind =] theorem strictKey_busListenerCurrentFinished {a0} : strictKey (.busListenerCurrentFinished a0) = none := rfl
@[simp, grind =] theorem strictKey_queryIntrospection {a0 a1} : strictKey (.queryIntrospection a0 a1) = none := rfl
@[simp, grind =] theorem strictKey_queryIntrospectionReply {a0 a1} : strictKey (.queryIntrospectionReply a0 a1) = none := rfl
@[simp, grind =] theorem strictKey_shutdown : strictKey .shutdown = none := rfl

/-- the listener a message is tagged with: the created-events for existing objects and services that answer the
start of a bus listener, and the marker that ends them -/
def tagOf : Rsp → Option Cookie
  | .emitBusEvent l _ => l
  | .busListenerCurrentFinished c => some c
  | _ => none

@[simp, grind =] theorem tagOf_createObjectReply {a0 a1} : tagOf (.createObjectReply a0 a1) = none := rfl
@[simp, grind =] theorem tagOf_destroyObjectReply {a0 a1} : tagOf (.destroyObjectReply a0 a1) = none := rfl
@[simp, grind =] theorem tagOf_createServiceReply {a0 a1} : tagOf (.createServiceReply a0 a1) = none := rfl
@[simp, grind =] theorem tagOf_destroyServiceReply {a0 a1} : tagOf (.destroyServiceReply a0 a1) = none := rfl
@[simp, grind =] theorem tagOf_callFunction {a0 a1 a2 a3} : tagOf (.callFunction a0 a1 a2 a3) = none := rfl
@[simp, grind =] theorem tagOf_callFunction2 {a0 a1 a2 a3 a4} : tagOf (.callFunction2 a0 a1 a2 a3 a4) = none := rfl
@[simp, grind =] theorem tagOf_callFunctionReply {a0 a1} : tagOf (.callFunctionReply a0 a1) = none := rfl
@[simp, grind =] theorem tagOf_abortFunctionCall {a0} : tagOf (.abortFunctionCall a0) = none := rfl
@[simp, grind =] theorem tagOf_subscribeEvent {a0 a1} : tagOf (.subscribeEvent a0 a1) = none := rfl
@[simp, grind =] theorem tagOf_subscribeEventReply {a0 a1} : tagOf (.subscribeEventReply a0 a1) = none := rfl
@[simp, grind =] theorem tagOf_unsubscribeEvent {a0 a1} : tagOf (.unsubscribeEvent a0 a1) = none := rfl
@[simp, grind =] theorem tagOf_emitEvent {a0 a1 a2} : tagOf (.emitEvent a0 a1 a2) = none := rfl
@[simp, grind =] theorem tagOf_queryServiceVersionReply {a0 a1} : tagOf (.queryServiceVersionReply a0 a1) = none := rfl
@[simp, grind =] theorem tagOf_queryServiceInfoReply {a0 a1} : tagOf (.queryServiceInfoReply a0 a1) = none := rfl
@[simp, grind =] theorem tagOf_subscribeServiceReply {a0 a1} : tagOf (.subscribeServiceReply a0 a1) = none := rfl
@[simp, grind =] theorem tagOf_subscribeAllEvents {a0} : tagOf (.subscribeAllEvents a0) = none := rfl
@[simp, grind =] theorem tagOf_subscribeAllEventsReply {a0 a1} : tagOf (.subscribeAllEventsReply a0 a1) = none := rfl
@[simp, grind =] theorem tagOf_unsubscribeAllEvents {a0} : tagOf (.unsubscribeAllEvents a0) = none := rfl
@[simp, grind =] theorem tagOf_unsubscribeAllEventsReply {a0 a1} : tagOf (.unsubscribeAllEventsReply a0 a1) = none := rfl
@[simp, grind =] theorem tagOf_serviceDestroyed {a0} : tagOf (.serviceDestroyed a0) = none := rfl
@[simp, grind =] theorem tagOf_createChannelReply {a0 a1} : tagOf (.createChannelReply a0 a1) = none := rfl
@[simp, grind =] theorem tagOf_closeChannelEndReply {a0 a1} : tagOf (.closeChannelEndReply a0 a1) = none := rfl
@[simp, grind =] theorem tagOf_channelEndClosed {a0 a1} : tagOf (.channelEndClosed a0 a1) = none := rfl
@[simp, grind =] theorem tagOf_claimChannelEndReply {a0 a1} : tagOf (.claimChannelEndReply a0 a1) = none := rfl
@[simp, grind =] theorem tagOf_channelEndClaimed {a0 a1 a2} : tagOf (.channelEndClaimed a0 a1 a2) = none := rfl
@[simp, grind =] theorem tagOf_itemReceived {a0 a1} : tagOf (.itemReceived a0 a1) = none := rfl
@[simp, grind =] theorem tagOf_addChannelCapacity {a0 a1} : tagOf (.addChannelCapacity a0 a1) = none := rfl
@[simp, grind =] theorem tagOf_syncReply {a0} : tagOf (.syncReply a0) = none := rfl
@[simp, grind =] theorem tagOf_createBusListenerReply {a0 a1} : tagOf (.createBusListenerReply a0 a1) = none := rfl
@[simp, grind =] theorem tagOf_destroyBusListenerReply {a0 a1} : tagOf (.destroyBusListenerReply a0 a1) = none := rfl
@[simp, grind =] theorem tagOf_startBusListenerReply {a0 a1} : tagOf (.startBusListenerReply a0 a1) = none := rfl
@[simp, grind =] theorem tagOf_stopBusListenerReply {a0 a1} : tagOf (.stopBusListenerReply a0 a1) = none := rfl
@[simp, grind =] theorem tagOf_emitBusEvent {a0 a1} : tagOf (.emitBusEvent a0 a1) = a0 := rfl
@[simp, grind =] theorem tagOf_busListenerCurrentFinished {a0} : tagOf (.busListenerCurrentFinished a0) = some a0 := rfl
@[simp, grind =] theorem tagOf_queryIntrospection {a0 a1} : tagOf (.queryIntrospection a0 a1) = none := rfl
@[simp, grind =] theorem tagOf_queryIntrospectionReply {a0 a1} : tagOf (.queryIntrospectionReply a0 a1) = none := rfl
@[simp, grind =] theorem tagOf_shutdown : tagOf .shutdown = none := rfl

/-- a message the client checks against its book-keeping by serial or by listener tag -/
def Out.strict (o : Out) : Bool := (strictKey o.msg).isSome || (tagOf o.msg).isSome

/-- the serial replies and tagged messages among the outputs -/
def sf (l : List Out) : List Out := l.filter Out.strict

@[simp, grind =] theorem sf_append (a b : List Out) : sf (a ++ b) = sf a ++ sf b := by simp [sf]
@[simp, grind =] theorem sf_nil : sf [] = [] := rfl
@[simp, grind =] theorem sf_single (o : Out) : sf [o] = if (strictKey o.msg).isSome || (tagOf o.msg).isSome then [o] else [] := by
  cases h : ((strictKey o.msg).isSome || (tagOf o.msg).isSome) <;> simp [sf, Out.strict, h]

theorem sf_cons (o : Out) (t : List Out) : sf (o :: t) = sf [o] ++ sf t := by
  rw [← sf_append]; rfl

@[simp] theorem sf_ite (c : Prop) [Decidable c] (a b : List Out) :
    sf (if c then a else b) = if c then sf a else sf b := by split <;> rfl

theorem sf_of_all {l : List Out} (h : ∀ x ∈ l, x.strict = true) : sf l = l := by
  unfold sf; exact List.filter_eq_self.mpr h

/-- no serial reply and no tagged message was added -/
def SameS (s s' : St) : Prop := sf s'.out = sf s.out

theorem SameS.refl (s : St) : SameS s s := rfl
theorem SameS.trans {a b c : St} (h1 : SameS a b) (h2 : SameS b c) : SameS a c := Eq.trans h2 h1

/-- at most one serial reply was added; it goes to `id` and has the given kind and serial -/
def AtMost (s s' : St) (id : ConnId) (key : Option (SKind × Nat)) : Prop :=
  sf s'.out = sf s.out ∨ ∃ o, sf s'.out = sf s.out ++ [o] ∧ o.to = id ∧ strictKey o.msg = key ∧ key.isSome

theorem AtMost.of_same {s s' : St} {id key} (h : SameS s s') : AtMost s s' id key := Or.inl h

/-- the kinds of the messages that carry a checked serial or a listener tag -/
def RKind.strict : RKind → Bool
  | .createObjectReply | .createServiceReply | .subscribeEventReply | .queryServiceVersionReply | .queryServiceInfoReply
  | .subscribeServiceReply | .subscribeAllEventsReply | .unsubscribeAllEventsReply | .createChannelReply
  | .closeChannelEndReply | .claimChannelEndReply | .syncReply | .createBusListenerReply | .destroyBusListenerReply
  | .startBusListenerReply | .stopBusListenerReply | .emitBusEvent | .busListenerCurrentFinished => true
  | _ => false

theorem kind_of_strict {o : Out} (h : o.strict = true) : o.msg.kind.strict = true := by
  obtain ⟨_, m, _⟩ := o
  cases m <;> first | rfl | cases h

/-- an update that adds no message of these kinds -/
def Prim.quiet : Prim → Bool
  | .emit k => !k.strict
  | _ => true

/-- A function whose footprint has no update that adds a checked message adds none. The side condition tests each
label of `W` with `Prim.quiet` where `Fp.frame` compares `W` with a list of labels to avoid: that comparison is slow to check. -/
theorem Fp.sameS {W} {s s' : St} (h : Fp W s s') (hq : W.all Prim.quiet = true := by fp_decide) : SameS s s' :=
  h.filter_out _ fun _ ho => Bool.eq_false_iff.mpr fun hs => by
    simpa [Prim.quiet, kind_of_strict hs] using List.all_eq_true.mp hq _ ho

@[simp, grind =] theorem removeBusListener_out (s : St) (c : Cookie) : (removeBusListener s c).out = s.out := by
  unfold removeBusListener; split <;> simp

/-- What a handler does about the reply that `id` is owed under `key`: at most that reply is added, and success is
reported to a connection that is there only if it was added. -/
structure Reply (s : St) (id : ConnId) (key : Option (SKind × Nat)) (r : St × Bool) : Prop where
  atMost : AtMost s r.1 id key
  answered : r.2 = true → key.isSome = true → (s.conn? id).isSome = true → sf r.1.out ≠ sf s.out

theorem Reply.gone {s : St} {id key} (h : s.conn? id = none) : Reply s id key (s, true) :=
  ⟨.inl rfl, fun _ _ hc => by rw [h] at hc; cases hc⟩

theorem Reply.refused {s t : St} {id key} (h : SameS s t) : Reply s id key (t, false) :=
  ⟨.inl h, nofun⟩

theorem Reply.unkeyed {s : St} {id} {r : St × Bool} (h : SameS s r.1) : Reply s id none r :=
  ⟨.inl h, fun _ hk => nomatch hk⟩

/-- the reply is sent between updates that add no checked message -/
theorem Reply.sent {s t t' u : St} {id key m v ok ok'} (x : t.send id m v = (t', ok)) (hk : strictKey m = key)
    (hs : key.isSome = true) (pre : SameS s t) (post : SameS t' u) (hok : ok' = true → ok = true) :
    Reply s id key (u, ok') := by
  obtain ⟨rfl, rfl⟩ : (t.send id m v).1 = t' ∧ (t.send id m v).2 = ok := by rw [x]; exact ⟨rfl, rfl⟩
  have hm : ((strictKey m).isSome || (tagOf m).isSome) = true := by rw [hk, hs]; rfl
  have e : sf u.out = if (t.send id m v).2 then sf s.out ++ [⟨id, m, v⟩] else sf s.out := by
    rw [post, St.send_out, St.send_snd, sf_append, pre]
    cases aliveB t id
    · simp
    · simp [hm]
  refine ⟨?_, fun h _ _ => ?_⟩
  · show _ ∨ _
    rw [e]
    split
    · exact .inr ⟨_, rfl, rfl, hk, hs⟩
    · exact .inl rfl
  · show sf u.out ≠ _
    rw [e, if_pos (hok h)]
    exact fun e => by simpa using congrArg List.length e

theorem Reply.send {s t : St} {id key m v} (hk : strictKey m = key) (hs : key.isSome = true) (pre : SameS s t) :
    Reply s id key (t.send id m v) :=
  Reply.sent rfl hk hs pre (.refl _) (fun h => h)

/- The updates are opaque from here on: a path of a handler is matched against the forms above as it is written, and
the unifier must not look for a `send` inside a state. -/
attribute [local irreducible] St.send St.sendOrRemove St.updConn St.setConn

/-- The paths of a handler that end well, each with its result in place of `r`; what `let (t, ok) := u.send ..` binds
appears as an equation `u.send .. = (t, ok)`. -/
macro "reply_walk" f:term : tactic => `(tactic|
  (show $f = .ok _ → _
   fun_cases $f <;> intro h <;> cases h
   all_goals try cases ‹St.freshCookie _ = _›))

/-- On each path of a handler that owes `id` a reply the connection is not there, or the reply is sent to `id` between
updates that add no checked message, or the request is refused before anything is sent. -/
macro "reply_close" : tactic => `(tactic|
  (all_goals first
     | exact .gone ‹_›
     | exact .sent ‹_› rfl rfl (by simp +zetaDelta [SameS, St.send_out, St.sendOrRemove_out]) (by simp +zetaDelta [SameS, St.send_out, St.sendOrRemove_out]) (by simp_all)
     | exact .refused (by simp +zetaDelta [SameS, St.send_out, St.sendOrRemove_out])
     | exact .unkeyed (by simp +zetaDelta [SameS, St.send_out, St.sendOrRemove_out])
     | exact .send rfl rfl (by simp +zetaDelta [SameS, St.send_out, St.sendOrRemove_out])))

theorem createServiceImpl_rep {s : St} {id serial oc uuid info r} :
    createServiceImpl s id serial oc uuid info = .ok r → Reply s id (some (.createService, serial)) r := by
  reply_walk (createServiceImpl s id serial oc uuid info)
  reply_close

theorem sendAll_out : ∀ (l : List Rsp) (s : St) (id : ConnId),
    ∃ t, (sendAll s id l).1.out = s.out ++ t ∧ ∀ x ∈ t, x.to = id ∧ x.msg ∈ l := by
  intro l
  induction l with
  | nil => intro s id; exact ⟨[], by simp [sendAll], by simp⟩
  | cons a l ih =>
    intro s id
    simp only [sendAll]
    have h1 := St.send_snd s id a none
    have h2 := St.send_out s id a none
    cases ha : aliveB s id <;> rw [ha] at h1 h2
    · exact ⟨[], by simp [h1, h2], by simp⟩
    · obtain ⟨t, ht, hx⟩ := ih (s.send id a).1 id
      refine ⟨⟨id, a, none⟩ :: t, ?_, ?_⟩
      · simp [h1, ht, h2]
      · intro x hxm
        simp only [List.mem_cons] at hxm
        rcases hxm with rfl | hxm
        · simp
        · exact ⟨(hx x hxm).1, by simp [(hx x hxm).2]⟩

/-- at most one serial reply was added, to `id`, with the given kind and serial; whatever follows it is tagged and goes to `id` too -/
def AtMostT (s s' : St) (id : ConnId) (key : Option (SKind × Nat)) : Prop :=
  sf s'.out = sf s.out ∨ ∃ o t, sf s'.out = sf s.out ++ o :: t ∧ o.to = id ∧ strictKey o.msg = key ∧ key.isSome ∧
    ∀ x ∈ t, x.to = id ∧ strictKey x.msg = none

theorem AtMost.toT {s s' : St} {id key} (h : AtMost s s' id key) : AtMostT s s' id key := by
  rcases h with h | ⟨o, h1, h2, h3, h4⟩
  · exact Or.inl h
  · exact Or.inr ⟨o, [], h1, h2, h3, h4, by simp⟩

theorem mem_sf {x : Out} {l : List Out} (h : x ∈ sf l) : x ∈ l := (List.mem_filter.mp h).1

/-- The start of a listener: the reply as for every other request, and then, if the scope includes what exists, the
tagged created-events and the marker, as far as they could be sent. -/
theorem startBusListener_rep {s : St} {id serial c sc r} : startBusListener s id serial c sc = .ok r →
    AtMostT s r.1 id (some (.startBusListener, serial)) ∧
      (r.2 = true → (s.conn? id).isSome = true → sf r.1.out ≠ sf s.out) := by
  fun_cases startBusListener s id serial c sc <;> intro h <;> cases h
  rotate_right
  · next s1 ok x hok _ so ss _ _ =>
    obtain ⟨t, ht, hx⟩ := sendAll_out (currentObjMsgs s1.b _ c so ++ currentSvcMsgs s1.b _ c ss ++ [.busListenerCurrentFinished c]) s1 id
    have e : sf (s1.out ++ t) = sf s.out ++ ⟨id, .startBusListenerReply serial .ok, none⟩ :: sf t := by
      have ha := (St.send_snd _ id (.startBusListenerReply serial .ok) none).symm.trans (congrArg Prod.snd x)
      rw [sf_append, congrArg (·.1.out) x.symm, St.send_out, ha, show ok = true by simpa using hok]; simp +zetaDelta
    rw [← ht] at e
    refine ⟨.inr ⟨_, sf t, e, rfl, rfl, rfl, fun y hy => ?_⟩, fun _ _ e' => ?_⟩
    · obtain ⟨h1, h2⟩ := hx y (mem_sf hy)
      refine ⟨h1, ?_⟩
      rcases currentMsgs_tagged h2 with ⟨e, he⟩ | he <;> (rw [he]; rfl)
    · rw [e] at e'; simpa using congrArg List.length e'
  all_goals refine (fun R : Reply s id _ _ => ⟨R.atMost.toT, fun h => R.answered h rfl⟩) ?_
  reply_close

/-- **Every request but the start of a listener**, which is answered by more than its reply. -/
theorem handleMessage_reply {s : St} {id : ConnId} {r} : ∀ {m : Req}, (∀ n ck sc, m ≠ .startBusListener n ck sc) →
    handleMessage s id m = .ok r → Reply s id (reqKeyS m) r
  | .createObject serial uuid, _ => by reply_walk (createObject s id serial uuid); reply_close
  | .createService serial oc uuid v, _ => (createServiceImpl_rep : createService s id serial oc uuid v = .ok r → _)
  | .createService2 serial oc uuid info, _ => by
    show createService2 s id serial oc uuid info = .ok r → _
    fun_cases createService2 s id serial oc uuid info
    · intro h; cases h; exact .gone ‹_›
    · intro h; cases h; exact .refused (.refl _)
    · exact createServiceImpl_rep
  | .subscribeEvent serial svc ev, _ => by reply_walk (subscribeEvent s id serial svc ev); reply_close
  | .queryServiceVersion serial svc, _ => by reply_walk (queryServiceVersion s id serial svc); reply_close
  | .queryServiceInfo serial svc, _ => by reply_walk (queryServiceInfo s id serial svc); reply_close
  | .subscribeService serial svc, _ => by reply_walk (subscribeService s id serial svc); reply_close
  | .subscribeAllEvents serial svc, _ => by reply_walk (subscribeAllEvents s id serial svc); reply_close
  | .unsubscribeAllEvents serial svc, _ => by
    reply_walk (unsubscribeAllEvents s id serial svc)
    all_goals try (cases serial; try cases ‹(_, _) = (_, _)›)
    reply_close
  | .createChannel serial e cap, _ => by
    reply_walk (createChannel s id serial e cap)
    all_goals try (cases e <;> cases ‹(_, _) = (_, _)›)
    reply_close
  | .closeChannelEnd serial c e, _ => by
    reply_walk (closeChannelEnd s id serial c e)
    · exact .gone ‹_›
    · exact .send rfl rfl (.refl _)
    · exact .sent ‹_› rfl rfl (.refl _) (.refl _) nofun
    · exact .sent ‹_› rfl rfl (.refl _) (removeChannelEnd_fp ‹_›).sameS (by simp_all)
    · exact .sent ‹_› rfl rfl (.refl _) (.refl _) (by simp_all)
  | .claimChannelEnd serial c e cap, _ => by reply_walk (claimChannelEnd s id serial c e cap); reply_close
  | .sync serial, _ => by reply_walk (sync s id serial); reply_close
  | .createBusListener serial, _ => by reply_walk (createBusListener s id serial); reply_close
  | .destroyBusListener serial c, _ => by reply_walk (destroyBusListener s id serial c); reply_close
  | .startBusListener n ck sc, hm => absurd rfl (hm n ck sc)
  | .stopBusListener serial c, _ => by reply_walk (stopBusListener s id serial c); reply_close
  | .destroyObject .., _ | .destroyService .., _ | .callFunction .., _ | .callFunction2 .., _ | .callFunctionReply .., _
  | .abortFunctionCall .., _ | .unsubscribeEvent .., _ | .emitEvent .., _ | .unsubscribeService .., _ | .sendItem .., _
  | .addChannelCapacity .., _ | .addFilter .., _ | .removeFilter .., _ | .clearFilters .., _ | .registerIntrospection .., _
  | .queryIntrospection .., _ | .queryIntrospectionReply .., _ | .other _, _ => fun h => .unkeyed (handleMessage_fp h).sameS

theorem handleMessage_rep {s s' : St} {id : ConnId} {m : Req} {ok : Bool}
    (hr : handleMessage s id m = .ok (s', ok)) : AtMostT s s' id (reqKeyS m) := by
  cases m
  case startBusListener => exact (startBusListener_rep hr).1
  all_goals exact (handleMessage_reply (by exact fun _ _ _ h => nomatch h) hr).atMost.toT

theorem emitBusEvent_s (s : St) (e : BusEv) : SameS s (emitBusEvent s e) :=
  foldl_inv (P := SameS s) (fun t a ht => by split <;> simp_all [SameS, St.sendOrRemove_out]) (.refl _)

theorem processOne_s {s s' : St} (h : processOne s = some (.ok s')) : SameS s s' := by
  obtain ⟨i, t, hp, hr⟩ := processOne_item h
  cases i
  case bus e => cases hr; exact ((St.pop_fp hp).sameS (by item_decide)).trans (emitBusEvent_s t e)
  all_goals exact (Item.fp hp hr).sameS (by item_decide)

theorem processLoop_s (fuel : Nat) (s s' : St) : processLoop fuel s = .ok s' → SameS s s' :=
  processLoop_inv (P := SameS s) (fun _ _ hp h => hp.trans (processOne_s h)) fuel s s' (.refl s)

/-- what one turn of `Broker::run` puts into the queues, as far as checked serials and tags go -/
def OneReply (id : ConnId) (key : Option (SKind × Nat)) (out : List Out) : Prop :=
  sf out = [] ∨ ∃ o t, sf out = o :: t ∧ o.to = id ∧ strictKey o.msg = key ∧ key.isSome ∧ ∀ x ∈ t, x.to = id ∧ strictKey x.msg = none

/-- Handling a request appends at most one reply with a checked serial: to the requesting connection, of the
request's kind, under the request's serial; tagged messages only follow such a reply and go to the same connection. -/
theorem step_msg_reply {b b' : Broker} {w w' : Work} {id : ConnId} {m : Req} {out : List Out}
    (hr : step b w (.msg id m) = .ok (b', w', out)) : OneReply id (reqKeyS m) out := by
  obtain ⟨s1, h1, h2⟩ := step_ok hr
  obtain ⟨r, hm, hf⟩ := handleEvent_msg_ok h1
  have e : sf out = sf r.1.out := (hf.sameS.trans (processLoop_s _ _ _ h2) :)
  simpa only [OneReply, AtMostT, e, sf_nil, List.nil_append] using handleMessage_rep hm

theorem step_other_no_reply {b b' : Broker} {w w' : Work} {e : Event} {out : List Out}
    (he : ∀ id m, e ≠ .msg id m) (hr : step b w e = .ok (b', w', out)) : sf out = [] := by
  obtain ⟨s1, h1, h2⟩ := step_ok hr
  refine (SameS.trans (a := ⟨b, w, []⟩) ?_ (processLoop_s _ _ _ h2) :)
  cases e <;> first | exact absurd rfl (he _ _) | exact (handleEvent_fp h1).sameS

end Aldrin.Broker
