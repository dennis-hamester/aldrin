/-
The balance of calls and replies of one connection `c` and one caller serial `n` through every function of the broker
model: `replies to c with serial n put into its queue + (1 if a call (c, n) is pending in c's table)` changes only when
the broker takes a call `(c, n)`, as long as `c` is there with its task running (`BalK`). No invariant is needed: the
law holds from any state, for every handler, clean-up function and step of the work loop, hence for every history
(`run_bal`, whose last clause says that for a caller that keeps to the protocol every call request is taken).
-/
import Aldrin.Lemmas.Broker.CallOut
import Aldrin.Lemmas.Broker.CallConn

namespace Aldrin.Broker
open Generated

/-- a reply to connection `c` for its call with serial `n` -/
def isRep (c : ConnId) (n : Nat) (o : Out) : Bool :=
  o.to == c && (match o.msg with | .callFunctionReply m _ => m == n | _ => false)

def reps (c : ConnId) (n : Nat) (l : List Out) : Nat := (l.filter (isRep c n)).length

@[simp] theorem reps_nil (c n) : reps c n [] = 0 := rfl
@[simp] theorem reps_append (c n) (a b : List Out) : reps c n (a ++ b) = reps c n a + reps c n b := by simp [reps]
@[simp] theorem reps_single (c n) (o : Out) : reps c n [o] = if isRep c n o then 1 else 0 := by
  cases h : isRep c n o <;> simp [reps, h]

theorem isRep_isR {c n} {o : Out} (h : isRep c n o = true) : isR o.msg = true := by
  unfold isRep at h
  cases hm : o.msg <;> simp_all [isR]

theorem reps_rf (c n) (l : List Out) : reps c n (rf l) = reps c n l := by
  unfold reps rf
  rw [List.filter_filter]
  congr 1
  apply List.filter_congr
  intro o _
  cases h : isRep c n o
  · simp
  · simp [isRep_isR h]

theorem reps_of_sameR {c n} {s s' : St} (h : SameR s s') : reps c n s'.out = reps c n s.out := by
  rw [← reps_rf, h, reps_rf]

/-- whether serial `n` is in a table of pending calls -/
def pendC (t : CallTbl) (n : Nat) : Nat := if (AL.find? n t).isSome then 1 else 0

/-- for connection `c` and serial `n`: if `c` is there afterwards and its task still runs, it was there before, and
`replies sent + (1 if pending)` grew by `k` -/
def BalK (c : ConnId) (n k : Nat) (s s' : St) : Prop :=
  ∀ t', ck s' c = some (t', true) →
    ∃ t, ck s c = some (t, true) ∧ reps c n s'.out + pendC t' n = reps c n s.out + pendC t n + k

theorem BalK.refl (c n : Nat) (s : St) : BalK c n 0 s s := fun t' h => ⟨t', h, rfl⟩

theorem BalK.trans {c n k1 k2 : Nat} {a b d : St} (h1 : BalK c n k1 a b) (h2 : BalK c n k2 b d) : BalK c n (k1 + k2) a d := by
  intro t' h
  obtain ⟨t1, e1, q1⟩ := h2 t' h
  obtain ⟨t0, e0, q0⟩ := h1 t1 e1
  exact ⟨t0, e0, by omega⟩

theorem BalK.trans0 {c n k : Nat} {a b d : St} (h1 : BalK c n k a b) (h2 : BalK c n 0 b d) : BalK c n k a d := by
  simpa using BalK.trans h1 h2

theorem BalK.trans0' {c n k : Nat} {a b d : St} (h1 : BalK c n 0 a b) (h2 : BalK c n k b d) : BalK c n k a d := by
  simpa using BalK.trans h1 h2

theorem BalK.of_keep {c n : Nat} {s s' : St} (h1 : CkLe s s') (h2 : SameR s s') : BalK c n 0 s s' := by
  intro t' h
  exact ⟨t', h1 _ _ h, by rw [reps_of_sameR h2]; omega⟩

theorem pendC_erase_ne {t : CallTbl} {m n : Nat} (h : m ≠ n) : pendC (AL.erase m t) n = pendC t n := by
  unfold pendC; rw [AL.find?_erase]; simp [h]

theorem pendC_erase_self {t : CallTbl} {n : Nat} : pendC (AL.erase n t) n = 0 := by
  unfold pendC; rw [AL.find?_erase]; simp

theorem pendC_append_ne {t : CallTbl} {m n : Nat} {v} (h : m ≠ n) : pendC (t ++ [(m, v)]) n = pendC t n := by
  unfold pendC; rw [AL.find?_append_one]
  cases AL.find? n t <;> simp [h]

theorem pendC_append_self {t : CallTbl} {n : Nat} {v} (h : AL.find? n t = none) : pendC (t ++ [(n, v)]) n = 1 := by
  unfold pendC; rw [AL.find?_append_one]; simp [h]

theorem pendC_some {t : CallTbl} {n : Nat} {v} (h : AL.find? n t = some v) : pendC t n = 1 := by simp [pendC, h]
theorem pendC_none {t : CallTbl} {n : Nat} (h : AL.find? n t = none) : pendC t n = 0 := by simp [pendC, h]

@[simp] theorem isRep_mk (c n to m : Nat) (r : CallResult) (v : Option Nat) :
    isRep c n ⟨to, .callFunctionReply m r, v⟩ = (to == c && m == n) := rfl

theorem ck_alive {s : St} {c : ConnId} {t : CallTbl} {a : Bool} (h : ck s c = some (t, a)) : aliveB s c = a := by
  obtain ⟨conn, hc, -, rfl⟩ := ck_eq_some.1 h
  simp [aliveB, hc]

theorem erase_reply_bal {c n : Nat} {s : St} {caller : ConnId} {conn : Conn} {m : Nat} {r : CallResult} {v : Option Nat}
    (hc : AL.find? caller s.b.conns = some conn) (hm : AL.find? m conn.calls ≠ none) :
    BalK c n 0 s ((s.setConn caller { conn with calls := AL.erase m conn.calls }).sendOrRemove caller (.callFunctionReply m r) v) := by
  intro t' h
  simp only [ck_sendOrRemove, ck_setConn] at h
  split at h
  · rename_i heq; subst heq
    simp only [Option.some.injEq, Prod.mk.injEq] at h
    obtain ⟨h1, h2⟩ := h
    refine ⟨conn.calls, by rw [ck_of_find hc, h2], ?_⟩
    have hal : aliveB (s.setConn caller { conn with calls := AL.erase m conn.calls }) caller = true := by simp [h2]
    simp only [St.sendOrRemove_out, hal, ↓reduceIte, St.setConn_out, reps_append, reps_single, isRep_mk, beq_self_eq_true, Bool.true_and]
    subst h1
    by_cases hmn : m = n
    · subst hmn
      have : pendC conn.calls m = 1 := by
        unfold pendC; cases hf : AL.find? m conn.calls <;> simp_all
      simp [pendC_erase_self, this]
    · simp [hmn, pendC_erase_ne hmn]
  · rename_i hne
    refine ⟨t', h, ?_⟩
    simp only [St.sendOrRemove_out, St.setConn_out]
    split <;> simp [reps_append, reps_single, isRep_mk, hne]

theorem add_call_bal {c n : Nat} {s : St} {id : ConnId} {conn : Conn} {m : Nat} {x : Nat × ConnId}
    (hc : AL.find? id s.b.conns = some conn) (hm : AL.find? m conn.calls = none) :
    BalK c n (if id = c ∧ m = n then 1 else 0) s (s.setConn id { conn with calls := conn.calls ++ [(m, x)] }) := by
  intro t' h
  simp only [ck_setConn] at h
  split at h
  · rename_i heq; subst heq
    simp only [Option.some.injEq, Prod.mk.injEq] at h
    obtain ⟨h1, h2⟩ := h
    refine ⟨conn.calls, by rw [ck_of_find hc, h2], ?_⟩
    subst h1
    simp only [St.setConn_out, true_and]
    by_cases hmn : m = n
    · subst hmn; simp [pendC_append_self hm, pendC_none hm]
    · simp [hmn, pendC_append_ne hmn]
  · rename_i hne
    exact ⟨t', h, by simp [hne]⟩

theorem send_reply_bal {c n : Nat} {s : St} {id : ConnId} {m : Nat} {r : CallResult} {v : Option Nat} :
    BalK c n (if id = c ∧ m = n then 1 else 0) s (s.send id (.callFunctionReply m r) v).1 := by
  intro t' h
  simp only [ck_send] at h
  refine ⟨t', h, ?_⟩
  have hal := ck_alive h
  simp only [St.send_out]
  by_cases hid : id = c
  · subst hid; simp [hal, reps_append, reps_single, isRep_mk]
    by_cases hmn : m = n <;> simp [hmn] <;> omega
  · split <;> simp [reps_append, reps_single, isRep_mk, hid]

theorem sendOrRemove_bal {c n : Nat} {s : St} {to : ConnId} {m : Rsp} {v : Option Nat} (hm : isR m = false) :
    BalK c n 0 s (s.sendOrRemove to m v) :=
  BalK.of_keep (CkLe.of_conns (by simp)) (by simp only [SameR, St.sendOrRemove_out]; split <;> simp [hm])

theorem BalK.of_eq {c n : Nat} {s s' : St} (h1 : s'.b.conns = s.b.conns) (h2 : s'.out = s.out) : BalK c n 0 s s' :=
  BalK.of_keep (CkLe.of_conns h1) (by simp [SameR, h2])

theorem BalK.frame (c n : Nat) : Frame (BalK c n 0) [.conn .alive, .conn .calls, .connDead, .connNew, .emit .callFunctionReply] :=
  ⟨.refl c n, .trans0, fun hp hb => .of_keep ((CkLe.frame.and SameR.frame).step hp hb).1 ((CkLe.frame.and SameR.frame).step hp hb).2⟩

theorem replyToCaller_bal {c n : Nat} {site} {s s' : St} {cid m r v} (h : replyToCaller site s cid m r v = .ok s') : BalK c n 0 s s' := by
  rcases replyToCaller_outcome h with ⟨-, rfl⟩ | ⟨conn, hconn, hm, rfl⟩
  · exact .refl _ _ _
  · exact erase_reply_bal hconn hm

theorem callFunctionReply_bal {c n : Nat} {s s' : St} {id serial r} {ok : Bool}
    (h : callFunctionReply s id serial r = .ok (s', ok)) : BalK c n 0 s s' := by
  rcases callFunctionReply_outcome h with h | ⟨conn, call, svc, -, -, -, ⟨-, h⟩ | ⟨-, -, ht⟩⟩
  · cases h; exact .refl _ _ _
  · cases h; exact .of_eq rfl rfl
  · exact .trans0' (b := dropCall s serial call svc) (.of_eq rfl rfl) (replyToCaller_bal ht)

theorem notifyCallee_bal {c n : Nat} (s : St) (cid : ConnId) (serial : Nat) : BalK c n 0 s (notifyCallee s cid serial) := by
  rcases notifyCallee_cases s cid serial with e | e <;> rw [e]
  · exact .refl _ _ _
  · exact sendOrRemove_bal rfl

theorem abortCall_bal {c n : Nat} {s s' : St} {serial cid} (h : abortCall s serial cid = .ok s') : BalK c n 0 s s' := by
  rcases abortCall_outcome h with ⟨rfl, -⟩ | ⟨call, -, -, h⟩
  · exact .refl _ _ _
  · exact .trans0 (.trans0' (.of_eq rfl rfl) (notifyCallee_bal (s.setCalls (s.b.calls.set serial _)) cid serial)) (replyToCaller_bal h)

/-- connection `c` has no pending call with serial `n` -/
def serialFree (s : St) (c n : Nat) : Bool :=
  match AL.find? c s.b.conns with
  | some conn => (AL.find? n conn.calls).isNone
  | none => true

/-- what `call_function_impl` adds to the balance of connection `c` and serial `n`: the call is taken unless the
serial is in use for a live service (then the caller is in breach and the connection is closed) -/
def takesImpl (s : St) (id : ConnId) (serial : Nat) (svc : Cookie) (c n : Nat) : Nat :=
  if id = c ∧ serial = n ∧ ((AL.find? svc s.b.svcUuids).isNone || serialFree s c n) = true then 1 else 0

theorem callFunctionImpl_bal {c n : Nat} {s s' : St} {id serial svc f v p} {ok : Bool}
    (h : callFunctionImpl s id serial svc f v p = .ok (s', ok)) : BalK c n (takesImpl s id serial svc c n) s s' := by
  ok_paths callFunctionImpl s id serial svc f v p at h
  · -- the caller is not there
    next hnone =>
    unfold takesImpl; split
    · next hh =>
      obtain ⟨rfl, _⟩ := hh
      intro t' ht
      simp only [St.conn?] at hnone; simp [ck, hnone] at ht
    · exact .refl _ _ _
  · -- no such service: the reply says so
    have : takesImpl s id serial svc c n = if id = c ∧ serial = n then 1 else 0 := by simp [takesImpl, ‹AL.find? svc _ = none›]
    rw [this]; exact send_reply_bal
  · -- the serial is in use
    have hconn : AL.find? id s.b.conns = some _ := ‹s.conn? id = some _›
    have hsv := ‹AL.find? svc s.b.svcUuids = some _›
    have hdup := ‹(AL.find? serial _).isSome = true›
    have : takesImpl s id serial svc c n = 0 := by
      unfold takesImpl; split
      · next hh =>
        obtain ⟨rfl, rfl, h3⟩ := hh
        simp [hsv, serialFree, hconn] at h3
        rw [h3] at hdup; cases hdup
      · rfl
    rw [this]; exact .of_eq rfl rfl
  · -- the call is entered and forwarded
    have hconn : AL.find? id s.b.conns = some _ := ‹s.conn? id = some _›
    have hfree := Option.not_isSome_iff_eq_none.1 ‹¬ (AL.find? serial _).isSome = true›
    have : takesImpl s id serial svc c n = if id = c ∧ serial = n then 1 else 0 := by
      unfold takesImpl
      by_cases hh : id = c ∧ serial = n
      · obtain ⟨rfl, rfl⟩ := hh; simp [serialFree, hconn, hfree]
      · rw [if_neg (fun x => hh ⟨x.1, x.2.1⟩), if_neg hh]
    rw [this]
    refine .trans0 (.trans0 (.trans0' (b := s.setCalls _) (.of_eq rfl rfl) (add_call_bal ?_ hfree)) (.of_eq rfl rfl)) (sendOrRemove_bal ?_)
    · simpa using hconn
    · simp +zetaDelta only []; split <;> rfl

theorem callFunction2_bal {c n : Nat} {s s' : St} {id serial svc f v p} {ok : Bool}
    (h : callFunction2 s id serial svc f v p = .ok (s', ok)) :
      BalK c n (match AL.find? id s.b.conns with
        | some conn => if conn.version < gateCallFunction2 then 0 else takesImpl s id serial svc c n
        | none => 0) s s' := by
  rcases callFunction2_outcome h with ⟨rfl, hn | ⟨conn, hconn, hv⟩⟩ | ⟨conn, hconn, hv, h⟩
  · simp only [hn]; exact .refl _ _ _
  · simp only [hconn, if_pos hv]; exact .refl _ _ _
  · simp only [hconn, if_neg hv]; exact callFunctionImpl_bal h

/-- what an event adds to the balance of connection `c` and serial `n`: 1 for a call request of `c` with serial `n`
that the broker takes (see `takesImpl`; a `CallFunction2` from a connection below its minimum version is refused) -/
def takes (s : St) (c n : Nat) : Event → Nat
  | .msg id (.callFunction serial svc _ _) => takesImpl s id serial svc c n
  | .msg id (.callFunction2 serial svc _ _ _) =>
    match AL.find? id s.b.conns with
    | some conn => if conn.version < gateCallFunction2 then 0 else takesImpl s id serial svc c n
    | none => 0
  | _ => 0

theorem handleMessage_bal {c n : Nat} {s s' : St} {id : ConnId} {m : Req} {ok : Bool}
    (hr : handleMessage s id m = .ok (s', ok)) : BalK c n (takes s c n (.msg id m)) s s' := by
  cases m
  case callFunction => exact callFunctionImpl_bal hr
  case callFunction2 => exact callFunction2_bal hr
  case callFunctionReply => exact callFunctionReply_bal hr
  all_goals exact (handleMessage_fp hr).frame (BalK.frame c n)

theorem processOne_bal {c n : Nat} {s s' : St} (hr : processOne s = some (.ok s')) : BalK c n 0 s s' := by
  obtain ⟨i, t, hp, hr⟩ := processOne_item hr
  cases i with
  | finishCall serial cid result => exact .trans0' ((St.pop_fp hp).frame (BalK.frame c n) (by item_decide)) (replyToCaller_bal hr)
  | abort serial cid => exact .trans0' ((St.pop_fp hp).frame (BalK.frame c n) (by item_decide)) (abortCall_bal hr)
  | _ => exact (Item.fp hp hr).frame (BalK.frame c n) (by item_decide)

theorem processLoop_bal {c n : Nat} (fuel : Nat) (s s' : St) : processLoop fuel s = .ok s' → BalK c n 0 s s' :=
  processLoop_inv (P := BalK c n 0 s) (fun _ _ hp h => hp.trans0 (processOne_bal h)) fuel s s' (.refl c n s)

theorem handleEvent_bal {c n : Nat} {s s' : St} {e : Event} (he : ∀ v, e ≠ .newConn c v) (hr : handleEvent s e = .ok s') :
    BalK c n (takes s c n e) s s' := by
  cases e
  case msg id m =>
    obtain ⟨r, hm, hf⟩ := handleEvent_msg_ok hr
    exact (handleMessage_bal hm).trans0 (hf.frame (BalK.frame c n))
  case newConn id v =>
    obtain ⟨-, rfl⟩ := handleEvent_newConn_ok hr
    intro t' h
    simp only [ck_stat, ck_setConn, if_neg (fun h : id = c => he v (h ▸ rfl))] at h
    exact ⟨t', h, by simp [takes]⟩
  case taskDropped id =>
    cases hr
    intro t' h
    rw [view_updConn ck_eq] at h
    split at h
    · cases hf : AL.find? id s.b.conns <;> simp [St.conn?, hf] at h
    · exact ⟨t', h, by simp [takes, St.updConn]; split <;> rfl⟩
  all_goals exact (handleEvent_fp hr).frame (BalK.frame c n)

theorem step_bal {c n : Nat} {b b' : Broker} {w w' : Work} {e : Event} {out : List Out} (he : ∀ v, e ≠ .newConn c v)
    (hr : step b w e = .ok (b', w', out)) : BalK c n (takes ⟨b, w, []⟩ c n e) ⟨b, w, []⟩ ⟨b', w', out⟩ := by
  obtain ⟨s1, h1, h2⟩ := step_ok hr
  exact (handleEvent_bal he h1).trans0 (processLoop_bal _ _ _ h2)

/-- how many calls of `c` with serial `n` the broker took along a history -/
def taken (c n : Nat) : Broker → Work → List Event → Nat
  | _, _, [] => 0
  | b, w, e :: es => takes ⟨b, w, []⟩ c n e +
      match step b w e with
      | .ok (b', w', _) => taken c n b' w' es
      | .error _ => 0

/-- the call requests of `c` with serial `n` in a history -/
def isCallReq (c n : Nat) : Event → Bool
  | .msg id (.callFunction serial _ _ _) => id == c && serial == n
  | .msg id (.callFunction2 serial _ _ _ _) => id == c && serial == n
  | _ => false

def callReqs (c n : Nat) (es : List Event) : Nat := (es.filter (isCallReq c n)).length

theorem takesImpl_le (s : St) (id serial svc c n) :
    takesImpl s id serial svc c n ≤ if (id == c && serial == n) = true then 1 else 0 := by
  unfold takesImpl; split <;> split <;> simp_all

theorem takes_le (s : St) (c n : Nat) (e : Event) : takes s c n e ≤ if isCallReq c n e then 1 else 0 := by
  fun_cases takes s c n e <;> first | exact Nat.zero_le _ | exact takesImpl_le ..

theorem taken_le (c n : Nat) : ∀ (es : List Event) (b : Broker) (w : Work), taken c n b w es ≤ callReqs c n es := by
  intro es
  induction es with
  | nil => intro b w; simp [taken, callReqs]
  | cons e es ih =>
    intro b w
    simp only [taken, callReqs, List.filter_cons]
    have h1 := takes_le ⟨b, w, []⟩ c n e
    have h2 : (match step b w e with
      | .ok (b', w', _) => taken c n b' w' es
      | .error _ => 0) ≤ callReqs c n es := by
      split
      · exact ih _ _
      · omega
    unfold callReqs at h2
    cases hq : isCallReq c n e <;> simp [hq] at h1 ⊢ <;> split <;> simp_all <;> omega

/-- the version of connection `c` has `CallFunction2` -/
def versionOk (s : St) (c : Nat) : Bool :=
  match AL.find? c s.b.conns with
  | some conn => !decide (conn.version < gateCallFunction2)
  | none => true

/-- what a caller that keeps to the protocol guarantees for a request: a call with serial `n` is sent only while no
earlier call with that serial is pending, and `CallFunction2` only with a version that has it -/
def okReq (s : St) (c n : Nat) : Event → Bool
  | .msg id (.callFunction serial _ _ _) => !(id == c && serial == n) || serialFree s c n
  | .msg id (.callFunction2 serial _ _ _ _) => !(id == c && serial == n) || (serialFree s c n && versionOk s c)
  | _ => true

/-- `okReq` for every request of a history, each judged in the state the broker is in when it handles the request -/
def wellBehaved (c n : Nat) : Broker → Work → List Event → Bool
  | _, _, [] => true
  | b, w, e :: es => okReq ⟨b, w, []⟩ c n e &&
      match step b w e with
      | .ok (b', w', _) => wellBehaved c n b' w' es
      | .error _ => true

theorem takesImpl_of_ok {s : St} {id serial svc c n} (h : (!(id == c && serial == n) || serialFree s c n) = true) :
    takesImpl s id serial svc c n = if (id == c && serial == n) = true then 1 else 0 := by
  unfold takesImpl; split <;> split <;> simp_all

theorem takes_of_okReq {s : St} {c n : Nat} {e : Event} {t : CallTbl} {a : Bool} (hp : ck s c = some (t, a)) (h : okReq s c n e = true) :
    takes s c n e = if isCallReq c n e then 1 else 0 := by
  fun_cases takes s c n e
  · exact takesImpl_of_ok h
  · -- `CallFunction2` from a connection whose version has none: not from `c`
    next id serial _ _ _ _ conn hconn hv =>
    show 0 = if (id == c && serial == n) = true then 1 else 0
    rw [if_neg]
    intro hb
    simp only [okReq, hb, Bool.not_true, Bool.false_or, Bool.and_eq_true] at h
    obtain ⟨rfl, _⟩ : id = c ∧ serial = n := by simpa using hb
    simp [versionOk, hconn, hv] at h
  · refine takesImpl_of_ok ?_
    simp only [okReq, Bool.or_eq_true, Bool.and_eq_true] at h ⊢
    exact h.imp_right And.left
  · -- `CallFunction2` from a connection that is not there: not from `c`
    next id serial _ _ _ _ hnone =>
    show 0 = if (id == c && serial == n) = true then 1 else 0
    rw [if_neg]
    intro hb
    obtain ⟨rfl, _⟩ : id = c ∧ serial = n := by simpa using hb
    simp [ck, hnone] at hp
  · next h1 h2 =>
    fun_cases isCallReq c n e
    · exact (h1 _ _ _ _ _ rfl).elim
    · exact (h2 _ _ _ _ _ _ rfl).elim
    · rfl

/-- One walk back from the end, where `c` is known to be served. -/
theorem run_bal {c n : Nat} : ∀ (es : List Event) (b : Broker) (w : Work) (b' : Broker) (w' : Work) (outs : List (List Out)),
    run b w es = .ok (b', w', outs) → (∀ v, Event.newConn c v ∉ es) →
    ∀ t', ck ⟨b', w', []⟩ c = some (t', true) →
      ∃ t, ck ⟨b, w, []⟩ c = some (t, true) ∧ reps c n outs.flatten + pendC t' n = pendC t n + taken c n b w es ∧
        (wellBehaved c n b w es = true → taken c n b w es = callReqs c n es) := by
  intro es
  induction es with
  | nil =>
    intro b w b' w' outs hr _ t' ht
    simp only [run, Except.ok.injEq, Prod.mk.injEq] at hr
    obtain ⟨rfl, rfl, rfl⟩ := hr
    exact ⟨t', ht, by simp [taken], fun _ => rfl⟩
  | cons e es ih =>
    intro b w b' w' outs hr hn t' ht
    obtain ⟨b1, w1, out, outs', hstep, hrun, rfl⟩ := run_cons_ok hr
    obtain ⟨t1, e1, q1, i1⟩ := ih b1 w1 _ _ _ hrun (fun v hv => hn v (List.mem_cons_of_mem _ hv)) t' ht
    have he : ∀ v, e ≠ .newConn c v := fun v hv => hn v (hv ▸ List.mem_cons_self)
    obtain ⟨t0, e0, q0⟩ := step_bal (n := n) he hstep t1 e1
    refine ⟨t0, e0, ?_, fun hwb => ?_⟩
    · simp only [List.flatten_cons, reps_append, taken, hstep]
      simp only [reps_nil] at q0
      omega
    · simp only [wellBehaved, hstep, Bool.and_eq_true] at hwb
      have i0 := takes_of_okReq e0 hwb.1
      have i1 := i1 hwb.2
      simp only [taken, hstep, callReqs, List.filter_cons, i0]
      unfold callReqs at i1
      cases hq : isCallReq c n e <;> simp [hq, i1] <;> omega

/-- the replies to `c` with serial `n` among the outputs, in order -/
def repl (c n : Nat) (l : List Out) : List Out := l.filter (isRep c n)

@[simp] theorem repl_append (c n) (a b : List Out) : repl c n (a ++ b) = repl c n a ++ repl c n b := by simp [repl]
theorem reps_eq_length (c n) (l : List Out) : reps c n l = (repl c n l).length := rfl

theorem processLoop_repext {c n : Nat} (fuel : Nat) (s s' : St) (h : processLoop fuel s = .ok s') :
    ∃ l, repl c n s'.out = repl c n s.out ++ l :=
  (processLoop_fp fuel s s' h).filter_ext (isRep c n)

end Aldrin.Broker
