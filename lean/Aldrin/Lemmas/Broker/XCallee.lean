/-
The callee side of the cross-reference invariant of calls, on what it looks at — for every call in the table the
service it is for (`G`), for every service entry the set of calls it holds (`S`) — and its preservation by the abstract
operations of the broker.

`pl = some (k, l)`: the service entry `k` is gone, the calls in `l` are still to be removed from the table.
-/
import Aldrin.Lemmas.Broker.AL
import Aldrin.Lemmas.Broker.Upd

namespace Aldrin.Broker

abbrev GkView := Nat → Option (Uuid × Uuid)
abbrev ScView := Uuid × Uuid → Option (List Nat)

structure CalleeP (pl : Option ((Uuid × Uuid) × List Nat)) (G : GkView) (S : ScView) : Prop where
  /-- a call in the table is held by the service entry it is for (or by the entry being removed) -/
  j1 : ∀ bs k, G bs = some k → (∃ l, S k = some l ∧ bs ∈ l) ∨ (∃ l, pl = some (k, l) ∧ bs ∈ l)
  /-- what a service entry holds is a call in the table, for that service -/
  j2 : ∀ k l bs, S k = some l → bs ∈ l → G bs = some k
  /-- the entry being removed is gone; what is left of its calls is in the table, each once -/
  j3 : ∀ k l, pl = some (k, l) → S k = none ∧ l.Nodup ∧ ∀ bs, bs ∈ l → G bs = some k
  /-- a service entry holds a call once -/
  j4 : ∀ k l, S k = some l → l.Nodup

variable {pl : Option ((Uuid × Uuid) × List Nat)} {G : GkView} {S : ScView}

/-- while no service entry is being removed, the invariant is its clauses 1, 2 and 4 -/
theorem CalleeP.of_none (j1 : ∀ bs k, G bs = some k → ∃ l, S k = some l ∧ bs ∈ l)
    (j2 : ∀ k l bs, S k = some l → bs ∈ l → G bs = some k) (j4 : ∀ k l, S k = some l → l.Nodup) : CalleeP none G S :=
  ⟨fun bs k hg => Or.inl (j1 bs k hg), j2, fun _ _ => nofun, j4⟩

theorem CalleeP.held {bs : Nat} {k : Uuid × Uuid} (h : CalleeP none G S) (hg : G bs = some k) : ∃ l, S k = some l ∧ bs ∈ l :=
  (h.j1 bs k hg).resolve_right fun ⟨_, hp, _⟩ => nomatch hp

theorem CalleeP.init : CalleeP none (fun _ => none) (fun _ => none) :=
  .of_none (fun _ _ => nofun) (fun _ _ _ => nofun) (fun _ _ => nofun)

/-- `call_function`: a serial that is not in the table, a service entry that is there -/
theorem CalleeP.add_call {bs : Nat} {k : Uuid × Uuid} {l : List Nat} (h : CalleeP none G S) (hg : G bs = none) (hs : S k = some l) :
    CalleeP none (upd G bs (some k)) (upd S k (some (sinsert bs l))) := by
  refine .of_none ?_ ?_ (upd_all h.j4 (nodup_sinsert _ _ (h.j4 k l hs)))
  · intro bs' k' hg'
    rcases upd_eq_some hg' with ⟨rfl, hv⟩ | ⟨_, hg'⟩
    · cases hv
      exact ⟨sinsert bs l, upd_self, (mem_sinsert _ _ _).2 (Or.inl rfl)⟩
    · exact upd_exists hs (fun hm => (mem_sinsert _ _ _).2 (Or.inr hm)) (h.held hg')
  · intro k' l' bs' hs' hm
    rcases upd_eq_some hs' with ⟨rfl, hv⟩ | ⟨_, hs'⟩
    · cases hv
      rcases (mem_sinsert _ _ _).1 hm with rfl | hm
      · exact upd_self
      · exact upd_of_fresh hg (h.j2 k l bs' hs hm)
    · exact upd_of_fresh hg (h.j2 k' l' bs' hs' hm)

/-- `call_function_reply`: the call leaves the table and its service entry -/
theorem CalleeP.finish_call {bs : Nat} {k : Uuid × Uuid} {l : List Nat} (h : CalleeP none G S) (hg : G bs = some k) (hs : S k = some l) :
    CalleeP none (upd G bs none) (upd S k (some (sremove bs l))) := by
  refine .of_none ?_ ?_ (upd_all h.j4 (nodup_sremove _ _ (h.j4 k l hs)))
  · intro bs' k' hg'
    obtain ⟨hne, hg'⟩ := upd_none_eq_some hg'
    exact upd_exists hs (fun hm => (mem_sremove _ _ _).2 ⟨Ne.symm hne, hm⟩) (h.held hg')
  · intro k' l' bs' hs' hm
    rcases upd_eq_some hs' with ⟨rfl, hv⟩ | ⟨hk, hs'⟩
    · cases hv
      obtain ⟨hne, hm⟩ := (mem_sremove _ _ _).1 hm
      exact (upd_ne (Ne.symm hne)).trans (h.j2 k l bs' hs hm)
    · have hb := h.j2 k' l' bs' hs' hm
      refine (upd_ne ?_).trans hb
      rintro rfl
      rw [hg] at hb
      exact hk (Option.some.inj hb)

/-- `create_service`: a new entry without calls -/
theorem CalleeP.new_svc {k : Uuid × Uuid} (h : CalleeP none G S) (hs : S k = none) : CalleeP none G (upd S k (some [])) := by
  refine .of_none ?_ ?_ (upd_all h.j4 List.nodup_nil)
  · intro bs' k' hg'
    obtain ⟨l', hl', hm⟩ := h.held hg'
    exact ⟨l', upd_of_fresh hs hl', hm⟩
  · intro k' l' bs' hs' hm
    rcases upd_eq_some hs' with ⟨_, hv⟩ | ⟨_, hs'⟩
    · cases hv; cases hm
    · exact h.j2 k' l' bs' hs' hm

/-- `remove_service` takes the entry out; its calls are still in the table -/
theorem CalleeP.drop_entry {k : Uuid × Uuid} {l : List Nat} (h : CalleeP none G S) (hs : S k = some l) :
    CalleeP (some (k, l)) G (upd S k none) := by
  refine ⟨?_, fun k' l' bs' hs' => h.j2 k' l' bs' (upd_none_eq_some hs').2, ?_,
    fun k' l' hs' => h.j4 k' l' (upd_none_eq_some hs').2⟩
  · intro bs' k' hg'
    obtain ⟨l', hl', hm⟩ := h.held hg'
    by_cases hk : k = k'
    · subst hk; rw [hs] at hl'; cases hl'
      exact Or.inr ⟨l, rfl, hm⟩
    · exact Or.inl ⟨l', (upd_ne hk).trans hl', hm⟩
  · intro k' l' hp
    cases hp
    exact ⟨upd_self, h.j4 k l hs, fun bs => h.j2 k l bs hs⟩

/-- the next call of the entry being removed is in the table -/
theorem CalleeP.pl_head {k : Uuid × Uuid} {bs : Nat} {rest : List Nat} (h : CalleeP (some (k, bs :: rest)) G S) : G bs = some k :=
  (h.j3 k (bs :: rest) rfl).2.2 bs (.head _)

theorem CalleeP.pl_next {k : Uuid × Uuid} {bs : Nat} {rest : List Nat} (h : CalleeP (some (k, bs :: rest)) G S) :
    CalleeP (some (k, rest)) (upd G bs none) S := by
  obtain ⟨hsk, hnd, hall⟩ := h.j3 k (bs :: rest) rfl
  obtain ⟨hnb, hnd⟩ := List.nodup_cons.1 hnd
  refine ⟨?_, ?_, ?_, h.j4⟩
  · intro bs' k' hg'
    obtain ⟨hne, hg'⟩ := upd_none_eq_some hg'
    rcases h.j1 bs' k' hg' with hl | ⟨l', hl', hm⟩
    · exact Or.inl hl
    · cases hl'
      rcases List.mem_cons.1 hm with he | hm
      · exact absurd he.symm hne
      · exact Or.inr ⟨rest, rfl, hm⟩
  · intro k' l' bs' hs' hm
    have hb := h.j2 k' l' bs' hs' hm
    refine (upd_ne ?_).trans hb
    -- a call of the entry that is gone is held by no entry
    rintro rfl
    rw [h.pl_head] at hb; cases hb
    rw [hsk] at hs'; cases hs'
  · intro k' l' hp
    cases hp
    refine ⟨hsk, hnd, fun bs' hm => (upd_ne ?_).trans (hall bs' (List.mem_cons_of_mem _ hm))⟩
    rintro rfl
    exact hnb hm

theorem CalleeP.pl_done {k : Uuid × Uuid} (h : CalleeP (some (k, [])) G S) : CalleeP none G S := by
  refine .of_none ?_ h.j2 h.j4
  intro bs' k' hg'
  rcases h.j1 bs' k' hg' with hl | ⟨l', hl', hm⟩
  · exact hl
  · cases hl'; cases hm

end Aldrin.Broker
