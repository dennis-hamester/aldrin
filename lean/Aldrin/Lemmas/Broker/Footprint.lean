/-
The footprint of a function of the broker model: the primitive updates of the state it is composed of. Every function of
`Model/Broker/Step.lean` changes the state only through a small vocabulary of updates (`PStep`, labelled by `Prim`);
`Fp W s s'` is a sequence of them with labels in `W`, and one theorem per function states its footprint. A relation between
states that every update outside a list `bad` of labels keeps (`Frame R bad`) holds across every function whose footprint
avoids `bad` (`Fp.frame`): this is where the "this function leaves that alone" facts come from. A footprint is read off the
text of the function: on each path the final state is the initial one under a nest of updates, each in one of the few forms
in which the model writes one (`Form`); `Tr` collects their labels, which are compared with the footprint claimed once per
path (`fp_steps`).
-/
import Aldrin.Lemmas.Broker.Stages
import Aldrin.Lemmas.Broker.Send
import Aldrin.Lemmas.Broker.AL

namespace Aldrin.Broker
open Generated

/-- The kind of a message of the broker, i.e. `Rsp` without arguments. -/
inductive RKind where
  | createObjectReply | destroyObjectReply | createServiceReply | destroyServiceReply | callFunction | callFunction2
  | callFunctionReply | abortFunctionCall | subscribeEvent | subscribeEventReply | unsubscribeEvent | emitEvent
  | queryServiceVersionReply | queryServiceInfoReply | subscribeServiceReply | subscribeAllEvents
  | subscribeAllEventsReply | unsubscribeAllEvents | unsubscribeAllEventsReply | serviceDestroyed | createChannelReply
  | closeChannelEndReply | channelEndClosed | claimChannelEndReply | channelEndClaimed | itemReceived
  | addChannelCapacity | syncReply | createBusListenerReply | destroyBusListenerReply | startBusListenerReply
  | stopBusListenerReply | emitBusEvent | busListenerCurrentFinished | queryIntrospection | queryIntrospectionReply
  | shutdown
  deriving DecidableEq

def Rsp.kind : Rsp → RKind
  | .createObjectReply .. => .createObjectReply
  | .destroyObjectReply .. => .destroyObjectReply
  | .createServiceReply .. => .createServiceReply
  | .destroyServiceReply .. => .destroyServiceReply
  | .callFunction .. => .callFunction
  | .callFunction2 .. => .callFunction2
  | .callFunctionReply .. => .callFunctionReply
  | .abortFunctionCall .. => .abortFunctionCall
  | .subscribeEvent .. => .subscribeEvent
  | .subscribeEventReply .. => .subscribeEventReply
  | .unsubscribeEvent .. => .unsubscribeEvent
  | .emitEvent .. => .emitEvent
  | .queryServiceVersionReply .. => .queryServiceVersionReply
  | .queryServiceInfoReply .. => .queryServiceInfoReply
  | .subscribeServiceReply .. => .subscribeServiceReply
  | .subscribeAllEvents .. => .subscribeAllEvents
  | .subscribeAllEventsReply .. => .subscribeAllEventsReply
  | .unsubscribeAllEvents .. => .unsubscribeAllEvents
  | .unsubscribeAllEventsReply .. => .unsubscribeAllEventsReply
  | .serviceDestroyed .. => .serviceDestroyed
  | .createChannelReply .. => .createChannelReply
  | .closeChannelEndReply .. => .closeChannelEndReply
  | .channelEndClosed .. => .channelEndClosed
  | .claimChannelEndReply .. => .claimChannelEndReply
  | .channelEndClaimed .. => .channelEndClaimed
  | .itemReceived .. => .itemReceived
  | .addChannelCapacity .. => .addChannelCapacity
  | .syncReply .. => .syncReply
  | .createBusListenerReply .. => .createBusListenerReply
  | .destroyBusListenerReply .. => .destroyBusListenerReply
  | .startBusListenerReply .. => .startBusListenerReply
  | .stopBusListenerReply .. => .stopBusListenerReply
  | .emitBusEvent .. => .emitBusEvent
  | .busListenerCurrentFinished .. => .busListenerCurrentFinished
  | .queryIntrospection .. => .queryIntrospection
  | .queryIntrospectionReply .. => .queryIntrospectionReply
  | .shutdown => .shutdown

/-- The parts of a connection's entry that the proofs tell apart (`subs` = the three subscription mirrors). -/
inductive CPart where
  | alive | objects | subs | senders | receivers | busListeners | calls
  deriving DecidableEq

/-- `HashSet::insert` or `HashSet::remove` made `l'` of `l` -/
def SetStep (l l' : List Cookie) : Prop := ∃ c, l' = sinsert c l ∨ l' = sremove c l

theorem SetStep.nodup {l l' : List Cookie} (h : SetStep l l') (hn : l.Nodup) : l'.Nodup := by
  obtain ⟨c, rfl | rfl⟩ := h
  · exact nodup_sinsert _ _ hn
  · exact nodup_sremove _ _ hn

/-- `k'` is `k` except for one part; the four sets of cookies change by one insertion or removal. -/
def Conn.agree : CPart → Conn → Conn → Prop
  | .alive, k, k' => k' = { k with alive := k'.alive }
  | .objects, k, k' => k' = { k with objects := k'.objects } ∧ SetStep k.objects k'.objects
  | .subs, k, k' => k' = { k with events := k'.events, allEvents := k'.allEvents, subscriptions := k'.subscriptions }
  | .senders, k, k' => k' = { k with senders := k'.senders } ∧ SetStep k.senders k'.senders
  | .receivers, k, k' => k' = { k with receivers := k'.receivers } ∧ SetStep k.receivers k'.receivers
  | .busListeners, k, k' => k' = { k with busListeners := k'.busListeners } ∧ SetStep k.busListeners k'.busListeners
  | .calls, k, k' => k' = { k with calls := k'.calls }

/-- The parts of a service entry (`subs` = event, all-events and service subscribers). -/
inductive SPart where
  | calls | subs
  deriving DecidableEq

def Svc.agree : SPart → Svc → Svc → Prop
  | .calls, v, v' => v' = { v with calls := v'.calls }
  | .subs, v, v' => v' = { v with events := v'.events, allEvents := v'.allEvents, subs := v'.subs }

inductive Gauge where
  | numConnections | numObjects | numServices | numChannels | numBusListeners | messagesSent | messagesReceived
  deriving DecidableEq

def Stats.agree : Gauge → Stats → Stats → Prop
  | .numConnections, a, b => b = { a with numConnections := b.numConnections }
  | .numObjects, a, b => b = { a with numObjects := b.numObjects }
  | .numServices, a, b => b = { a with numServices := b.numServices }
  | .numChannels, a, b => b = { a with numChannels := b.numChannels }
  | .numBusListeners, a, b => b = { a with numBusListeners := b.numBusListeners }
  | .messagesSent, a, b => b = { a with messagesSent := b.messagesSent }
  | .messagesReceived, a, b => b = { a with messagesReceived := b.messagesReceived }

theorem Conn.agree_unsubscribeEvent (k : Conn) (svc : Cookie) (ev : Nat) : Conn.agree .subs k (k.unsubscribeEvent svc ev) := by
  unfold Conn.unsubscribeEvent
  split
  · dsimp only; split <;> rfl
  · rfl

theorem Svc.agree_subscribeEvent (v : Svc) (ev : Nat) (c : ConnId) : Svc.agree .subs v (v.subscribeEvent ev c).1 := by
  unfold Svc.subscribeEvent; split <;> rfl

theorem Svc.agree_unsubscribeEvent (v : Svc) (ev : Nat) (c : ConnId) : Svc.agree .subs v (v.unsubscribeEvent ev c).1 := by
  unfold Svc.unsubscribeEvent
  split
  · dsimp only; split <;> rfl
  · rfl

/-! The same for a `let (svc, flag) := …` of the model, which shows up in a branch as an equation about the pair. -/

theorem Svc.agree_of_subscribeEvent {v v' : Svc} {ev c b} (h : v.subscribeEvent ev c = (v', b)) : Svc.agree .subs v v' := by
  have := Svc.agree_subscribeEvent v ev c; rwa [h] at this
theorem Svc.agree_of_unsubscribeEvent {v v' : Svc} {ev c b} (h : v.unsubscribeEvent ev c = (v', b)) : Svc.agree .subs v v' := by
  have := Svc.agree_unsubscribeEvent v ev c; rwa [h] at this
theorem Svc.agree_of_subscribeAll {v v' : Svc} {c b} (h : v.subscribeAll c = (v', b)) : Svc.agree .subs v v' := by
  cases h; rfl
theorem Svc.agree_of_unsubscribeAll {v v' : Svc} {c b} (h : v.unsubscribeAll c = (v', b)) : Svc.agree .subs v v' := by
  cases h; rfl

theorem Stats.agree.numConnections {g a b} (h : Stats.agree g a b) (hg : g ≠ .numConnections) : b.numConnections = a.numConnections := by
  cases g <;> first | exact absurd rfl hg | (rw [h])
theorem Stats.agree.numObjects {g a b} (h : Stats.agree g a b) (hg : g ≠ .numObjects) : b.numObjects = a.numObjects := by
  cases g <;> first | exact absurd rfl hg | (rw [h])
theorem Stats.agree.numServices {g a b} (h : Stats.agree g a b) (hg : g ≠ .numServices) : b.numServices = a.numServices := by
  cases g <;> first | exact absurd rfl hg | (rw [h])
theorem Stats.agree.numChannels {g a b} (h : Stats.agree g a b) (hg : g ≠ .numChannels) : b.numChannels = a.numChannels := by
  cases g <;> first | exact absurd rfl hg | (rw [h])
theorem Stats.agree.numBusListeners {g a b} (h : Stats.agree g a b) (hg : g ≠ .numBusListeners) : b.numBusListeners = a.numBusListeners := by
  cases g <;> first | exact absurd rfl hg | (rw [h])

theorem Conn.agree.alive {φ k k'} (h : Conn.agree φ k k') (hφ : φ ≠ .alive) : k'.alive = k.alive := by
  cases φ <;> first | exact absurd rfl hφ | (rw [h]) | (rw [h.1])
theorem Conn.agree.objects {φ k k'} (h : Conn.agree φ k k') (hφ : φ ≠ .objects) : k'.objects = k.objects := by
  cases φ <;> first | exact absurd rfl hφ | (rw [h]) | (rw [h.1])
theorem Conn.agree.senders {φ k k'} (h : Conn.agree φ k k') (hφ : φ ≠ .senders) : k'.senders = k.senders := by
  cases φ <;> first | exact absurd rfl hφ | (rw [h]) | (rw [h.1])
theorem Conn.agree.receivers {φ k k'} (h : Conn.agree φ k k') (hφ : φ ≠ .receivers) : k'.receivers = k.receivers := by
  cases φ <;> first | exact absurd rfl hφ | (rw [h]) | (rw [h.1])
theorem Conn.agree.busListeners {φ k k'} (h : Conn.agree φ k k') (hφ : φ ≠ .busListeners) : k'.busListeners = k.busListeners := by
  cases φ <;> first | exact absurd rfl hφ | (rw [h]) | (rw [h.1])
theorem Conn.agree.calls {φ k k'} (h : Conn.agree φ k k') (hφ : φ ≠ .calls) : k'.calls = k.calls := by
  cases φ <;> first | exact absurd rfl hφ | (rw [h]) | (rw [h.1])
theorem Conn.agree.version {φ k k'} (h : Conn.agree φ k k') : k'.version = k.version := by
  cases φ <;> first | rw [h] | rw [h.1]

theorem Svc.agree.cookie {ψ v v'} (h : Svc.agree ψ v v') : v'.cookie = v.cookie := by cases ψ <;> rw [h]
theorem Svc.agree.objCookie {ψ v v'} (h : Svc.agree ψ v v') : v'.objCookie = v.objCookie := by cases ψ <;> rw [h]
theorem Svc.agree.calls {ψ v v'} (h : Svc.agree ψ v v') (hψ : ψ ≠ .calls) : v'.calls = v.calls := by
  cases ψ <;> first | exact absurd rfl hψ | (rw [h])

/-- an entry is replaced by one that differs in the part named: by computation (a set of cookies by one insertion or
removal), or by one of the lemmas above -/
macro "fp_agree" : tactic => `(tactic| (intros; first
  | rfl
  | exact ⟨rfl, _, .inl rfl⟩
  | exact ⟨rfl, _, .inr rfl⟩
  | apply Conn.agree_unsubscribeEvent
  | apply Svc.agree_subscribeEvent
  | apply Svc.agree_unsubscribeEvent
  | exact Svc.agree_of_subscribeEvent ‹_›
  | exact Svc.agree_of_unsubscribeEvent ‹_›
  | exact Svc.agree_of_subscribeAll ‹_›
  | exact Svc.agree_of_unsubscribeAll ‹_›))

/-- Labels of the primitive updates. -/
inductive Prim where
  | objUuids | objs | svcUuids | svcs | svc (ψ : SPart) | calls | channels | listeners | introspection | iqueries | cookie
  | shutdownNow | shutdownIdle | pushRemoveConn | removeConns | removeCalls | servicesDestroyed | unsubscribeEvent
  | unsubscribeAll | createObject | destroyObject | createService | destroyService | abortCalls
  | emit (k : RKind) | stat (g : Gauge) | conn (φ : CPart) | connDead | connGone | connNew
  deriving DecidableEq

def removeBusListenerFoot : List Prim := [.listeners, .conn .busListeners, .stat .numBusListeners]

def removeServiceFoot : List Prim :=
  [.svcUuids, .svcs, .objs, .destroyService, .calls, .removeCalls, .conn .subs, .servicesDestroyed, .stat .numServices]

def removeObjectFoot : List Prim :=
  [.objUuids, .objs, .conn .objects, .destroyObject, .stat .numObjects] ++ removeServiceFoot

def removeEventSubscriptionFoot : List Prim := [.conn .subs, .svc .subs, .unsubscribeEvent]

def removeAllEventsSubscriptionFoot : List Prim := [.conn .subs, .svc .subs, .unsubscribeAll]

def removeChannelEndFoot : List Prim :=
  [.conn .senders, .conn .receivers, .channels, .emit .channelEndClosed, .stat .messagesSent, .pushRemoveConn, .stat .numChannels]

def introspectionFoot : List Prim :=
  [.iqueries, .introspection, .emit .queryIntrospection, .emit .queryIntrospectionReply, .stat .messagesSent, .pushRemoveConn]

def shutdownConnectionFoot : List Prim :=
  [.stat .messagesSent, .emit .shutdown, .connGone, .abortCalls, .stat .numConnections] ++ removeBusListenerFoot ++
    removeObjectFoot ++ removeEventSubscriptionFoot ++ removeAllEventsSubscriptionFoot ++ removeChannelEndFoot ++ introspectionFoot

def createObjectFoot : List Prim :=
  [.emit .createObjectReply, .stat .messagesSent, .cookie, .objUuids, .objs, .conn .objects, .createObject, .stat .numObjects]

def destroyObjectFoot : List Prim := [.emit .destroyObjectReply, .stat .messagesSent] ++ removeObjectFoot

def createServiceFoot : List Prim :=
  [.emit .createServiceReply, .stat .messagesSent, .cookie, .svcUuids, .svcs, .objs, .createService, .stat .numServices]

def destroyServiceFoot : List Prim := [.emit .destroyServiceReply, .stat .messagesSent] ++ removeServiceFoot

def callFunctionFoot : List Prim :=
  [.emit .callFunctionReply, .stat .messagesSent, .calls, .conn .calls, .svc .calls, .emit .callFunction, .emit .callFunction2,
    .pushRemoveConn]

def callFunctionReplyFoot : List Prim :=
  [.calls, .svc .calls, .conn .calls, .emit .callFunctionReply, .stat .messagesSent, .pushRemoveConn]

def subscribeEventFoot : List Prim :=
  [.emit .subscribeEventReply, .stat .messagesSent, .conn .subs, .svc .subs, .emit .subscribeEvent]

def unsubscribeEventFoot : List Prim := [.conn .subs, .svc .subs, .emit .unsubscribeEvent, .stat .messagesSent, .pushRemoveConn]

def emitEventFoot : List Prim := [.emit .emitEvent, .stat .messagesSent, .pushRemoveConn]

def subscribeServiceFoot : List Prim := [.emit .subscribeServiceReply, .stat .messagesSent, .svc .subs, .conn .subs]

def subscribeAllEventsFoot : List Prim :=
  [.emit .subscribeAllEventsReply, .stat .messagesSent, .conn .subs, .svc .subs, .emit .subscribeAllEvents]

def unsubscribeAllEventsFoot : List Prim :=
  [.emit .unsubscribeAllEventsReply, .stat .messagesSent, .conn .subs, .svc .subs, .emit .unsubscribeAllEvents]

def createChannelFoot : List Prim :=
  [.cookie, .conn .senders, .conn .receivers, .channels, .stat .numChannels, .emit .createChannelReply, .stat .messagesSent]

def closeChannelEndFoot : List Prim := [.emit .closeChannelEndReply, .stat .messagesSent] ++ removeChannelEndFoot

def claimChannelEndFoot : List Prim :=
  [.emit .claimChannelEndReply, .stat .messagesSent, .channels, .conn .senders, .conn .receivers, .emit .channelEndClaimed,
    .pushRemoveConn]

def addChannelCapacityFoot : List Prim :=
  [.channels, .emit .addChannelCapacity, .stat .messagesSent, .pushRemoveConn] ++ removeChannelEndFoot

def sendItemFoot : List Prim := [.emit .itemReceived] ++ addChannelCapacityFoot

def createBusListenerFoot : List Prim :=
  [.cookie, .emit .createBusListenerReply, .stat .messagesSent, .stat .numBusListeners, .conn .busListeners, .listeners]

def destroyBusListenerFoot : List Prim := [.emit .destroyBusListenerReply, .stat .messagesSent] ++ removeBusListenerFoot

def startBusListenerFoot : List Prim :=
  [.listeners, .emit .startBusListenerReply, .stat .messagesSent, .emit .emitBusEvent, .emit .busListenerCurrentFinished]

def Req.foot : Req → List Prim
  | .createObject .. => createObjectFoot
  | .destroyObject .. => destroyObjectFoot
  | .createService .. | .createService2 .. => createServiceFoot
  | .destroyService .. => destroyServiceFoot
  | .callFunction .. | .callFunction2 .. => callFunctionFoot
  | .callFunctionReply .. => callFunctionReplyFoot
  | .abortFunctionCall .. => [.abortCalls]
  | .subscribeEvent .. => subscribeEventFoot
  | .unsubscribeEvent .. => unsubscribeEventFoot
  | .emitEvent .. => emitEventFoot
  | .queryServiceVersion .. => [.emit .queryServiceVersionReply, .stat .messagesSent]
  | .queryServiceInfo .. => [.emit .queryServiceInfoReply, .stat .messagesSent]
  | .subscribeService .. => subscribeServiceFoot
  | .unsubscribeService .. => [.svc .subs, .conn .subs]
  | .subscribeAllEvents .. => subscribeAllEventsFoot
  | .unsubscribeAllEvents .. => unsubscribeAllEventsFoot
  | .createChannel .. => createChannelFoot
  | .closeChannelEnd .. => closeChannelEndFoot
  | .claimChannelEnd .. => claimChannelEndFoot
  | .sendItem .. => sendItemFoot
  | .addChannelCapacity .. => addChannelCapacityFoot
  | .sync .. => [.emit .syncReply, .stat .messagesSent]
  | .createBusListener .. => createBusListenerFoot
  | .destroyBusListener .. => destroyBusListenerFoot
  | .addFilter .. | .removeFilter .. | .clearFilters .. => [.listeners]
  | .startBusListener .. => startBusListenerFoot
  | .stopBusListener .. => [.listeners, .emit .stopBusListenerReply, .stat .messagesSent]
  | .registerIntrospection .. => [.introspection]
  | .queryIntrospection .. | .queryIntrospectionReply .. => introspectionFoot
  | .other _ => []

def emitBusEventFoot : List Prim := [.emit .emitBusEvent, .stat .messagesSent, .pushRemoveConn]

def abortCallFoot : List Prim :=
  [.calls, .emit .abortFunctionCall, .emit .callFunctionReply, .stat .messagesSent, .pushRemoveConn, .conn .calls]

def Event.foot : Event → List Prim
  | .newConn .. => [.connNew, .stat .numConnections]
  | .connShutdown _ | .shutdownConn _ => [.pushRemoveConn]
  | .msg _ m => m.foot ++ [.pushRemoveConn, .stat .messagesReceived]
  | .shutdownBroker => [.removeConns, .shutdownNow]
  | .shutdownIdle => [.shutdownIdle]
  | .taskDropped _ => [.connDead]

def processOneFoot : List Prim :=
  [.removeConns, .unsubscribeEvent, .unsubscribeAll, .servicesDestroyed, .removeCalls, .createObject, .createService,
    .destroyService, .destroyObject, .abortCalls, .emit .unsubscribeEvent, .emit .unsubscribeAllEvents, .emit .serviceDestroyed] ++
    shutdownConnectionFoot ++ abortCallFoot ++ emitBusEventFoot

/-- One primitive update. `svcs` is any change of the service map, `svc ψ` the replacement of an entry by one that
differs in `ψ`; likewise `conn φ` for connections, which otherwise only die (`connDead`), go (`connGone`) or come
(`connNew`). `removeConns` is any change of the queue of removals, `pushRemoveConn` one more entry. -/
inductive PStep : Prim → St → St → Prop
  | objUuids (s x) : PStep .objUuids s (s.setObjUuids x)
  | objs (s x) : PStep .objs s (s.setObjs x)
  | svcUuids (s x) : PStep .svcUuids s (s.setSvcUuids x)
  | svcs (s x) : PStep .svcs s (s.setSvcs x)
  | svc (s : St) (key v v' ψ) : AL.find? key s.b.svcs = some v → v.agree ψ v' →
      PStep (.svc ψ) s (s.setSvcs (AL.insert key v' s.b.svcs))
  | calls (s x) : PStep .calls s (s.setCalls x)
  | channels (s x) : PStep .channels s (s.setChannels x)
  | listeners (s x) : PStep .listeners s (s.setListeners x)
  | introspection (s x) : PStep .introspection s (s.setIntrospection x)
  | iqueries (s x) : PStep .iqueries s (s.setIqueries x)
  | cookie (s : St) : PStep .cookie s s.freshCookie.1
  | shutdownNow (s x) : PStep .shutdownNow s (s.setWShutdownNow x)
  | shutdownIdle (s x) : PStep .shutdownIdle s (s.setWShutdownIdle x)
  | pushRemoveConn (s : St) (id b) : PStep .pushRemoveConn s (s.pushRemoveConn id b)
  | removeConns (s x) : PStep .removeConns s (s.setWRemoveConns x)
  | removeCalls (s x) : PStep .removeCalls s (s.setWRemoveCalls x)
  | servicesDestroyed (s x) : PStep .servicesDestroyed s (s.setWServicesDestroyed x)
  | unsubscribeEvent (s x) : PStep .unsubscribeEvent s (s.setWUnsubscribeEvent x)
  | unsubscribeAll (s x) : PStep .unsubscribeAll s (s.setWUnsubscribeAll x)
  | createObject (s x) : PStep .createObject s (s.setWCreateObject x)
  | destroyObject (s x) : PStep .destroyObject s (s.setWDestroyObject x)
  | createService (s x) : PStep .createService s (s.setWCreateService x)
  | destroyService (s x) : PStep .destroyService s (s.setWDestroyService x)
  | abortCalls (s x) : PStep .abortCalls s (s.setWAbortCalls x)
  | emit (s : St) (o : Out) : PStep (.emit o.msg.kind) s (s.setOut (s.out ++ [o]))
  | stat (s : St) (f : Stats → Stats) (g) : (∀ st, Stats.agree g st (f st)) → PStep (.stat g) s (s.stat f)
  | conn (s : St) (id k k' φ) : s.conn? id = some k → k.agree φ k' → PStep (.conn φ) s (s.setConn id k')
  | connDead (s : St) (id) : PStep .connDead s (s.updConn id (fun c => { c with alive := false }))
  | connGone (s : St) (id) : PStep .connGone s (s.setConns (AL.erase id s.b.conns))
  | connNew (s : St) (id k) : s.conn? id = none → PStep .connNew s (s.setConn id k)

/-- a side condition on footprint lists that are known once the request or event is -/
macro "fp_decide" : tactic => `(tactic| first | decide | (dsimp only [Req.foot, Event.foot]; decide))

/-- `s'` comes from `s` by primitive updates with labels in `W`. -/
inductive Fp (W : List Prim) : St → St → Prop
  | refl (s) : Fp W s s
  | step {s t u p} : Fp W s t → p ∈ W → PStep p t u → Fp W s u

theorem Fp.trans {W} {a b c : St} (h1 : Fp W a b) (h2 : Fp W b c) : Fp W a c := by
  induction h2 with
  | refl => exact h1
  | step _ hw hp ih => exact ih.step hw hp

theorem Fp.mono {W W'} {s s' : St} (h : Fp W s s') (hs : ∀ p ∈ W, p ∈ W' := by fp_decide) : Fp W' s s' := by
  induction h with
  | refl => exact .refl _
  | step _ hw hp ih => exact ih.step (hs _ hw) hp

theorem Fp.inl {W V} {s s' : St} (h : Fp W s s') : Fp (W ++ V) s s' := h.mono fun _ => List.mem_append_left _
theorem Fp.inr {W V} {s s' : St} (h : Fp V s s') : Fp (W ++ V) s s' := h.mono fun _ => List.mem_append_right _

/-- A relation between states that is kept by every primitive update whose label is not in `bad`. -/
structure Frame (R : St → St → Prop) (bad : List Prim) : Prop where
  refl : ∀ s, R s s
  trans : ∀ {a b c}, R a b → R b c → R a c
  step : ∀ {p s t}, PStep p s t → p ∉ bad → R s t

/-- The side condition is decided, so `W` must be a list of constants: for the footprint `m.foot` of a request first
`cases m`. -/
theorem Fp.frame {W bad R} {s s' : St} (h : Fp W s s') (F : Frame R bad) (hd : ∀ p ∈ W, p ∉ bad := by fp_decide) :
    R s s' := by
  induction h with
  | refl => exact F.refl _
  | step _ hw hp ih => exact F.trans ih (F.step hp (hd _ hw))

theorem Frame.of_inv {I : St → Prop} {bad} (h : ∀ {p s t}, PStep p s t → p ∉ bad → I s → I t) :
    Frame (fun s t => I s → I t) bad :=
  ⟨fun _ h => h, fun h1 h2 h => h2 (h1 h), h⟩

theorem Frame.and {R Q : St → St → Prop} {b1 b2 : List Prim} (F : Frame R b1) (G : Frame Q b2) :
    Frame (fun s t => R s t ∧ Q s t) (b1 ++ b2) :=
  ⟨fun s => ⟨F.refl s, G.refl s⟩, fun h1 h2 => ⟨F.trans h1.1 h2.1, G.trans h1.2 h2.2⟩,
    fun hp hb => ⟨F.step hp (fun h => hb (List.mem_append_left _ h)), G.step hp (fun h => hb (List.mem_append_right _ h))⟩⟩

/-- This is how a relation `R` itself gets through the lemmas of `Turn.lean` that speak of an invariant (`processOne_inv`,
`removeObject_inv`, `step_inv`, …): as the invariant `R s0` of a fixed start `s0`, with `F.carries fun h hp => trans hp h`. -/
theorem Frame.carries {R : St → St → Prop} {P : St → Prop} {bad : List Prim} (F : Frame R bad)
    (h : ∀ {s t}, R s t → P s → P t) : Frame (fun s t => P s → P t) bad :=
  Frame.of_inv (fun hp hb => h (F.step hp hb))

theorem St.conn?_setConn (s : St) (id : ConnId) (k : Conn) (c : ConnId) :
    (s.setConn id k).conn? c = if id = c then some k else s.conn? c := AL.find?_insert ..

theorem St.conn?_updConn (s : St) (id : ConnId) (f : Conn → Conn) (c : ConnId) :
    (s.updConn id f).conn? c = if id = c then (s.conn? id).map f else s.conn? c := by
  unfold St.updConn
  split
  · next h => rw [St.conn?_setConn, h]; rfl
  · next h =>
    split
    · subst_vars; rw [h]; rfl
    · rfl

theorem conn?_isSome_updConn (s : St) (o : ConnId) (f : Conn → Conn) (x : ConnId) :
    ((s.updConn o f).conn? x).isSome = (s.conn? x).isSome := by
  rw [St.conn?_updConn]
  split
  · next h => subst h; cases s.conn? o <;> rfl
  · rfl

theorem find_isNone_updConn (s : St) (o : ConnId) (f : Conn → Conn) (x : ConnId) :
    (AL.find? x (s.updConn o f).b.conns).isNone = (AL.find? x s.b.conns).isNone := by
  rw [← Option.not_isSome, ← Option.not_isSome]
  exact congrArg _ (conn?_isSome_updConn s o f x)

theorem St.conn?_eraseConn (s : St) (id c : ConnId) :
    (s.setConns (AL.erase id s.b.conns)).conn? c = if id = c then none else s.conn? c := AL.find?_erase ..

section
variable {α : Type} {v : St → ConnId → α} {f : Option Conn → α} (hv : ∀ s c, v s c = f (s.conn? c))
include hv

theorem view_setConn (s : St) (id : ConnId) (k : Conn) (c : ConnId) :
    v (s.setConn id k) c = if id = c then f (some k) else v s c := by
  rw [hv, hv, St.conn?_setConn]; split <;> rfl

theorem view_updConn (s : St) (id : ConnId) (u : Conn → Conn) (c : ConnId) :
    v (s.updConn id u) c = if id = c then f ((s.conn? id).map u) else v s c := by
  rw [hv, hv, St.conn?_updConn]; split <;> rfl

theorem view_eraseConn (s : St) (id c : ConnId) :
    v (s.setConns (AL.erase id s.b.conns)) c = if id = c then f none else v s c := by
  rw [hv, hv, St.conn?_eraseConn]; split <;> rfl

theorem view_of_conns {s s' : St} (h : s'.b.conns = s.b.conns) (c : ConnId) : v s' c = v s c := by
  rw [hv, hv, St.conn?_def, St.conn?_def, h]

theorem view_conn {s : St} {id : ConnId} {k : Conn} (h : s.conn? id = some k) : v s id = f (some k) := by
  rw [hv, h]

end

theorem Frame.ofConns {α : Type} {v : St → ConnId → α} {f : Option Conn → α} (hv : ∀ s c, v s c = f (s.conn? c))
    {r : α → α → Prop} (bad : List Prim) (refl : ∀ a, r a a) (trans : ∀ {a b c}, r a b → r b c → r a c)
    (part : ∀ φ, .conn φ ∉ bad → ∀ k k', Conn.agree φ k k' → r (f (some k)) (f (some k')))
    (dead : .connDead ∉ bad → ∀ k, r (f (some k)) (f (some { k with alive := false })))
    (gone : .connGone ∉ bad → ∀ k, r (f (some k)) (f none))
    (new : .connNew ∉ bad → ∀ k, r (f none) (f (some k))) :
    Frame (fun s s' => ∀ c, r (v s c) (v s' c)) bad := by
  have same : ∀ {s s' : St}, s'.b.conns = s.b.conns → ∀ c, r (v s c) (v s' c) := fun h c => by
    rw [view_of_conns hv h c]; exact refl _
  have entry : ∀ {s s' : St} (id : ConnId) (o : Option Conn), (∀ c, s'.conn? c = if id = c then o else s.conn? c) →
      r (f (s.conn? id)) (f o) → ∀ c, r (v s c) (v s' c) := by
    intro s s' id o e h c
    rw [hv, hv, e]
    split
    · subst_vars; exact h
    · exact refl _
  refine ⟨fun _ _ => refl _, fun h1 h2 c => trans (h1 c) (h2 c), fun h hb => ?_⟩
  cases h
  case conn ha hk => exact entry _ _ (St.conn?_setConn _ _ _) (hk ▸ part _ hb _ _ ha)
  case connNew hk => exact entry _ _ (St.conn?_setConn _ _ _) (hk ▸ new hb _)
  case connDead s id =>
    refine entry id _ (St.conn?_updConn _ _ _) ?_
    cases s.conn? id
    · exact refl _
    · exact dead hb _
  case connGone s id =>
    refine entry id none (St.conn?_eraseConn _ _) ?_
    cases s.conn? id
    · exact refl _
    · exact gone hb _
  all_goals exact same rfl

theorem PStep.out {p} {s t : St} (h : PStep p s t) : t.out = s.out ∨ ∃ o, p = .emit o.msg.kind ∧ t.out = s.out ++ [o] := by
  cases h
  case emit o => exact .inr ⟨o, rfl, rfl⟩
  case connDead => exact .inl (St.updConn_out ..)
  all_goals exact .inl rfl

theorem Fp.out {W} {s s' : St} (h : Fp W s s') : ∃ l, s'.out = s.out ++ l ∧ ∀ o ∈ l, Prim.emit o.msg.kind ∈ W := by
  induction h with
  | refl => exact ⟨[], (List.append_nil _).symm, fun _ h => nomatch h⟩
  | step _ hw hp ih =>
    obtain ⟨l, e, hl⟩ := ih
    rcases hp.out with h | ⟨o, hpe, h⟩
    · exact ⟨l, h.trans e, hl⟩
    · refine ⟨l ++ [o], by rw [h, e, List.append_assoc], fun x hx => ?_⟩
      rcases List.mem_append.mp hx with hx | hx
      · exact hl x hx
      · rw [List.mem_singleton.mp hx, ← hpe]; exact hw

theorem Fp.filter_out {W} {s s' : St} (h : Fp W s s') (p : Out → Bool) (hp : ∀ o, Prim.emit o.msg.kind ∈ W → p o = false) :
    s'.out.filter p = s.out.filter p := by
  obtain ⟨l, e, hl⟩ := h.out
  have : l.filter p = [] := List.filter_eq_nil_iff.mpr fun o ho => by simp [hp o (hl o ho)]
  rw [e, List.filter_append, this, List.append_nil]

theorem Fp.filter_ext {W} {s s' : St} (h : Fp W s s') (p : Out → Bool) : ∃ l, s'.out.filter p = s.out.filter p ++ l :=
  let ⟨l, e, _⟩ := h.out
  ⟨l.filter p, by rw [e, List.filter_append]⟩

theorem Frame.ofFilter (p : Out → Bool) (bad : List Prim) (hp : ∀ o, Prim.emit o.msg.kind ∉ bad → p o = false) :
    Frame (fun s s' => s'.out.filter p = s.out.filter p) bad := by
  refine ⟨fun _ => rfl, fun h1 h2 => h2.trans h1, fun h hb => ?_⟩
  rcases h.out with e | ⟨o, rfl, e⟩
  · rw [e]
  · rw [e, List.filter_append, List.filter_cons_of_neg (by simp [hp o hb]), List.filter_nil, List.append_nil]

namespace Fp
variable {W : List Prim} {s t : St}

theorem stat {f : Stats → Stats} (g : Gauge) (h : Fp W s t) (hf : ∀ st, Stats.agree g st (f st) := by fp_agree)
    (hw : .stat g ∈ W := by decide) : Fp W s (t.stat f) := h.step hw (.stat t f g hf)
theorem setConn {id k k'} (φ : CPart) (h : Fp W s t) (hk : t.conn? id = some k) (ha : Conn.agree φ k k' := by fp_agree)
    (hw : .conn φ ∈ W := by decide) : Fp W s (t.setConn id k') := h.step hw (.conn t id k k' φ hk ha)

theorem updConn {id} {f : Conn → Conn} (φ : CPart) (h : Fp W s t) (hf : ∀ k, Conn.agree φ k (f k) := by fp_agree)
    (hw : .conn φ ∈ W := by decide) : Fp W s (t.updConn id f) := by
  unfold St.updConn
  split
  · exact h.setConn φ ‹_› (hf _) hw
  · exact h

theorem emit {o : Out} (h : Fp W s t) (hm : .emit o.msg.kind ∈ W := by dsimp only [Rsp.kind]; decide) :
    Fp W s (t.setOut (t.out ++ [o])) := h.step hm (.emit t o)

theorem send {to m v} (h : Fp W s t) (hm : .emit m.kind ∈ W := by dsimp only [Rsp.kind]; decide) (hs : .stat .messagesSent ∈ W := by decide) :
    Fp W s (t.send to m v).1 := by
  have h1 : Fp W s t.sent := h.stat .messagesSent (hw := hs)
  rw [St.send_eq]
  cases aliveB t to
  · exact h1
  · exact h1.emit hm

theorem sendOrRemove {to m v} (h : Fp W s t) (hm : .emit m.kind ∈ W := by dsimp only [Rsp.kind]; decide)
    (hs : .stat .messagesSent ∈ W := by decide) (hr : .pushRemoveConn ∈ W := by decide) :
    Fp W s (t.sendOrRemove to m v) := by
  have h1 : Fp W s t.sent := h.stat .messagesSent (hw := hs)
  rw [St.sendOrRemove_eq]
  cases aliveB t to
  · exact h1.step hr (.pushRemoveConn _ to false)
  · exact h1.emit hm

/-- a `let (t', b) := t.send …` of the model shows up in a branch as an equation about the pair -/
theorem send_eq {to m v t' b} (h : Fp W s t) (he : t.send to m v = (t', b))
    (hm : .emit m.kind ∈ W := by dsimp only [Rsp.kind]; decide) (hs : .stat .messagesSent ∈ W := by decide) : Fp W s t' := by
  have := h.send (to := to) (m := m) (v := v) hm hs
  rwa [he] at this

theorem foldl {α} {f : St → α → St} (hf : ∀ t a, Fp W s t → Fp W s (f t a)) :
    ∀ (l : List α) (t : St), Fp W s t → Fp W s (l.foldl f t)
  | [], _, h => h
  | a :: l, t, h => foldl hf l (f t a) (hf t a h)

theorem foldE {α} {f : St → α → Except Panic St} (hf : ∀ t a t', f t a = .ok t' → Fp W t t') :
    ∀ (l : List α) (t t' : St), Broker.foldE f t l = .ok t' → Fp W t t'
  | [], t, t', h => by simp only [Broker.foldE, Except.ok.injEq] at h; exact h ▸ .refl _
  | a :: l, t, t', h => by
    simp only [Broker.foldE] at h
    split at h
    · exact absurd h (by simp)
    · exact (hf _ _ _ ‹_›).trans (foldE hf l _ _ h)

end Fp

/-- One update in a form in which `Model/Broker/Step.lean` writes it, with the labels it is made of. A counter or the
subscriptions of a connection are written as a function of the old record, one of its four sets of cookies as `sinsert` or
`sremove` of the old set, so that which part changes is read off by unification; the entry of a service comes out of one of
the `Svc.…` functions or is written with one field replaced. Where two forms fit the same text the one that says more
comes first. -/
inductive Form : List Prim → St → St → Prop
  | send (t : St) (to m v) : Form [.emit m.kind, .stat .messagesSent] t (t.send to m v).1
  | sendOrRemove (t : St) (to m v) : Form [.emit m.kind, .stat .messagesSent, .pushRemoveConn] t (t.sendOrRemove to m v)
  | setConnUnsubscribeAllOf (t : St) (id k c) : t.conn? id = some k → Form [.conn .subs] t (t.setConn id (k.unsubscribeAllOf c))
  | setConnCalls (t : St) (id k x) : t.conn? id = some k → Form [.conn .calls] t (t.setConn id { k with calls := x })
  | setSvcSubs (t : St) (key v v') : AL.find? key t.b.svcs = some v → v.agree .subs v' →
      Form [.svc .subs] t (t.setSvcs (AL.insert key v' t.b.svcs))
  | setSvcCalls (t : St) (key v v') : AL.find? key t.b.svcs = some v → v.agree .calls v' →
      Form [.svc .calls] t (t.setSvcs (AL.insert key v' t.b.svcs))
  | insObjects (t : St) (id ck) : Form [.conn .objects] t (t.updConn id fun c => { c with objects := sinsert ck c.objects })
  | remObjects (t : St) (id ck) : Form [.conn .objects] t (t.updConn id fun c => { c with objects := sremove ck c.objects })
  | insSenders (t : St) (id ck) : Form [.conn .senders] t (t.updConn id fun c => { c with senders := sinsert ck c.senders })
  | remSenders (t : St) (id ck) : Form [.conn .senders] t (t.updConn id fun c => { c with senders := sremove ck c.senders })
  | insReceivers (t : St) (id ck) : Form [.conn .receivers] t (t.updConn id fun c => { c with receivers := sinsert ck c.receivers })
  | remReceivers (t : St) (id ck) : Form [.conn .receivers] t (t.updConn id fun c => { c with receivers := sremove ck c.receivers })
  | insBusListeners (t : St) (id ck) : Form [.conn .busListeners] t (t.updConn id fun c => { c with busListeners := sinsert ck c.busListeners })
  | remBusListeners (t : St) (id ck) : Form [.conn .busListeners] t (t.updConn id fun c => { c with busListeners := sremove ck c.busListeners })
  | updAllEvents (t : St) (id) (f : Conn → List Cookie) : Form [.conn .subs] t (t.updConn id fun c => { c with allEvents := f c })
  | updSubscriptions (t : St) (id) (f : Conn → List Cookie) :
      Form [.conn .subs] t (t.updConn id fun c => { c with subscriptions := f c })
  | updSubscribeEvent (t : St) (id svc ev) : Form [.conn .subs] t (t.updConn id fun c => c.subscribeEvent svc ev)
  | updUnsubscribeEvent (t : St) (id svc ev) : Form [.conn .subs] t (t.updConn id fun c => c.unsubscribeEvent svc ev)
  | statSent (t : St) (f : Stats → Nat) : Form [.stat .messagesSent] t (t.stat fun st => { st with messagesSent := f st })
  | statObjects (t : St) (f : Stats → Nat) : Form [.stat .numObjects] t (t.stat fun st => { st with numObjects := f st })
  | statServices (t : St) (f : Stats → Nat) : Form [.stat .numServices] t (t.stat fun st => { st with numServices := f st })
  | statChannels (t : St) (f : Stats → Nat) : Form [.stat .numChannels] t (t.stat fun st => { st with numChannels := f st })
  | statBusListeners (t : St) (f : Stats → Nat) :
      Form [.stat .numBusListeners] t (t.stat fun st => { st with numBusListeners := f st })
  | statConnections (t : St) (f : Stats → Nat) : Form [.stat .numConnections] t (t.stat fun st => { st with numConnections := f st })
  | statReceived (t : St) (f : Stats → Nat) :
      Form [.stat .messagesReceived] t (t.stat fun st => { st with messagesReceived := f st })
  | freshCookie (t : St) : Form [.cookie] t t.freshCookie.1
  | pushRemoveConn (t : St) (id b) : Form [.pushRemoveConn] t (t.pushRemoveConn id b)
  | setCalls (t x) : Form [.calls] t (t.setCalls x)
  | setObjs (t x) : Form [.objs] t (t.setObjs x)
  | setObjUuids (t x) : Form [.objUuids] t (t.setObjUuids x)
  | setSvcs (t x) : Form [.svcs] t (t.setSvcs x)
  | setSvcUuids (t x) : Form [.svcUuids] t (t.setSvcUuids x)
  | setChannels (t x) : Form [.channels] t (t.setChannels x)
  | setListeners (t x) : Form [.listeners] t (t.setListeners x)
  | setIntrospection (t x) : Form [.introspection] t (t.setIntrospection x)
  | setIqueries (t x) : Form [.iqueries] t (t.setIqueries x)
  | setWRemoveConns (t x) : Form [.removeConns] t (t.setWRemoveConns x)
  | setWRemoveCalls (t x) : Form [.removeCalls] t (t.setWRemoveCalls x)
  | setWServicesDestroyed (t x) : Form [.servicesDestroyed] t (t.setWServicesDestroyed x)
  | setWUnsubscribeEvent (t x) : Form [.unsubscribeEvent] t (t.setWUnsubscribeEvent x)
  | setWUnsubscribeAll (t x) : Form [.unsubscribeAll] t (t.setWUnsubscribeAll x)
  | setWCreateObject (t x) : Form [.createObject] t (t.setWCreateObject x)
  | setWDestroyObject (t x) : Form [.destroyObject] t (t.setWDestroyObject x)
  | setWCreateService (t x) : Form [.createService] t (t.setWCreateService x)
  | setWDestroyService (t x) : Form [.destroyService] t (t.setWDestroyService x)
  | setWAbortCalls (t x) : Form [.abortCalls] t (t.setWAbortCalls x)
  | setWShutdownNow (t x) : Form [.shutdownNow] t (t.setWShutdownNow x)
  | setWShutdownIdle (t x) : Form [.shutdownIdle] t (t.setWShutdownIdle x)
  | emit (t : St) (o : Out) : Form [.emit o.msg.kind] t (t.setOut (t.out ++ [o]))
  | eraseConn (t : St) (id) : Form [.connGone] t (t.setConns (AL.erase id t.b.conns))

theorem Form.fp {l} {t u : St} (h : Form l t u) : Fp l t u := by
  have m1 : ∀ {a : Prim} {l}, a ∈ a :: l := List.mem_cons_self ..
  have m2 : ∀ {a b : Prim} {l}, b ∈ a :: b :: l := List.mem_cons_of_mem _ m1
  cases h
  case send => exact (Fp.refl _).send m1 m2
  case sendOrRemove => exact (Fp.refl _).sendOrRemove m1 m2 (List.mem_cons_of_mem _ m2)
  case setConnCalls hk => exact (Fp.refl _).setConn .calls hk rfl m1
  case setConnUnsubscribeAllOf hk => exact (Fp.refl _).setConn .subs hk rfl m1
  case setSvcSubs ha hk => exact (Fp.refl _).step m1 (.svc _ _ _ _ _ hk ha)
  case setSvcCalls ha hk => exact (Fp.refl _).step m1 (.svc _ _ _ _ _ hk ha)
  case updAllEvents | updSubscriptions | updSubscribeEvent => exact (Fp.refl _).updConn _ (by exact fun _ => rfl) m1
  case insObjects | insSenders | insReceivers | insBusListeners => exact (Fp.refl _).updConn _ (by exact fun _ => ⟨rfl, _, .inl rfl⟩) m1
  case remObjects | remSenders | remReceivers | remBusListeners => exact (Fp.refl _).updConn _ (by exact fun _ => ⟨rfl, _, .inr rfl⟩) m1
  case updUnsubscribeEvent => exact (Fp.refl _).updConn _ (fun k => Conn.agree_unsubscribeEvent k _ _) m1
  case statSent | statObjects | statServices | statChannels | statBusListeners | statConnections | statReceived =>
    exact (Fp.refl _).stat _ (by exact fun _ => rfl) m1
  all_goals exact (Fp.refl _).step m1 (by constructor)

/-- The updates that lead from `s` to `t`, read off the way `t` is written, the last one first: an update in one of the
forms, or what a called function did, whose footprint is known. -/
inductive Tr : List Prim → St → St → Prop
  | nil (s) : Tr [] s s
  | form {l ps s t u} : Form ps t u → Tr l s t → Tr (ps ++ l) s u
  | call {l V s t u} : Fp V t u → Tr l s t → Tr (V ++ l) s u

theorem Tr.fp {l W} {s t : St} (h : Tr l s t) (hw : ∀ p ∈ l, p ∈ W) : Fp W s t := by
  induction h with
  | nil => exact .refl _
  | form hf _ ih =>
    exact (ih fun p hp => hw p (List.mem_append_right _ hp)).trans (hf.fp.mono fun p hp => hw p (List.mem_append_left _ hp))
  | call hf _ ih =>
    exact (ih fun p hp => hw p (List.mem_append_right _ hp)).trans (hf.mono fun p hp => hw p (List.mem_append_left _ hp))

/-- the arguments come in the order in which `fp_steps` finds them -/
theorem Tr.fp_from {l W} {s t u : St} (h : Tr l t u) (hw : ∀ p ∈ l, p ∈ W) (h0 : Fp W s t) : Fp W s u := h0.trans (h.fp hw)

/-- a `let (u, b) := …` of the model shows up in a branch as an equation about the pair -/
theorem Tr.form_eq {l ps β} {s t u : St} {p : St × β} {b : β} (he : p = (u, b)) (hu : Form ps t p.1) (h : Tr l s t) :
    Tr (ps ++ l) s u := by
  cases he; exact .form hu h

theorem Frame.send {R : St → St → Prop} {bad : List Prim} (F : Frame R bad) (s : St) (to : ConnId) (m : Rsp) (v : Option Nat)
    (hm : .emit m.kind ∉ bad := by dsimp only [Rsp.kind]; decide) (hs : .stat .messagesSent ∉ bad := by decide) :
    R s (s.send to m v).1 :=
  (Fp.send (W := [.emit m.kind, .stat .messagesSent]) (.refl s) (List.mem_cons_self ..)
    (List.mem_cons_of_mem _ (List.mem_cons_self ..))).frame F (by
      intro p hp
      rcases List.mem_cons.mp hp with rfl | hp
      · exact hm
      · rw [List.mem_singleton.mp hp]; exact hs)

theorem dropCall_fp {s : St} {serial call svc} (h : AL.find? (call.calleeObj, call.calleeSvc) s.b.svcs = some svc) :
    Fp [.calls, .svc .calls] s (dropCall s serial call svc) :=
  (Fp.step (.refl s) (by simp) (.calls s _)).step (by simp) (.svc _ _ svc _ .calls h (by exact rfl))

/- The updates are made irreducible from here on, though they are plain definitions: a footprint is read off the way a
function is written and nothing below looks inside an update. `split` and the unifier otherwise unfold the updates while
they search, which is slow to check, and `fp_steps` can fail to come back at all (see there). The attribute is local: in every other file the updates unfold again. -/
attribute [local irreducible] St.setConns St.setObjUuids St.setObjs St.setSvcUuids St.setSvcs St.setCalls St.setChannels
  St.setListeners St.setIntrospection St.setIqueries St.setNextCookie St.setWShutdownNow St.setWShutdownIdle
  St.setWRemoveConns St.setWRemoveCalls St.setWServicesDestroyed St.setWUnsubscribeEvent St.setWUnsubscribeAll
  St.setWCreateObject St.setWDestroyObject St.setWCreateService St.setWDestroyService St.setWAbortCalls St.setOut St.stat
  St.setConn St.updConn St.send St.sendOrRemove St.pushRemoveConn St.freshCookie

/-- an entry looked up before updates that leave its map alone is still there -/
local macro "fp_find" : tactic => `(tactic| first
  | assumption
  | (simp only [St.updConn_b_svcs, St.setConn_b_svcs, St.setCalls_b_svcs, St.send_b_svcs]; assumption))

/-- the side conditions of a form: an entry that was looked up, and that its replacement differs in one part only -/
local macro "fp_side" : tactic => `(tactic| first
  | assumption | fp_agree | fp_find
  | (simp only [St.conn?_def, St.setCalls_b_conns, St.setWRemoveCalls_b_conns, St.sendOrRemove_b_conns] at *; assumption))

/-- Reads the trace off the state in which a branch of a model function ends, outermost update first: each is one of the
forms (found by unification, `constructor`), or the result of a called function or a stage whose footprint theorem is
given in brackets. Where the text is none of these the reading stops; the labels read so far are checked against the footprint
claimed, and what is left is the goal for the state at which it stopped, if that is not the start or an assumption.
A trap, and the reason why the tactic is local to this file: the search relies on the updates being irreducible, which they
are here only. Where they unfold, the unifier looks for one update inside another (a `setConn` under
`setWServicesDestroyed`, say) and the search need not end: elsewhere state the step with `Fp.step`, `Fp.setConn`, …. -/
local syntax "fp_steps" ("[" term,* "]")? : tactic
local macro_rules
  | `(tactic| fp_steps) => `(tactic| fp_steps [])
  | `(tactic| fp_steps [$es,*]) => `(tactic|
  (apply Tr.fp_from
   repeat (first
     | (apply Tr.form; ((with_reducible constructor) <;> fp_side))
     -- `constructor` stops at `setSvcSubs`, the first form with this text; where the entry differs in its calls, its side condition fails
     | (apply Tr.form; ((with_reducible apply Form.setSvcCalls) <;> fp_side))
     | (apply Tr.form_eq ‹_›; ((with_reducible constructor) <;> fp_side))
     $[| (apply Tr.call ($es ‹_›))]*
     $[| (apply Tr.call ($es))]*)
   exact .nil _
   ((try dsimp only [Rsp.kind]); decide)
   try (first | exact .refl _ | assumption)))

/-- `fp_tac r (f args)` proves `∀ r, f args = .ok r → Fp W s …`: one goal per path through `f` (`fun_cases`), the paths
that end in an error dismissed, and on the others the updates peeled off the result. -/
local syntax "fp_tac" ident term (" using " term,+)? : tactic
local macro_rules
  | `(tactic| fp_tac $r $f $[using $es,*]?) => `(tactic|
  (revert $r:ident
   fun_cases $f <;> intro $r:ident h <;> cases h
   all_goals (try dsimp +zetaDelta only)
   all_goals fp_steps [$(es.getD ⟨#[]⟩),*]))

theorem openChannel_fp {s : St} {id e cap} :
    Fp [.cookie, .conn .senders, .conn .receivers, .channels, .stat .numChannels] s (openChannel s id e cap) := by
  unfold openChannel addEnd; cases e <;> fp_steps

theorem replyToCaller_fp {site} {s s' : St} {cid serial r v} (h : replyToCaller site s cid serial r v = .ok s') :
    Fp [.conn .calls, .emit .callFunctionReply, .stat .messagesSent, .pushRemoveConn] s s' := by
  rcases replyToCaller_outcome h with ⟨-, rfl⟩ | ⟨c, hc, -, rfl⟩
  · exact .refl _
  · exact ((Fp.refl s).setConn .calls hc).sendOrRemove

theorem removeBusListener_fp (s : St) (c : Cookie) : Fp removeBusListenerFoot s (removeBusListener s c) := by
  unfold removeBusListener
  split <;> fp_steps

theorem removeService_calls_fp (l : List Nat) (s s' : St) (h : removeService.calls s l = .ok s') : Fp [.calls, .removeCalls] s s' := by
  rw [removeService_calls_eq] at h
  refine Fp.foldE (fun s a s' h => ?_) _ _ _ h
  obtain ⟨call, -, rfl⟩ := dropPendingCall_ok h
  split <;> fp_steps

theorem dropService_fp (s : St) (c : Cookie) (oid : ObjId) (svu : Uuid) :
    Fp [.svcUuids, .svcs, .objs, .destroyService] s (dropService s c oid svu) := by
  unfold dropService; fp_steps

theorem dropSubscribers_fp (s : St) (c : Cookie) (subs : List ConnId) :
    Fp [.conn .subs, .servicesDestroyed, .stat .numServices] s (dropSubscribers s c subs) :=
  Fp.stat .numServices (Fp.foldl (fun t cid ht => by split <;> fp_steps) _ _ (.refl _))

theorem removeService_fp {s s' : St} {c : Cookie} (h : removeService s c = .ok s') : Fp removeServiceFoot s s' := by
  rcases removeService_outcome h with ⟨-, rfl⟩ | ⟨oid, svu, _, svc, s1, -, -, hc, rfl⟩
  · exact .refl _
  · exact ((dropService_fp ..).mono.trans (removeService_calls_fp _ _ _ hc).mono).trans (dropSubscribers_fp ..).mono

theorem dropObject_fp (s : St) (c : Cookie) (u : Uuid) (owner : ConnId) :
    Fp [.objUuids, .objs, .conn .objects, .destroyObject] s (dropObject s c u owner) := by
  unfold dropObject; fp_steps

theorem removeObject_fp {s s' : St} {c : Cookie} (h : removeObject s c = .ok s') : Fp removeObjectFoot s s' := by
  rcases removeObject_outcome h with ⟨-, rfl⟩ | ⟨u, obj, s1, -, -, hs, rfl⟩
  · exact .refl _
  · exact Fp.stat .numObjects ((dropObject_fp ..).mono.trans (Fp.foldE (fun _ _ _ hr => removeService_fp hr) _ _ _ hs).mono)

theorem removeEventSubscription_fp {s s' : St} {cid c ev} (h : removeEventSubscription s cid c ev = .ok s') :
    Fp removeEventSubscriptionFoot s s' := by
  fp_tac s' (removeEventSubscription s cid c ev)

theorem removeAllEventsSubscription_fp {s s' : St} {cid c} (h : removeAllEventsSubscription s cid c = .ok s') :
    Fp removeAllEventsSubscriptionFoot s s' := by
  fp_tac s' (removeAllEventsSubscription s cid c)

theorem removeSubscription_fp {s s' : St} {cid c} (h : removeSubscription s cid c = .ok s') : Fp [.svc .subs] s s' := by
  fp_tac s' (removeSubscription s cid c)

theorem rceConn_fp {s : St} {ck e owner} : Fp [.conn .senders, .conn .receivers] s (rceConn s ck e owner) := by
  unfold rceConn dropEnd; cases owner <;> cases e <;> fp_steps

theorem rceFinish_fp {t : St} {ck e ch' other} :
    Fp [.channels, .emit .channelEndClosed, .stat .messagesSent, .pushRemoveConn, .stat .numChannels] t (rceFinish t ck e ch' other) := by
  unfold rceFinish rceDrop
  split
  · split <;> fp_steps
  · fp_steps

theorem removeChannelEnd_fp {s s' : St} {c e o} (h : removeChannelEnd s c e o = .ok s') : Fp removeChannelEndFoot s s' := by
  rcases removeChannelEnd_outcome h with ⟨-, rfl⟩ | ⟨_, _, _, -, -, rfl⟩
  · exact .refl _
  · exact rceConn_fp.mono.trans rceFinish_fp.mono

theorem askIntrospection_fp {s s' : St} {ty e} (h : askIntrospection s ty e = .ok s') : Fp introspectionFoot s s' := by
  fp_tac s' (askIntrospection s ty e)

theorem replyPending_fp : ∀ (l : List IQuery) (s s' : St) (r m), replyPending s l r m = .ok s' → Fp introspectionFoot s s'
  | [], s, s', r, m, h => by cases h; exact .refl _
  | q :: l, s, s', r, m, h => by
    simp only [replyPending] at h
    split at h
    · split at h
      · cases h
      · exact replyPending_fp l _ _ _ _ h
    · exact Fp.trans (by fp_steps) (replyPending_fp l _ _ _ _ h)

theorem removeIntrospectionConn_go_fp : ∀ (l : List (Nat × Option Uuid × List IQuery)) (s s' : St),
    removeIntrospectionConn.go s l = .ok s' → Fp introspectionFoot s s'
  | [], s, s', h => by cases h; exact .refl _
  | (serial, cont, pending) :: l, s, s', h => by
    simp only [removeIntrospectionConn.go] at h
    repeat' ((try simp only [] at h); split at h)
    all_goals first
      | cases h
      | exact Fp.trans (by fp_steps [replyPending_fp _ _ _ _ _, askIntrospection_fp]) (removeIntrospectionConn_go_fp l _ _ h)

theorem removeIntrospectionConn_fp {s s' : St} {cid} (h : removeIntrospectionConn s cid = .ok s') : Fp introspectionFoot s s' := by
  unfold removeIntrospectionConn at h
  exact Fp.trans (by fp_steps) (removeIntrospectionConn_go_fp _ _ _ h)

/-- what `shutdown_connection` may touch while it drops the subscriptions of the connection -/
def dropSubscriptionsFoot : List Prim := removeEventSubscriptionFoot ++ removeAllEventsSubscriptionFoot ++ [.svc .subs]

theorem queueAborts_fp (s : St) (calls : List (Nat × (Nat × ConnId))) : Fp [.abortCalls, .stat .numConnections] s (queueAborts s calls) :=
  Fp.stat .numConnections (Fp.foldl (fun _ _ ht => ht.step (by decide) (.abortCalls _ _)) _ _ (.refl _))

theorem sayShutdown_fp (s : St) (id : ConnId) (b : Bool) (conn : Conn) :
    Fp [.stat .messagesSent, .emit .shutdown] s (sayShutdown s id b conn) := by
  have h1 := (Fp.refl s).stat (W := [.stat .messagesSent, .emit .shutdown])
    (f := fun st => { st with messagesSent := st.messagesSent + 1 }) .messagesSent
  unfold sayShutdown
  cases b
  · exact .refl _
  · cases conn.alive
    · exact h1
    · exact h1.emit (o := ⟨id, .shutdown, none⟩)

/-- `shutdown_connection` of a connection that is there, stage by stage: the state after each stage and what leads to it -/
structure ShutdownStages (s : St) (id : ConnId) (s' : St) where
  conn : Conn
  entry : s.conn? id = some conn
  /-- after the `Shutdown` message, if one is wanted -/
  told : St
  told_fp : Fp [.stat .messagesSent, .emit .shutdown] s told
  told_conns : told.b.conns = s.b.conns
  /-- the connection is out of the map, its listeners and its objects are removed -/
  noObjects : St
  objects : foldE removeObject (conn.busListeners.foldl removeBusListener (told.setConns (AL.erase id told.b.conns))) conn.objects =
    .ok noObjects
  noSubs : St
  subs : Fp dropSubscriptionsFoot noObjects noSubs
  noSenders : St
  senders : foldE (fun s c => removeChannelEnd s c .sender (some id)) noSubs conn.senders = .ok noSenders
  noReceivers : St
  receivers : foldE (fun s c => removeChannelEnd s c .receiver (some id)) noSenders conn.receivers = .ok noReceivers
  /-- the calls it had made are queued to be aborted, the introspection it had registered goes -/
  rest : removeIntrospectionConn (queueAborts noReceivers conn.calls) id = .ok s'

theorem shutdownConnection_ok {s s' : St} {id : ConnId} {b : Bool} (h : shutdownConnection s id b = .ok s') :
    (s.conn? id = none ∧ s' = s) ∨ Nonempty (ShutdownStages s id s') := by
  rw [shutdownConnection_eq] at h
  split at h
  · cases h; exact .inl ⟨‹_›, rfl⟩
  · simp only [removeConnParts, bind_ok_iff] at h
    obtain ⟨s1, h1, s2, h2, s3, h3, s4, h4, s5, h5, s6, h6, h7⟩ := h
    refine .inr ⟨⟨_, ‹_›, _, sayShutdown_fp s id b _, sayShutdown_conns s id b _, s1, h1, s4, ?_, s5, h5, s6, h6, h7⟩⟩
    exact ((Fp.foldE (fun _ _ _ h => removeEventSubscription_fp h) _ _ _ h2).mono).trans
      (((Fp.foldE (fun _ _ _ h => removeAllEventsSubscription_fp h) _ _ _ h3).mono).trans
        ((Fp.foldE (fun _ _ _ h => removeSubscription_fp h) _ _ _ h4).mono))

/-- what `shutdown_connection` may touch once the connection has left the map -/
def teardownFoot : List Prim :=
  removeBusListenerFoot ++ removeObjectFoot ++ dropSubscriptionsFoot ++ removeChannelEndFoot ++ [.abortCalls, .stat .numConnections] ++
    introspectionFoot

theorem shutdownConnection_teardown {s s' : St} {id : ConnId} {b : Bool} (h : shutdownConnection s id b = .ok s') :
    (s.conn? id = none ∧ s' = s) ∨ ∃ conn t, s.conn? id = some conn ∧ Fp [.stat .messagesSent, .emit .shutdown] s t ∧
      t.b.conns = s.b.conns ∧ Fp teardownFoot (t.setConns (AL.erase id t.b.conns)) s' := by
  rcases shutdownConnection_ok h with hn | ⟨⟨st⟩⟩
  · exact .inl hn
  · refine .inr ⟨st.conn, st.told, st.entry, st.told_fp, st.told_conns, ?_⟩
    have a1 := (Fp.foldl (W := teardownFoot) (fun u c hu => hu.trans (removeBusListener_fp u c).mono) st.conn.busListeners _
      (.refl _)).trans
      (Fp.foldE (fun _ _ _ h => removeObject_fp h) _ _ _ st.objects).mono
    have a6 := ((a1.trans st.subs.mono).trans (Fp.foldE (fun _ _ _ h => removeChannelEnd_fp h) _ _ _ st.senders).mono).trans
      (Fp.foldE (fun _ _ _ h => removeChannelEnd_fp h) _ _ _ st.receivers).mono
    exact (a6.trans (queueAborts_fp _ _).mono).trans (removeIntrospectionConn_fp st.rest).mono

theorem shutdownConnection_fp {s s' : St} {id b} (h : shutdownConnection s id b = .ok s') : Fp shutdownConnectionFoot s s' := by
  rcases shutdownConnection_teardown h with ⟨-, rfl⟩ | ⟨_, t, -, ht, -, h⟩
  · exact .refl _
  · exact (ht.mono.step (by decide) (.connGone t id)).trans h.mono

theorem createObject_fp {s : St} {id serial uuid r} (h : createObject s id serial uuid = .ok r) : Fp createObjectFoot s r.1 := by
  fp_tac r (createObject s id serial uuid)

theorem destroyObject_fp {s : St} {id serial c r} (h : destroyObject s id serial c = .ok r) : Fp destroyObjectFoot s r.1 := by
  fp_tac r (destroyObject s id serial c) using removeObject_fp

theorem createServiceImpl_fp {s : St} {id serial oc uuid info r} (h : createServiceImpl s id serial oc uuid info = .ok r) :
    Fp createServiceFoot s r.1 := by
  fp_tac r (createServiceImpl s id serial oc uuid info)

theorem createService_fp {s : St} {id serial oc uuid v r} (h : createService s id serial oc uuid v = .ok r) :
    Fp createServiceFoot s r.1 := createServiceImpl_fp h

theorem createService2_fp {s : St} {id serial oc uuid info r} (h : createService2 s id serial oc uuid info = .ok r) :
    Fp createServiceFoot s r.1 := by
  unfold createService2 at h
  repeat' split at h
  · cases h; exact .refl _
  · cases h; exact .refl _
  · exact createServiceImpl_fp h

theorem destroyService_fp {s : St} {id serial c r} (h : destroyService s id serial c = .ok r) : Fp destroyServiceFoot s r.1 := by
  fp_tac r (destroyService s id serial c) using removeService_fp

theorem callFunctionImpl_fp {s : St} {id serial svc f v p r} (h : callFunctionImpl s id serial svc f v p = .ok r) :
    Fp callFunctionFoot s r.1 := by
  revert r
  fun_cases callFunctionImpl s id serial svc f v p <;> intro r h <;> cases h
  all_goals (try dsimp +zetaDelta only)
  -- the message to the callee is an `if` on its version: its kind is known in each branch
  all_goals try split
  all_goals fp_steps

theorem callFunction2_fp {s : St} {id serial svc f v p r} (h : callFunction2 s id serial svc f v p = .ok r) :
    Fp callFunctionFoot s r.1 := by
  unfold callFunction2 at h
  repeat' split at h
  · cases h; exact .refl _
  · cases h; exact .refl _
  · exact callFunctionImpl_fp h

theorem callFunctionReply_fp {s : St} {id serial res r} (h : callFunctionReply s id serial res = .ok r) :
    Fp callFunctionReplyFoot s r.1 := by
  rcases callFunctionReply_outcome h with rfl | ⟨conn, call, svc, -, -, hsvc, ⟨-, rfl⟩ | ⟨-, -, ht⟩⟩
  · exact .refl _
  · exact (dropCall_fp hsvc).mono
  · exact (dropCall_fp hsvc).mono.trans (replyToCaller_fp ht).mono

theorem abortFunctionCall_fp {s : St} {id serial r} (h : abortFunctionCall s id serial = .ok r) : Fp [.abortCalls] s r.1 := by
  fp_tac r (abortFunctionCall s id serial)

theorem subscribeEvent_fp {s : St} {id serial svc ev r} (h : subscribeEvent s id serial svc ev = .ok r) :
    Fp subscribeEventFoot s r.1 := by
  fp_tac r (subscribeEvent s id serial svc ev)

theorem unsubscribeEvent_fp {s : St} {id svc ev r} (h : unsubscribeEvent s id svc ev = .ok r) : Fp unsubscribeEventFoot s r.1 := by
  fp_tac r (unsubscribeEvent s id svc ev)

theorem emitEvent_fp {s : St} {id svc ev p r} (h : emitEvent s id svc ev p = .ok r) : Fp emitEventFoot s r.1 := by
  fp_tac r (emitEvent s id svc ev p)
  exact Fp.foldl (fun t q ht => by split <;> fp_steps) _ _ (.refl _)

theorem queryServiceVersion_fp {s : St} {id serial svc r} (h : queryServiceVersion s id serial svc = .ok r) :
    Fp [.emit .queryServiceVersionReply, .stat .messagesSent] s r.1 := by
  fp_tac r (queryServiceVersion s id serial svc)

theorem queryServiceInfo_fp {s : St} {id serial svc r} (h : queryServiceInfo s id serial svc = .ok r) :
    Fp [.emit .queryServiceInfoReply, .stat .messagesSent] s r.1 := by
  fp_tac r (queryServiceInfo s id serial svc)

theorem subscribeService_fp {s : St} {id serial svc r} (h : subscribeService s id serial svc = .ok r) :
    Fp subscribeServiceFoot s r.1 := by
  fp_tac r (subscribeService s id serial svc)

theorem unsubscribeService_fp {s : St} {id svc r} (h : unsubscribeService s id svc = .ok r) :
    Fp [.svc .subs, .conn .subs] s r.1 := by
  fp_tac r (unsubscribeService s id svc)

theorem subscribeAllEvents_fp {s : St} {id serial svc r} (h : subscribeAllEvents s id serial svc = .ok r) :
    Fp subscribeAllEventsFoot s r.1 := by
  fp_tac r (subscribeAllEvents s id serial svc)

theorem unsubscribeAllEvents_fp {s : St} {id serial svc r} (h : unsubscribeAllEvents s id serial svc = .ok r) :
    Fp unsubscribeAllEventsFoot s r.1 := by
  revert r
  fun_cases unsubscribeAllEvents s id serial svc <;> intro r h <;> cases h
  -- the reply is optional: `let (s, ok) := match serial with | some n => s.send … | none => (s, true)`
  all_goals try (cases serial <;> try cases ‹(_, _) = (_, _)›)
  all_goals (try dsimp +zetaDelta only)
  all_goals fp_steps

theorem createChannel_fp {s : St} {id serial e cap r} (h : createChannel s id serial e cap = .ok r) : Fp createChannelFoot s r.1 := by
  rw [createChannel_eq] at h
  split at h <;> cases h <;> fp_steps [openChannel_fp]

theorem closeChannelEnd_fp {s : St} {id serial c e r} (h : closeChannelEnd s id serial c e = .ok r) : Fp closeChannelEndFoot s r.1 := by
  fp_tac r (closeChannelEnd s id serial c e) using removeChannelEnd_fp

theorem claimChannelEnd_fp {s : St} {id serial c e cap r} (h : claimChannelEnd s id serial c e cap = .ok r) :
    Fp claimChannelEndFoot s r.1 := by
  fp_tac r (claimChannelEnd s id serial c e cap)
  all_goals (cases e <;> dsimp +zetaDelta only <;> fp_steps)

theorem addChannelCapacity_fp {s : St} {id c cap r} (h : addChannelCapacity s id c cap = .ok r) : Fp addChannelCapacityFoot s r.1 := by
  fp_tac r (addChannelCapacity s id c cap) using removeChannelEnd_fp

theorem sendItem_fp {s : St} {id c p r} (h : sendItem s id c p = .ok r) : Fp sendItemFoot s r.1 := by
  fp_tac r (sendItem s id c p) using removeChannelEnd_fp

theorem sync_fp {s : St} {id serial r} (h : sync s id serial = .ok r) : Fp [.emit .syncReply, .stat .messagesSent] s r.1 := by
  fp_tac r (sync s id serial)

theorem createBusListener_fp {s : St} {id serial r} (h : createBusListener s id serial = .ok r) : Fp createBusListenerFoot s r.1 := by
  fp_tac r (createBusListener s id serial)

theorem destroyBusListener_fp {s : St} {id serial c r} (h : destroyBusListener s id serial c = .ok r) :
    Fp destroyBusListenerFoot s r.1 := by
  fp_tac r (destroyBusListener s id serial c)
  exact Fp.trans (by fp_steps) (removeBusListener_fp _ _).mono

theorem updListener_fp {s : St} {id c f r} (h : updListener s id c f = .ok r) : Fp [.listeners] s r.1 := by
  fp_tac r (updListener s id c f)

theorem sendAll_fp {W} {s t : St} {id} : ∀ (l : List Rsp), (∀ m ∈ l, .emit m.kind ∈ W) → .stat .messagesSent ∈ W → Fp W s t →
    Fp W s (sendAll t id l).1
  | [], _, _, h => h
  | m :: l, hl, hs, h => by
    simp only [sendAll]
    split
    · exact sendAll_fp l (fun m hm => hl m (List.mem_cons_of_mem _ hm)) hs (h.send (hl m (List.mem_cons_self ..)) hs)
    · exact h.send (hl m (List.mem_cons_self ..)) hs

theorem currentObjMsgs_ns (b : Broker) (l : Listener) (c : Cookie) (o) : ∀ m ∈ currentObjMsgs b l c o, ∃ e, m = .emitBusEvent (some c) e := by
  intro m hm
  cases o <;> simp only [currentObjMsgs, List.mem_filterMap] at hm <;> obtain ⟨_, _, h⟩ := hm
  · split at h <;> cases h; exact ⟨_, rfl⟩
  · obtain ⟨_, _, rfl⟩ := Option.map_eq_some_iff.mp h; exact ⟨_, rfl⟩

theorem currentSvcMsgs_ns (b : Broker) (l : Listener) (c : Cookie) (o) : ∀ m ∈ currentSvcMsgs b l c o, ∃ e, m = .emitBusEvent (some c) e := by
  intro m hm
  cases o <;> simp only [currentSvcMsgs, List.mem_filterMap] at hm <;> obtain ⟨_, _, h⟩ := hm
  · split at h <;> cases h; exact ⟨_, rfl⟩
  · obtain ⟨_, _, rfl⟩ := Option.map_eq_some_iff.mp h; exact ⟨_, rfl⟩

/-- what `start_bus_listener` sends after its answer: created-events tagged with the listener, then the marker -/
theorem currentMsgs_tagged {b : Broker} {l : Listener} {c : Cookie} {so ss} {m : Rsp}
    (h : m ∈ currentObjMsgs b l c so ++ currentSvcMsgs b l c ss ++ [.busListenerCurrentFinished c]) :
    (∃ e, m = .emitBusEvent (some c) e) ∨ m = .busListenerCurrentFinished c := by
  simp only [List.mem_append, List.mem_singleton] at h
  rcases h with (h | h) | h
  · exact .inl (currentObjMsgs_ns _ _ _ _ _ h)
  · exact .inl (currentSvcMsgs_ns _ _ _ _ _ h)
  · exact .inr h

theorem startBusListener_fp {s : St} {id serial c sc r} (h : startBusListener s id serial c sc = .ok r) :
    Fp startBusListenerFoot s r.1 := by
  fp_tac r (startBusListener s id serial c sc)
  refine sendAll_fp _ (fun m hm => ?_) (by decide) (by fp_steps)
  rcases currentMsgs_tagged hm with ⟨e, rfl⟩ | rfl <;> (dsimp only [Rsp.kind]; decide)

theorem stopBusListener_fp {s : St} {id serial c r} (h : stopBusListener s id serial c = .ok r) :
    Fp [.listeners, .emit .stopBusListenerReply, .stat .messagesSent] s r.1 := by
  fp_tac r (stopBusListener s id serial c)

theorem registerIntrospection_fp {s : St} {id tys r} (h : registerIntrospection s id tys = .ok r) : Fp [.introspection] s r.1 := by
  fp_tac r (registerIntrospection s id tys)
  exact Fp.foldl (fun t a ht => by fp_steps) _ _ (.refl _)

theorem queryIntrospection_fp {s : St} {id serial ty r} (h : queryIntrospection s id serial ty = .ok r) : Fp introspectionFoot s r.1 := by
  fp_tac r (queryIntrospection s id serial ty) using askIntrospection_fp

theorem queryIntrospectionReply_fp {s : St} {id serial x r} (h : queryIntrospectionReply s id serial x = .ok r) :
    Fp introspectionFoot s r.1 := by
  fp_tac r (queryIntrospectionReply s id serial x) using askIntrospection_fp, replyPending_fp _ _ _ _ _

theorem handleMessage_fp {s : St} {id : ConnId} {r} : ∀ {m : Req}, handleMessage s id m = .ok r → Fp m.foot s r.1
  | .createObject .., h => createObject_fp h
  | .destroyObject .., h => destroyObject_fp h
  | .createService .., h => createService_fp h
  | .createService2 .., h => createService2_fp h
  | .destroyService .., h => destroyService_fp h
  | .callFunction .., h => callFunctionImpl_fp h
  | .callFunction2 .., h => callFunction2_fp h
  | .callFunctionReply .., h => callFunctionReply_fp h
  | .abortFunctionCall .., h => abortFunctionCall_fp h
  | .subscribeEvent .., h => subscribeEvent_fp h
  | .unsubscribeEvent .., h => unsubscribeEvent_fp h
  | .emitEvent .., h => emitEvent_fp h
  | .queryServiceVersion .., h => queryServiceVersion_fp h
  | .queryServiceInfo .., h => queryServiceInfo_fp h
  | .subscribeService .., h => subscribeService_fp h
  | .unsubscribeService .., h => unsubscribeService_fp h
  | .subscribeAllEvents .., h => subscribeAllEvents_fp h
  | .unsubscribeAllEvents .., h => unsubscribeAllEvents_fp h
  | .createChannel .., h => createChannel_fp h
  | .closeChannelEnd .., h => closeChannelEnd_fp h
  | .claimChannelEnd .., h => claimChannelEnd_fp h
  | .sendItem .., h => sendItem_fp h
  | .addChannelCapacity .., h => addChannelCapacity_fp h
  | .sync .., h => sync_fp h
  | .createBusListener .., h => createBusListener_fp h
  | .destroyBusListener .., h => destroyBusListener_fp h
  | .addFilter .., h => updListener_fp h
  | .removeFilter .., h => updListener_fp h
  | .clearFilters .., h => updListener_fp h
  | .startBusListener .., h => startBusListener_fp h
  | .stopBusListener .., h => stopBusListener_fp h
  | .registerIntrospection .., h => registerIntrospection_fp h
  | .queryIntrospection .., h => queryIntrospection_fp h
  | .queryIntrospectionReply .., h => queryIntrospectionReply_fp h
  | .other _, h => by cases h; exact .refl _

theorem received_fp (r : St × Bool) (id : ConnId) : Fp [.pushRemoveConn, .stat .messagesReceived] r.1 (received r id) := by
  refine Fp.stat .messagesReceived ?_
  split
  · exact .refl _
  · exact .step (.refl _) (by decide) (.pushRemoveConn _ id false)

theorem handleEvent_msg_ok {s s' : St} {id : ConnId} {m : Req} (h : handleEvent s (.msg id m) = .ok s') :
    ∃ r, handleMessage s id m = .ok r ∧ Fp [.pushRemoveConn, .stat .messagesReceived] r.1 s' := by
  obtain ⟨r, hm, rfl⟩ := handleEvent_msg h
  exact ⟨r, hm, received_fp r id⟩

theorem handleEvent_fp {s s' : St} : ∀ {e : Event}, handleEvent s e = .ok s' → Fp e.foot s s'
  | .newConn id v, h => by
    obtain ⟨hn, rfl⟩ := handleEvent_newConn_ok h
    show Fp [.connNew, .stat .numConnections] s _
    exact Fp.stat .numConnections (Fp.step (.refl _) (by decide) (.connNew s id _ hn))
  | .connShutdown id, h => by cases h; exact .step (.refl _) (List.mem_cons_self ..) (.pushRemoveConn s id false)
  | .shutdownConn id, h => by cases h; exact .step (.refl _) (List.mem_cons_self ..) (.pushRemoveConn s id true)
  | .msg id m, h => by
    obtain ⟨r, hm, hf⟩ := handleEvent_msg_ok h
    exact (handleMessage_fp hm).inl.trans hf.inr
  | .shutdownBroker, h => by cases h; fp_steps
  | .shutdownIdle, h => by cases h; fp_steps
  | .taskDropped id, h => by cases h; exact Fp.step (.refl _) (by simp [Event.foot]) (.connDead s id)

theorem emitBusEvent_fp (s : St) (e : BusEv) : Fp emitBusEventFoot s (emitBusEvent s e) :=
  Fp.foldl (fun t c ht => by split <;> fp_steps) _ _ (.refl _)

theorem notifyCallee_fp (s : St) (cid : ConnId) (serial : Nat) : Fp [.emit .abortFunctionCall, .stat .messagesSent, .pushRemoveConn] s (notifyCallee s cid serial) := by
  unfold notifyCallee
  split
  · split <;> fp_steps
  · exact .refl _

theorem abortCall_fp {s s' : St} {serial cid} (h : abortCall s serial cid = .ok s') : Fp abortCallFoot s s' := by
  rcases abortCall_outcome h with ⟨rfl, -⟩ | ⟨call, -, -, h⟩
  · exact .refl _
  · exact ((Fp.step (.refl s) (by decide) (.calls s _)).trans (notifyCallee_fp _ _ _).mono).trans (replyToCaller_fp h).mono

end Aldrin.Broker
