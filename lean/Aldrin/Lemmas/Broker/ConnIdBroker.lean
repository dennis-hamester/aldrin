/-
The broker together with the allocator of its connection ids: a new connection gets the id that `acquire` returns, and
an id can only be released while the broker has no connection under it (the key of the broker's map of connections is
a clone of the `ConnectionId`, and the id is released when the last clone is dropped). Then the id of a new connection
is never in use: the `debug_assert!(dup.is_none())` of `Broker::run` cannot fail.
-/
import Aldrin.Lemmas.Broker.Exists
import Aldrin.Lemmas.Broker.Turn
import Aldrin.Lemmas.ConnId.Inv

namespace Aldrin.Broker

structure Node where
  b : Broker := {}
  w : Work := {}
  ids : Aldrin.ConnId.Sys := {}

inductive NEv where
  /-- `BrokerHandle::connect` with a handshake that negotiated `version`: an id is acquired, `NewConnection` is handled -/
  | connect (version : Nat)
  /-- any other event of `Broker::run` (a `newConn` here is ignored: connections only come through `connect`) -/
  | ev (e : Event)
  /-- the last clone of the id goes; ignored while the broker still has a connection under that id, or if the id is not in use -/
  | dropId (id : Nat)

def Event.isNewConn : Event → Bool
  | .newConn _ _ => true
  | _ => false

def Node.step (n : Node) : NEv → Except Panic (Node × List Out)
  | .connect v =>
    let (id, ids) := n.ids.ids.acquire
    match Aldrin.Broker.step n.b n.w (.newConn id v) with
    | .error p => .error p
    | .ok (b, w, out) => .ok ({ b := b, w := w, ids := { ids := ids, held := id :: n.ids.held } }, out)
  | .ev e =>
    if e.isNewConn then .ok (n, []) else
    match Aldrin.Broker.step n.b n.w e with
    | .error p => .error p
    | .ok (b, w, out) => .ok ({ n with b := b, w := w }, out)
  | .dropId id =>
    if (AL.find? id n.b.conns).isSome then .ok (n, []) else
    match n.ids.step (.release id) with
    | .error p => .error (.debugAssert "Inner::release")
    | .ok ids => .ok ({ n with ids := ids }, [])

def Node.run (n : Node) : List NEv → Except Panic Node
  | [] => .ok n
  | e :: es => match n.step e with
    | .error p => .error p
    | .ok (n, _) => n.run es

/-- the allocator's bookkeeping is right and every connection of the broker has an id that is in use -/
structure NInv (n : Node) : Prop where
  ids : Aldrin.ConnId.Inv n.ids
  held : ∀ c, exB ⟨n.b, n.w, []⟩ c = true → c ∈ n.ids.held

theorem NInv.init : NInv {} := ⟨Aldrin.ConnId.Inv.init, by intro c h; simp [exB, AL.find?] at h⟩

theorem isNewConn_false {e : Event} (h : e.isNewConn = false) : ∀ id v, e ≠ .newConn id v := by
  intro id v he; subst he; simp [Event.isNewConn] at h

/-- the id that `connect` acquires is not the id of a connection the broker has: the duplicate check of `NewConnection` passes -/
theorem NInv.acquired_is_new {n : Node} (h : NInv n) : (AL.find? n.ids.ids.acquire.1 n.b.conns).isSome = false := by
  cases hf : AL.find? n.ids.ids.acquire.1 n.b.conns with
  | none => rfl
  | some conn => exact absurd (h.held _ (by simp [exB, hf])) (Aldrin.ConnId.acquire_fresh h.ids)

theorem NInv.handleEvent_newConn_ok {n : Node} (h : NInv n) (v : Nat) :
    ∃ s, handleEvent ⟨n.b, n.w, []⟩ (.newConn n.ids.ids.acquire.1 v) = .ok s := by
  simp only [handleEvent, St.conn?, h.acquired_is_new, Bool.false_eq_true, ↓reduceIte]
  exact ⟨_, rfl⟩

theorem Node.step_inv {n n' : Node} {e : NEv} {out : List Out} (h : NInv n) (hr : n.step e = .ok (n', out)) : NInv n' := by
  cases e with
  | connect v =>
    simp only [Node.step] at hr
    split at hr
    · cases hr
    · rename_i b w o hs
      cases hr
      refine ⟨Aldrin.ConnId.acquire_inv h.ids, fun c hc => ?_⟩
      -- the handler puts the new connection into the map, the loop adds none
      obtain ⟨s1, h1, h2⟩ := step_ok hs
      obtain ⟨-, rfl⟩ := handleEvent_newConn_ok h1
      have := processLoop_ex _ _ _ h2 c hc
      simp only [exB_stat, exB_setConn] at this
      split at this
      · rename_i heq; rw [← heq]; exact List.mem_cons_self
      · exact List.mem_cons_of_mem _ (h.held c this)
  | ev e =>
    simp only [Node.step] at hr
    split at hr
    · cases hr; exact h
    · rename_i hn
      split at hr
      · cases hr
      · rename_i b w o hs
        cases hr
        exact ⟨h.ids, fun c hc => h.held c (step_ex (isNewConn_false (by simpa using hn)) hs c hc)⟩
  | dropId id =>
    simp only [Node.step] at hr
    split at hr
    · cases hr; exact h
    · rename_i hfree
      obtain ⟨ids', hs, hi⟩ := Aldrin.ConnId.step_ok h.ids (.release id)
      simp only [hs] at hr
      cases hr
      refine ⟨hi, fun c hc => ?_⟩
      -- a connection of the broker is not the one whose id goes
      have hne : c ≠ id := by
        rintro rfl
        simp only [exB] at hc
        cases hf : AL.find? c n.b.conns <;> simp [hf] at hc hfree
      rw [Aldrin.ConnId.step_release_held hs]
      exact (List.mem_erase_of_ne hne).2 (h.held c hc)

theorem Node.run_inv : ∀ (es : List NEv) (n n' : Node), NInv n → n.run es = .ok n' → NInv n' := by
  intro es
  induction es with
  | nil => intro n n' h hr; simp only [Node.run, Except.ok.injEq] at hr; subst hr; exact h
  | cons e es ih =>
    intro n n' h hr
    simp only [Node.run] at hr
    split at hr
    · simp at hr
    · rename_i n1 o h1
      exact ih _ _ (Node.step_inv h h1) hr

end Aldrin.Broker
