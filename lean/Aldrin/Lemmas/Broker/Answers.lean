/-
A request with a serial that a live connection sends and that the broker handles without closing the connection is
answered in the same turn.
-/
import Aldrin.Lemmas.Broker.StepParts

namespace Aldrin.Broker
open Aldrin.Client (SKind rspKey reqKey)

/-- how many checked messages (serial replies, tagged messages) have been queued -/
def nrep (s : St) : Nat := (sf s.out).length

@[simp] theorem nrep_setConns (s : St) (x : List (ConnId × Conn)) : nrep (s.setConns x) = nrep s := rfl
@[simp] theorem nrep_setObjUuids (s : St) (x : List (Cookie × Uuid)) : nrep (s.setObjUuids x) = nrep s := rfl
@[simp] theorem nrep_setObjs (s : St) (x : List (Uuid × Obj)) : nrep (s.setObjs x) = nrep s := rfl
@[simp] theorem nrep_setSvcUuids (s : St) (x : List (Cookie × (ObjId × Uuid × SvcInfo))) : nrep (s.setSvcUuids x) = nrep s := rfl
@[simp] theorem nrep_setSvcs (s : St) (x : List ((Uuid × Uuid) × Svc)) : nrep (s.setSvcs x) = nrep s := rfl
@[simp] theorem nrep_setCalls (s : St) (x : SerialMap Call) : nrep (s.setCalls x) = nrep s := rfl
@[simp] theorem nrep_setChannels (s : St) (x : List (Cookie × Chan)) : nrep (s.setChannels x) = nrep s := rfl
@[simp] theorem nrep_setListeners (s : St) (x : List (Cookie × Listener)) : nrep (s.setListeners x) = nrep s := rfl
@[simp] theorem nrep_setIntrospection (s : St) (x : List (Uuid × IEntry)) : nrep (s.setIntrospection x) = nrep s := rfl
@[simp] theorem nrep_setIqueries (s : St) (x : SerialMap Uuid) : nrep (s.setIqueries x) = nrep s := rfl
@[simp] theorem nrep_setNextCookie (s : St) (x : Cookie) : nrep (s.setNextCookie x) = nrep s := rfl
@[simp] theorem nrep_setWShutdownNow (s : St) (x : Bool) : nrep (s.setWShutdownNow x) = nrep s := rfl
@[simp] theorem nrep_setWShutdownIdle (s : St) (x : Bool) : nrep (s.setWShutdownIdle x) = nrep s := rfl
@[simp] theorem nrep_setWRemoveConns (s : St) (x : List (ConnId × Bool)) : nrep (s.setWRemoveConns x) = nrep s := rfl
@[simp] theorem nrep_setWRemoveCalls (s : St) (x : List (Nat × ConnId × CallResult)) : nrep (s.setWRemoveCalls x) = nrep s := rfl
@[simp] theorem nrep_setWServicesDestroyed (s : St) (x : List (ConnId × Cookie)) : nrep (s.setWServicesDestroyed x) = nrep s := rfl
@[simp] theorem nrep_setWUnsubscribeEvent (s : St) (x : List (ConnId × Cookie × Nat)) : nrep (s.setWUnsubscribeEvent x) = nrep s := rfl
@[simp] theorem nrep_setWUnsubscribeAll (s : St) (x : List (ConnId × Cookie)) : nrep (s.setWUnsubscribeAll x) = nrep s := rfl
@[simp] theorem nrep_setWCreateObject (s : St) (x : List ObjId) : nrep (s.setWCreateObject x) = nrep s := rfl
@[simp] theorem nrep_setWDestroyObject (s : St) (x : List ObjId) : nrep (s.setWDestroyObject x) = nrep s := rfl
@[simp] theorem nrep_setWCreateService (s : St) (x : List SvcId) : nrep (s.setWCreateService x) = nrep s := rfl
@[simp] theorem nrep_setWDestroyService (s : St) (x : List SvcId) : nrep (s.setWDestroyService x) = nrep s := rfl
@[simp] theorem nrep_setWAbortCalls (s : St) (x : List (Nat × ConnId)) : nrep (s.setWAbortCalls x) = nrep s := rfl
@[simp] theorem nrep_stat (s : St) (f : Stats → Stats) : nrep (s.stat f) = nrep s := rfl
@[simp] theorem nrep_pushRemoveConn (s : St) (id : ConnId) (b : Bool) : nrep (s.pushRemoveConn id b) = nrep s := rfl
@[simp] theorem nrep_freshCookie (s : St) : nrep s.freshCookie.1 = nrep s := rfl
@[simp] theorem nrep_setConn (s : St) (id : ConnId) (c : Conn) : nrep (s.setConn id c) = nrep s := rfl
@[simp] theorem nrep_updConn (s : St) (id : ConnId) (f : Conn → Conn) : nrep (s.updConn id f) = nrep s := by
  unfold nrep; simp

@[simp] theorem nrep_send (s : St) (to : ConnId) (m : Rsp) (v : Option Nat) :
    nrep (s.send to m v).1 = nrep s + (if aliveB s to && ((strictKey m).isSome || (tagOf m).isSome) then 1 else 0) := by
  unfold nrep
  rw [St.send_out]
  cases aliveB s to <;> cases h : ((strictKey m).isSome || (tagOf m).isSome) <;> simp [h]

@[simp] theorem nrep_sendOrRemove (s : St) (to : ConnId) (m : Rsp) (v : Option Nat) :
    nrep (s.sendOrRemove to m v) = nrep s + (if aliveB s to && ((strictKey m).isSome || (tagOf m).isSome) then 1 else 0) := by
  unfold nrep
  rw [St.sendOrRemove_out]
  cases aliveB s to <;> cases h : ((strictKey m).isSome || (tagOf m).isSome) <;> simp [h]

@[simp] theorem nrep_removeBusListener (s : St) (c : Cookie) : nrep (removeBusListener s c) = nrep s := by
  unfold nrep; simp

theorem nrep_sendAll_le (l : List Rsp) (s : St) (id : ConnId) : nrep s ≤ nrep (sendAll s id l).1 := by
  obtain ⟨t, ht, _⟩ := sendAll_out l s id
  unfold nrep; rw [ht, sf_append]; simp

theorem handleMessage_ans {s : St} {id : ConnId} {m : Req} {r} (hr : handleMessage s id m = .ok r)
    (hc : (s.conn? id).isSome = true) (hok : r.2 = true) (hk : (reqKeyS m).isSome = true) : sf r.1.out ≠ sf s.out := by
  cases m
  case startBusListener => exact (startBusListener_rep hr).2 hok hc
  all_goals exact (handleMessage_reply (by exact fun _ _ _ h => nomatch h) hr).answered hok hk hc

theorem shutdownConnection_dead {s s' : St} {id b} (hr : shutdownConnection s id b = .ok s') : aliveB s' id = false := by
  rcases shutdownConnection_teardown hr with ⟨hn, rfl⟩ | ⟨conn, t, _, _, _, h⟩
  · exact conn_none_dead hn
  · -- nobody comes to life after the connection has been taken out of the table
    refine Bool.eq_false_iff.mpr fun ha => ?_
    simpa [aliveB, AL.find?_erase] using (h.frame AliveLe.frame : AliveLe _ s') id ha

theorem step_msg_answers {b b' : Broker} {w w' : Work} {id : ConnId} {m : Req} {out : List Out}
    (hr : step b w (.msg id m) = .ok (b', w', out)) (ha : aliveB ⟨b, w, []⟩ id = true) (ha' : aliveB ⟨b', w', []⟩ id = true)
    (hk : (reqKeyS m).isSome = true) : sf out ≠ [] := by
  obtain ⟨⟨s1, ok⟩, k, hm, h2⟩ := step_msg_ok hr
  cases ok with
  | true =>
    have hc : (St.conn? ⟨b, w, []⟩ id).isSome = true := by
      cases hc : St.conn? ⟨b, w, []⟩ id
      · rw [conn_none_dead hc] at ha; cases ha
      · rfl
    rw [(processLoop_s _ _ _ h2 :)]
    exact handleMessage_ans hm hc rfl hk
  | false =>
    -- the connection is queued for removal and removed by the first round of the work loop
    exfalso
    obtain ⟨s3, hsd, h3⟩ := processLoop_item (St.pop_removeConns (rest := s1.w.removeConns) rfl) h2
    have := processLoop_alive _ _ _ h3 id ha'
    rw [shutdownConnection_dead hsd] at this; cases this

end Aldrin.Broker
