/-
What a handler that ends well has done, in terms of its stages (`Stages.lean`): answers, which change nothing but the
output and a counter (a footprint says so), around at most one operation on the state — or, for the handlers that hand
over to a clean-up function (`close_channel_end`, `send_item`, `add_channel_capacity`, `destroy_object`,
`destroy_service`), the call of that function with what was known when it was made; the outcomes of the clean-up
functions themselves are in `Stages.lean`. Also what the two stages `rceConn`, `rceFinish` of `remove_channel_end` change.
`ok_paths` takes a handler apart by its paths that end well, for the proofs that need the exact text of a path.
-/
import Aldrin.Lemmas.Broker.Footprint
import Aldrin.Lemmas.Broker.Stages
import Aldrin.Lemmas.Broker.Send

namespace Aldrin.Broker
open Generated

theorem pair_eq {α β : Type} {p : α × β} {a : α} {b : β} (h : p = (a, b)) : a = p.1 ∧ b = p.2 := by
  cases h; exact ⟨rfl, rfl⟩

/-- The paths of a handler that end well, for `h : f … = .ok (s', ok)`: what the path returns is put in place of `s'`
and `ok`, and the state and the flag that a `send` on the path returns are written as its two parts. -/
macro "ok_paths " f:term " at " h:ident : tactic => `(tactic|
  (revert $h:ident
   fun_cases $f <;> intro $h:ident <;>
     first | cases $h:ident | (have e := pair_eq (Except.ok.inj $h); cases e.1; cases e.2; clear e)
   all_goals try cases ‹St.freshCookie _ = _›
   all_goals first | (have e := pair_eq ‹St.send _ _ _ _ = (_, _)›; cases e.1; cases e.2; clear e) | skip))

theorem rceConn_channels (s : St) (ck : Cookie) (e : ChanEnd) (owner : Option ConnId) : (rceConn s ck e owner).b.channels = s.b.channels := by
  unfold rceConn; split <;> simp
theorem rceConn_listeners (s : St) (ck : Cookie) (e : ChanEnd) (owner : Option ConnId) : (rceConn s ck e owner).b.listeners = s.b.listeners := by
  unfold rceConn; split <;> simp
theorem rceConn_stats (s : St) (ck : Cookie) (e : ChanEnd) (owner : Option ConnId) : (rceConn s ck e owner).b.stats = s.b.stats := by
  unfold rceConn; split <;> simp
theorem rceConn_nextCookie (s : St) (ck : Cookie) (e : ChanEnd) (owner : Option ConnId) : (rceConn s ck e owner).b.nextCookie = s.b.nextCookie := by
  unfold rceConn; split <;> simp
theorem rceConn_out (s : St) (ck : Cookie) (e : ChanEnd) (owner : Option ConnId) : (rceConn s ck e owner).out = s.out := by
  unfold rceConn; split <;> simp

theorem rceConn_isSome (s : St) (ck : Cookie) (e : ChanEnd) (owner : Option ConnId) (x : ConnId) :
    (AL.find? x (rceConn s ck e owner).b.conns).isSome = (AL.find? x s.b.conns).isSome := by
  unfold rceConn; split
  · exact conn?_isSome_updConn _ _ _ _
  · rfl

theorem rceConn_aliveB (s : St) (ck : Cookie) (e : ChanEnd) (owner : Option ConnId) (x : ConnId) :
    aliveB (rceConn s ck e owner) x = aliveB s x := by
  unfold rceConn; split
  · next o =>
    rw [aliveB_eq, aliveB_eq, St.conn?_updConn]
    split
    · next h => subst h; cases e <;> cases s.conn? o <;> rfl
    · rfl
  · rfl

theorem rceFinish_cases (t : St) (ck : Cookie) (e : ChanEnd) (ch' : Chan) (other : Option ConnId) :
    (∃ oid, other = some oid ∧ (t.conn? oid).isSome = true ∧
      rceFinish t ck e ch' other = (t.setChannels (AL.insert ck ch' t.b.channels)).sendOrRemove oid (.channelEndClosed ck e)) ∨
    ((other = none ∨ ∃ oid, other = some oid ∧ t.conn? oid = none) ∧
      rceFinish t ck e ch' other = rceDrop (t.setChannels (AL.insert ck ch' t.b.channels)) ck) := by
  unfold rceFinish
  cases other with
  | none => exact .inr ⟨.inl rfl, rfl⟩
  | some oid =>
    dsimp only
    split
    · next h => exact .inl ⟨oid, rfl, h, rfl⟩
    · next h => exact .inr ⟨.inr ⟨oid, rfl, by simpa using h⟩, rfl⟩

/-- `rceFinish`: the owner of the other end, if it is a connection that is there, is told and the channel stays; else
the channel goes. Nothing else changes but counters (and, where a send fails, the queue of removals). -/
theorem rceFinish_shape (t : St) (ck : Cookie) (e : ChanEnd) (ch' : Chan) (other : Option ConnId) :
    (rceFinish t ck e ch' other).b.listeners = t.b.listeners ∧ (rceFinish t ck e ch' other).b.conns = t.b.conns ∧
    ((∃ oid, other = some oid ∧ (t.conn? oid).isSome = true ∧
        (rceFinish t ck e ch' other).b.channels = AL.insert ck ch' t.b.channels ∧
        (rceFinish t ck e ch' other).out = t.out ++ if aliveB t oid then [⟨oid, .channelEndClosed ck e, none⟩] else []) ∨
     ((other = none ∨ ∃ oid, other = some oid ∧ t.conn? oid = none) ∧
        (rceFinish t ck e ch' other).b.channels = AL.erase ck (AL.insert ck ch' t.b.channels) ∧
        (rceFinish t ck e ch' other).out = t.out)) := by
  rcases rceFinish_cases t ck e ch' other with ⟨oid, ho, hs, heq⟩ | ⟨ho, heq⟩ <;> rw [heq]
  · exact ⟨by simp, by simp, .inl ⟨oid, ho, hs, by simp, by rw [St.sendOrRemove_out]; rfl⟩⟩
  · exact ⟨by simp [rceDrop], by simp [rceDrop], .inr ⟨ho, by simp [rceDrop], by simp [rceDrop]⟩⟩

theorem removeChannelEnd_channels {s s' : St} {ck : Cookie} {e : ChanEnd} {owner : Option ConnId}
    (hr : removeChannelEnd s ck e owner = .ok s') :
    (∀ ck', ck' ≠ ck → AL.find? ck' s'.b.channels = AL.find? ck' s.b.channels) ∧
    (∀ ch', AL.find? ck s'.b.channels = some ch' → ∃ ch, AL.find? ck s.b.channels = some ch ∧ ch'.endState e.other = ch.endState e.other) := by
  rcases removeChannelEnd_outcome hr with ⟨-, rfl⟩ | ⟨ch, ch1, other, hf, hc, rfl⟩
  · exact ⟨fun _ _ => rfl, fun ch' h => ⟨ch', h, rfl⟩⟩
  obtain ⟨-, -, hcases⟩ := rceFinish_shape (rceConn s ck e owner) ck e ch1 other
  rw [rceConn_channels] at hcases
  rcases hcases with ⟨-, -, -, hchan, -⟩ | ⟨-, hchan, -⟩ <;> rw [hchan]
  · refine ⟨fun ck' hne => by rw [AL.find?_insert, if_neg (Ne.symm hne)], fun ch' h => ?_⟩
    rw [AL.find?_insert, if_pos rfl] at h; cases h
    exact ⟨ch, hf, (Chan.close_shape hc).2.2.1⟩
  · refine ⟨fun ck' hne => by rw [AL.find?_erase, if_neg (Ne.symm hne), AL.find?_insert, if_neg (Ne.symm hne)], fun ch' h => ?_⟩
    rw [AL.find?_erase, if_pos rfl] at h; cases h

theorem createChannel_outcome {s : St} {id serial e cap r} (h : createChannel s id serial e cap = .ok r) :
    r.1 = s ∨ ∃ conn, s.conn? id = some conn ∧
      r.1 = ((openChannel s id e cap).send id (.createChannelReply serial s.b.nextCookie)).1 := by
  rw [createChannel_eq] at h
  split at h <;> cases h
  · exact .inl rfl
  · exact .inr ⟨_, ‹_›, rfl⟩

def claimReplyFoot : List Prim := [.emit .claimChannelEndReply, .emit .channelEndClaimed, .stat .messagesSent, .pushRemoveConn]

theorem claimChannelEnd_states {s : St} {id serial ck e cap r} (h : claimChannelEnd s id serial ck e cap = .ok r) :
    r.1 = s ∨
    (∃ res, (res = .alreadyClaimed ∨ res = .invalidChannel) ∧ r.1 = (s.send id (.claimChannelEndReply serial res)).1) ∨
    ∃ conn ch ch' other res ncap, s.conn? id = some conn ∧ AL.find? ck s.b.channels = some ch ∧
      ch.claim e id cap = .ok (.ok (ch', other, res)) ∧
      r.1 = ((claimEnd s id ck e ch').send id (.claimChannelEndReply serial res)).1.sendOrRemove other
        (.channelEndClaimed ck e ncap) := by
  rw [claimChannelEnd_eq] at h
  split at h
  · cases h; exact .inl rfl
  split at h
  · cases h; exact .inr (.inl ⟨_, .inr rfl, rfl⟩)
  split at h
  · cases h
  · cases h; exact .inr (.inl ⟨_, Chan.claim_refused ‹_›, rfl⟩)
  · dsimp only at h
    split at h
    · cases h
    · cases h; exact .inr (.inr ⟨_, _, _, _, _, _, ‹_›, ‹_›, ‹_›, rfl⟩)

theorem claimChannelEnd_outcome {s : St} {id serial ck e cap r} (h : claimChannelEnd s id serial ck e cap = .ok r) :
    Fp claimReplyFoot s r.1 ∨ ∃ conn ch ch' other res, s.conn? id = some conn ∧ AL.find? ck s.b.channels = some ch ∧
      ch.claim e id cap = .ok (.ok (ch', other, res)) ∧ Fp claimReplyFoot (claimEnd s id ck e ch') r.1 := by
  rcases claimChannelEnd_states h with h1 | ⟨_, _, h1⟩ | ⟨conn, ch, ch', other, res, _, hc, hch, hcl, h1⟩ <;> rw [h1]
  · exact .inl (.refl _)
  · exact .inl (Fp.refl s).send
  · exact .inr ⟨_, _, _, _, _, hc, hch, hcl, (Fp.refl _).send.sendOrRemove⟩

theorem closeChannelEnd_outcome {s : St} {id serial ck e r} (h : closeChannelEnd s id serial ck e = .ok r) :
    Fp [.emit .closeChannelEndReply, .stat .messagesSent] s r.1 ∨ ∃ ch claimed, AL.find? ck s.b.channels = some ch ∧
      ch.checkClose id e = (.ok, claimed) ∧
      removeChannelEnd (s.send id (.closeChannelEndReply serial .ok)).1 ck e (if claimed then some id else none) = .ok r.1 := by
  revert h
  fun_cases closeChannelEnd s id serial ck e <;> intro h <;> cases h
  · exact .inl (.refl _)  -- the requester is gone
  · exact .inl (Fp.refl s).send  -- no such channel
  · exact .inl ((Fp.refl s).send_eq ‹_›)  -- the answer did not go out
  · -- `Ok`: the end goes
    cases St.send_fst ‹_›
    exact .inr ⟨_, _, ‹_›, ‹_›, ‹_›⟩
  · exact .inl ((Fp.refl s).send_eq ‹_›)  -- a refusal

def itemFoot : List Prim := [.emit .itemReceived, .emit .addChannelCapacity, .stat .messagesSent, .pushRemoveConn]

theorem passItem_fp (t : St) (id : ConnId) (v : Nat) (rid : ConnId) (ck : Cookie) (p : Payload) (add : Option Nat) :
    Fp itemFoot t (passItem t id v rid ck p add).1 := by
  unfold passItem
  split
  · exact .refl t
  · cases add
    · exact (Fp.refl t).sendOrRemove
    · exact (Fp.refl t).sendOrRemove.send

theorem passCapacity_fp (t : St) (ck : Cookie) (fwd : Option (ConnId × Nat)) : Fp itemFoot t (passCapacity t ck fwd) := by
  unfold passCapacity
  split
  · exact .refl t
  · split
    · exact .refl t
    · exact (Fp.refl t).sendOrRemove

/-- `addCapacity` returns `.ok none` where the receiver's capacity overflows, which closes its end -/
theorem addChannelCapacity_outcome {s : St} {id ck cap r} (h : addChannelCapacity s id ck cap = .ok r) :
    r.1 = s ∨ (∃ ch, AL.find? ck s.b.channels = some ch ∧ ch.addCapacity id cap = .ok none ∧
      removeChannelEnd s ck .receiver (some id) = .ok r.1) ∨
    ∃ ch ch' fwd, AL.find? ck s.b.channels = some ch ∧ ch.addCapacity id cap = .ok (some (ch', fwd)) ∧
      r.1 = passCapacity (s.setChannels (AL.insert ck ch' s.b.channels)) ck fwd := by
  rw [addChannelCapacity_eq] at h
  split at h
  · cases h; exact .inl rfl
  split at h
  · cases h
  · obtain ⟨t, ht, rfl⟩ := map_ok_iff.1 h
    exact .inr (.inl ⟨_, ‹_›, ‹_›, ht⟩)
  · cases h; exact .inr (.inr ⟨_, _, _, ‹_›, ‹_›, rfl⟩)

theorem sendItem_outcome {s : St} {id ck p r} (h : sendItem s id ck p = .ok r) :
    r.1 = s ∨
    (∃ ch t, AL.find? ck s.b.channels = some ch ∧ ch.sendItem id = .ok (.error .receiverUnclaimed) ∧
      removeChannelEnd s ck .receiver none = .ok t ∧ removeChannelEnd t ck .sender (some id) = .ok r.1) ∨
    (∃ ch, AL.find? ck s.b.channels = some ch ∧ ch.sendItem id = .ok (.error .capacityExhausted) ∧
      removeChannelEnd s ck .sender (some id) = .ok r.1) ∨
    ∃ sender ch ch' rid add, s.conn? id = some sender ∧ AL.find? ck s.b.channels = some ch ∧
      ch.sendItem id = .ok (.ok (ch', rid, add)) ∧
      r = passItem (s.setChannels (AL.insert ck ch' s.b.channels)) id sender.version rid ck p add := by
  rw [sendItem_eq] at h
  split at h
  · cases h; exact .inl rfl
  split at h
  · cases h; exact .inl rfl
  split at h
  · cases h
  · obtain ⟨u, hu, rfl⟩ := map_ok_iff.1 h
    cases h1 : removeChannelEnd s ck .receiver none with
    | error _ => rw [h1] at hu; cases hu
    | ok t => rw [h1] at hu; exact .inr (.inl ⟨_, t, ‹_›, ‹_›, rfl, hu⟩)
  · obtain ⟨u, hu, rfl⟩ := map_ok_iff.1 h
    exact .inr (.inr (.inl ⟨_, ‹_›, ‹_›, hu⟩))
  · cases h; exact .inl rfl
  · cases h; exact .inr (.inr (.inr ⟨_, _, _, _, _, ‹_›, ‹_›, ‹_›, rfl⟩))

def listenerReplyFoot : List Prim := [.cookie, .emit .createBusListenerReply, .stat .messagesSent]

theorem createBusListener_outcome {s : St} {id serial r} (h : createBusListener s id serial = .ok r) :
    Fp listenerReplyFoot s r.1 ∨ ∃ conn, s.conn? id = some conn ∧
      r.1 = addListener (s.freshCookie.1.send id (.createBusListenerReply serial s.b.nextCookie)).1 id s.b.nextCookie := by
  revert h
  fun_cases createBusListener s id serial <;> intro h <;> cases h
  all_goals try cases ‹St.freshCookie _ = _›
  all_goals try cases St.send_fst ‹_›
  · exact .inl (.refl _)  -- the requester is gone
  · exact .inl (Fp.send (Fp.step (.refl s) (by decide) (.cookie s)))  -- the answer did not go out
  · exact .inr ⟨_, ‹_›, rfl⟩

theorem destroyBusListener_outcome {s : St} {id serial c r} (h : destroyBusListener s id serial c = .ok r) :
    Fp [.emit .destroyBusListenerReply, .stat .messagesSent] s r.1 ∨
      r.1 = removeBusListener (s.send id (.destroyBusListenerReply serial .ok)).1 c := by
  revert h
  fun_cases destroyBusListener s id serial c <;> intro h <;> cases h
  · exact .inl (.refl _)  -- the requester is gone
  · exact .inl (Fp.refl s).send  -- no such listener
  · exact .inl ((Fp.refl s).send_eq ‹_›)  -- the answer did not go out
  · cases St.send_fst ‹_›; exact .inr rfl
  · exact .inl (Fp.refl s).send  -- another's listener

theorem updListener_outcome {s : St} {id ck r} {f : Listener → Listener} (h : updListener s id ck f = .ok r) :
    r.1 = s ∨ ∃ l, AL.find? ck s.b.listeners = some l ∧ l.conn = id ∧
      r.1 = s.setListeners (AL.insert ck (f l) s.b.listeners) := by
  revert h
  fun_cases updListener s id ck f <;> intro h <;> cases h
  · exact .inr ⟨_, ‹_›, ‹_›, rfl⟩
  · exact .inl rfl  -- another's listener
  · exact .inl rfl  -- no such listener

theorem stopBusListener_outcome {s : St} {id serial ck r} (h : stopBusListener s id serial ck = .ok r) :
    Fp [.emit .stopBusListenerReply, .stat .messagesSent] s r.1 ∨ ∃ l, AL.find? ck s.b.listeners = some l ∧ l.conn = id ∧
      r.1 = ((s.setListeners (AL.insert ck { l with scope := none } s.b.listeners)).send id (.stopBusListenerReply serial .ok)).1 := by
  revert h
  fun_cases stopBusListener s id serial ck <;> intro h <;> cases h
  · exact .inl (.refl _)  -- the requester is gone
  · exact .inl (Fp.refl s).send  -- no such listener
  · exact .inl (Fp.refl s).send  -- another's listener
  · exact .inr ⟨_, ‹_›, Decidable.of_not_not ‹_›, rfl⟩
  · exact .inl (Fp.refl s).send  -- not started

def startReplyFoot : List Prim :=
  [.emit .startBusListenerReply, .emit .emitBusEvent, .emit .busListenerCurrentFinished, .stat .messagesSent]

theorem startBusListener_outcome {s : St} {id serial ck sc r} (h : startBusListener s id serial ck sc = .ok r) :
    Fp startReplyFoot s r.1 ∨ ∃ l, AL.find? ck s.b.listeners = some l ∧ l.conn = id ∧
      Fp startReplyFoot (s.setListeners (AL.insert ck { l with scope := some sc } s.b.listeners)) r.1 := by
  revert h
  fun_cases startBusListener s id serial ck sc <;> intro h <;> cases h
  · exact .inl (.refl _)  -- the requester is gone
  · exact .inl (Fp.refl s).send  -- no such listener
  · exact .inl (Fp.refl s).send  -- another's listener
  · exact .inl (Fp.refl s).send  -- started already
  -- the listener has its scope
  all_goals
    refine .inr ⟨_, ‹_›, Decidable.of_not_not ‹_›, ?_⟩
    try cases St.send_fst ‹_›
  · exact (Fp.refl _).send  -- the answer did not go out
  · exact (Fp.refl _).send  -- scope `new`: the answer only
  · -- the answer, the events for what exists, the marker
    refine sendAll_fp _ (fun m hm => ?_) (by decide) (Fp.refl _).send
    rcases currentMsgs_tagged hm with ⟨e, rfl⟩ | rfl <;> (dsimp only [Rsp.kind]; decide)

theorem destroyObject_outcome {s : St} {id serial c r} (h : destroyObject s id serial c = .ok r) :
    Fp [.emit .destroyObjectReply, .stat .messagesSent] s r.1 ∨
      removeObject (s.send id (.destroyObjectReply serial .ok)).1 c = .ok r.1 := by
  revert h
  fun_cases destroyObject s id serial c <;> intro h <;> cases h
  · exact .inl (.refl _)  -- the requester is gone
  · exact .inl (Fp.refl s).send  -- no such object
  · exact .inl (Fp.refl s).send  -- another's object
  · exact .inl ((Fp.refl s).send_eq ‹_›)  -- the answer did not go out
  · cases St.send_fst ‹_›; exact .inr ‹_›

theorem destroyService_outcome {s : St} {id serial c r} (h : destroyService s id serial c = .ok r) :
    Fp [.emit .destroyServiceReply, .stat .messagesSent] s r.1 ∨
      removeService (s.send id (.destroyServiceReply serial .ok)).1 c = .ok r.1 := by
  revert h
  fun_cases destroyService s id serial c <;> intro h <;> cases h
  · exact .inl (.refl _)
  · exact .inl (Fp.refl s).send
  · exact .inl (Fp.refl s).send
  · exact .inl ((Fp.refl s).send_eq ‹_›)
  · cases St.send_fst ‹_›; exact .inr ‹_›

def objectReplyFoot : List Prim := [.cookie, .emit .createObjectReply, .stat .messagesSent]

theorem createObject_outcome {s : St} {id serial uuid r} (h : createObject s id serial uuid = .ok r) :
    Fp objectReplyFoot s r.1 ∨ ∃ conn, s.conn? id = some conn ∧ AL.find? uuid s.b.objs = none ∧
      r.1 = addObject (s.freshCookie.1.send id (.createObjectReply serial (.ok s.b.nextCookie))).1 id uuid s.b.nextCookie := by
  revert h
  fun_cases createObject s id serial uuid <;> intro h <;> cases h
  all_goals try cases ‹St.freshCookie _ = _›
  all_goals try cases St.send_fst ‹_›
  · exact .inl (.refl _)  -- the requester is gone
  · exact .inl (Fp.refl s).send  -- the uuid is taken
  · exact .inl (Fp.send (Fp.step (.refl s) (by decide) (.cookie s)))  -- the answer did not go out
  · exact .inr ⟨_, ‹_›, by simpa using ‹¬ (AL.find? _ _).isSome = true›, rfl⟩

def serviceReplyFoot : List Prim := [.cookie, .emit .createServiceReply, .stat .messagesSent]

theorem createServiceImpl_outcome {s : St} {id serial oc uuid info r} (h : createServiceImpl s id serial oc uuid info = .ok r) :
    Fp serviceReplyFoot s r.1 ∨ ∃ conn objUuid obj inf, s.conn? id = some conn ∧ AL.find? oc s.b.objUuids = some objUuid ∧
      AL.find? (objUuid, uuid) s.b.svcs = none ∧ AL.find? objUuid s.b.objs = some obj ∧ info conn = some inf ∧
      r.1 = addService (s.freshCookie.1.send id (.createServiceReply serial (.ok s.b.nextCookie))).1 oc objUuid obj uuid inf
        s.b.nextCookie := by
  revert h
  fun_cases createServiceImpl s id serial oc uuid info <;> intro h <;> cases h
  all_goals try cases ‹St.freshCookie _ = _›
  all_goals try cases St.send_fst ‹_›
  · exact .inl (.refl _)  -- the requester is gone
  · exact .inl (Fp.refl s).send  -- no such object
  · exact .inl (Fp.refl s).send  -- the uuid is taken
  · exact .inl (Fp.refl s).send  -- another's object
  · exact .inl (.refl _)  -- no info for this version
  · exact .inl (Fp.send (Fp.step (.refl s) (by decide) (.cookie s)))  -- the answer did not go out
  · -- registered: the requester, the object's uuid, that the service is new, the object's entry, the info
    exact .inr ⟨_, _, _, _, ‹_›, ‹_›, by simpa using ‹¬ (AL.find? _ _).isSome = true›, ‹_›, ‹_›, rfl⟩

theorem createService2_outcome {s : St} {id serial oc uuid info r} (h : createService2 s id serial oc uuid info = .ok r) :
    r.1 = s ∨ ∃ info', createServiceImpl s id serial oc uuid info' = .ok r := by
  unfold createService2 at h
  split at h
  · cases h; exact .inl rfl
  · split at h
    · cases h; exact .inl rfl
    · exact .inr ⟨_, h⟩

theorem callFunctionImpl_outcome {s : St} {id serial svcCookie f v p r} (h : callFunctionImpl s id serial svcCookie f v p = .ok r) :
    Fp [.emit .callFunctionReply, .stat .messagesSent] s r.1 ∨
    ∃ conn objId svcUuid info obj, s.conn? id = some conn ∧ AL.find? svcCookie s.b.svcUuids = some (objId, svcUuid, info) ∧
      AL.find? objId.uuid s.b.objs = some obj ∧
      ((AL.find? serial conn.calls).isSome = true ∧
        r.1 = s.setCalls ((s.b.calls.insert (newCall id serial objId svcUuid)).1.remove (s.b.calls.insert (newCall id serial objId svcUuid)).2) ∨
       AL.find? serial conn.calls = none ∧ ∃ svc m,
        AL.find? (objId.uuid, svcUuid) s.b.svcs = some svc ∧
        r.1 = passCall (addCall s id conn serial (newCall id serial objId svcUuid) obj.conn) (objId.uuid, svcUuid) svc
          (s.b.calls.insert (newCall id serial objId svcUuid)).2 obj.conn m conn.version) := by
  revert h
  fun_cases callFunctionImpl s id serial svcCookie f v p <;> intro h <;> cases h
  all_goals try cases ‹SerialMap.insert _ _ = _›
  · exact .inl (.refl _)  -- the caller is gone
  · exact .inl (Fp.refl s).send  -- no such service
  -- in both remaining paths: the caller, the service, its object
  · exact .inr ⟨_, _, _, _, _, ‹_›, ‹_›, ‹_›, .inl ⟨‹_›, rfl⟩⟩  -- the serial is in use
  · -- taken: the serial is free; the entry of the service, looked up after `addCall`, is that of `s`
    exact .inr ⟨_, _, _, _, _, ‹_›, ‹_›, ‹_›, .inr ⟨by simpa using ‹¬ (AL.find? _ _).isSome = true›, _, _,
      by simpa +zetaDelta using ‹AL.find? (_, _) _ = some _›, rfl⟩⟩

theorem callFunction2_outcome {s s' : St} {id serial svc f v p} {ok : Bool} (h : callFunction2 s id serial svc f v p = .ok (s', ok)) :
    (s' = s ∧ (AL.find? id s.b.conns = none ∨ ∃ conn, AL.find? id s.b.conns = some conn ∧ conn.version < gateCallFunction2)) ∨
    ∃ conn, AL.find? id s.b.conns = some conn ∧ ¬ conn.version < gateCallFunction2 ∧
      callFunctionImpl s id serial svc f v p = .ok (s', ok) := by
  unfold callFunction2 at h
  split at h
  · cases h; exact .inl ⟨rfl, .inl ‹_›⟩
  · split at h
    · cases h; exact .inl ⟨rfl, .inr ⟨_, ‹_›, ‹_›⟩⟩
    · exact .inr ⟨_, ‹_›, ‹_›, h⟩

end Aldrin.Broker
