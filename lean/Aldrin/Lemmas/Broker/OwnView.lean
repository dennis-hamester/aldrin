/-
What the ownership invariant of channel ends and bus listeners (`Lemmas/Broker/Own.lean`) looks at in a connection — the
sender ends, receiver ends and bus listeners it lists (`cv`) — and how the state update primitives act on it. The three
lists of every connection are left as they were (`CvEq`) by every update except those of the lists themselves, the removal
of a connection and `NewConnection`.
-/
import Aldrin.Lemmas.Broker.CallConn

namespace Aldrin.Broker

/-- the channel ends and bus listeners a connection lists -/
def cv (s : St) (c : ConnId) : Option (List Cookie × List Cookie × List Cookie) :=
  match AL.find? c s.b.conns with
  | some conn => some (conn.senders, conn.receivers, conn.busListeners)
  | none => none

abbrev Conn.lists (c : Conn) : List Cookie × List Cookie × List Cookie := (c.senders, c.receivers, c.busListeners)

theorem cv_eq (s : St) (c : ConnId) : cv s c = (s.conn? c).map Conn.lists := by
  unfold cv St.conn?; cases AL.find? c s.b.conns <;> rfl

theorem cv_of_conns {s s' : St} (h : s'.b.conns = s.b.conns) (c : ConnId) : cv s' c = cv s c :=
  view_of_conns cv_eq h c

@[simp, grind =] theorem cv_setObjUuids (s : St) (x : List (Cookie × Uuid)) (c : ConnId) : cv (s.setObjUuids x) c = cv s c := rfl
@[simp, grind =] theorem cv_setObjs (s : St) (x : List (Uuid × Obj)) (c : ConnId) : cv (s.setObjs x) c = cv s c := rfl
@[simp, grind =] theorem cv_setSvcUuids (s : St) (x : List (Cookie × (ObjId × Uuid × SvcInfo))) (c : ConnId) : cv (s.setSvcUuids x) c = cv s c := rfl
@[simp, grind =] theorem cv_setSvcs (s : St) (x : List ((Uuid × Uuid) × Svc)) (c : ConnId) : cv (s.setSvcs x) c = cv s c := rfl
@[simp, grind =] theorem cv_setCalls (s : St) (x : SerialMap Call) (c : ConnId) : cv (s.setCalls x) c = cv s c := rfl
@[simp, grind =] theorem cv_setChannels (s : St) (x : List (Cookie × Chan)) (c : ConnId) : cv (s.setChannels x) c = cv s c := rfl
@[simp, grind =] theorem cv_setListeners (s : St) (x : List (Cookie × Listener)) (c : ConnId) : cv (s.setListeners x) c = cv s c := rfl
@[simp, grind =] theorem cv_setIntrospection (s : St) (x : List (Uuid × IEntry)) (c : ConnId) : cv (s.setIntrospection x) c = cv s c := rfl
@[simp, grind =] theorem cv_setIqueries (s : St) (x : SerialMap Uuid) (c : ConnId) : cv (s.setIqueries x) c = cv s c := rfl
@[simp, grind =] theorem cv_setNextCookie (s : St) (x : Cookie) (c : ConnId) : cv (s.setNextCookie x) c = cv s c := rfl
@[simp, grind =] theorem cv_setWShutdownNow (s : St) (x : Bool) (c : ConnId) : cv (s.setWShutdownNow x) c = cv s c := rfl
@[simp, grind =] theorem cv_setWShutdownIdle (s : St) (x : Bool) (c : ConnId) : cv (s.setWShutdownIdle x) c = cv s c := rfl
@[simp, grind =] theorem cv_setWRemoveConns (s : St) (x : List (ConnId × Bool)) (c : ConnId) : cv (s.setWRemoveConns x) c = cv s c := rfl
@[simp, grind =] theorem cv_setWRemoveCalls (s : St) (x : List (Nat × ConnId × CallResult)) (c : ConnId) : cv (s.setWRemoveCalls x) c = cv s c := rfl
@[simp, grind =] theorem cv_setWServicesDestroyed (s : St) (x : List (ConnId × Cookie)) (c : ConnId) : cv (s.setWServicesDestroyed x) c = cv s c := rfl
@[simp, grind =] theorem cv_setWUnsubscribeEvent (s : St) (x : List (ConnId × Cookie × Nat)) (c : ConnId) : cv (s.setWUnsubscribeEvent x) c = cv s c := rfl
@[simp, grind =] theorem cv_setWUnsubscribeAll (s : St) (x : List (ConnId × Cookie)) (c : ConnId) : cv (s.setWUnsubscribeAll x) c = cv s c := rfl
@[simp, grind =] theorem cv_setWCreateObject (s : St) (x : List ObjId) (c : ConnId) : cv (s.setWCreateObject x) c = cv s c := rfl
@[simp, grind =] theorem cv_setWDestroyObject (s : St) (x : List ObjId) (c : ConnId) : cv (s.setWDestroyObject x) c = cv s c := rfl
@[simp, grind =] theorem cv_setWCreateService (s : St) (x : List SvcId) (c : ConnId) : cv (s.setWCreateService x) c = cv s c := rfl
@[simp, grind =] theorem cv_setWDestroyService (s : St) (x : List SvcId) (c : ConnId) : cv (s.setWDestroyService x) c = cv s c := rfl
@[simp, grind =] theorem cv_setWAbortCalls (s : St) (x : List (Nat × ConnId)) (c : ConnId) : cv (s.setWAbortCalls x) c = cv s c := rfl
@[simp, grind =] theorem cv_setOut (s : St) (x : List Out) (c : ConnId) : cv (s.setOut x) c = cv s c := rfl
@[simp, grind =] theorem cv_stat (s : St) (f : Stats → Stats) (c : ConnId) : cv (s.stat f) c = cv s c := rfl
@[simp, grind =] theorem cv_pushRemoveConn (s : St) (id : ConnId) (b : Bool) (c : ConnId) : cv (s.pushRemoveConn id b) c = cv s c := rfl
@[simp, grind =] theorem cv_freshCookie (s : St) (c : ConnId) : cv s.freshCookie.1 c = cv s c := rfl

@[simp, grind =] theorem cv_setConn (s : St) (id : ConnId) (new : Conn) (c : ConnId) :
    cv (s.setConn id new) c = if id = c then some (new.senders, new.receivers, new.busListeners) else cv s c :=
  view_setConn cv_eq s id new c

theorem cv_conn {s : St} {id : ConnId} {conn : Conn} (h : s.conn? id = some conn) : cv s id = some (conn.senders, conn.receivers, conn.busListeners) :=
  view_conn cv_eq h

@[simp] theorem Conn.subscribeEvent_senders (c : Conn) (svc : Cookie) (ev : Nat) : (c.subscribeEvent svc ev).senders = c.senders := rfl
@[simp] theorem Conn.subscribeEvent_receivers (c : Conn) (svc : Cookie) (ev : Nat) : (c.subscribeEvent svc ev).receivers = c.receivers := rfl
@[simp] theorem Conn.subscribeEvent_busListeners (c : Conn) (svc : Cookie) (ev : Nat) : (c.subscribeEvent svc ev).busListeners = c.busListeners := rfl
@[simp] theorem Conn.unsubscribeEvent_senders (c : Conn) (svc : Cookie) (ev : Nat) : (c.unsubscribeEvent svc ev).senders = c.senders :=
  (Conn.agree_unsubscribeEvent c svc ev).senders (by decide)
@[simp] theorem Conn.unsubscribeEvent_receivers (c : Conn) (svc : Cookie) (ev : Nat) : (c.unsubscribeEvent svc ev).receivers = c.receivers :=
  (Conn.agree_unsubscribeEvent c svc ev).receivers (by decide)
@[simp] theorem Conn.unsubscribeEvent_busListeners (c : Conn) (svc : Cookie) (ev : Nat) : (c.unsubscribeEvent svc ev).busListeners = c.busListeners :=
  (Conn.agree_unsubscribeEvent c svc ev).busListeners (by decide)
@[simp] theorem Conn.unsubscribeAllOf_senders (c : Conn) (svc : Cookie) : (c.unsubscribeAllOf svc).senders = c.senders := rfl
@[simp] theorem Conn.unsubscribeAllOf_receivers (c : Conn) (svc : Cookie) : (c.unsubscribeAllOf svc).receivers = c.receivers := rfl
@[simp] theorem Conn.unsubscribeAllOf_busListeners (c : Conn) (svc : Cookie) : (c.unsubscribeAllOf svc).busListeners = c.busListeners := rfl

@[simp, grind =] theorem cv_send (s : St) (to : ConnId) (m : Rsp) (v : Option Nat) (c : ConnId) : cv (s.send to m v).1 c = cv s c :=
  cv_of_conns (by simp) c
@[simp, grind =] theorem cv_sendOrRemove (s : St) (to : ConnId) (m : Rsp) (v : Option Nat) (c : ConnId) : cv (s.sendOrRemove to m v) c = cv s c :=
  cv_of_conns (by simp) c

def CvEq (s s' : St) : Prop := ∀ c, cv s' c = cv s c

theorem CvEq.refl (s : St) : CvEq s s := fun _ => rfl
theorem CvEq.trans {a b c : St} (h1 : CvEq a b) (h2 : CvEq b c) : CvEq a c := fun x => (h2 x).trans (h1 x)
theorem CvEq.of_conns {s s' : St} (h : s'.b.conns = s.b.conns) : CvEq s s' := fun c => cv_of_conns h c

theorem CvEq.frame : Frame CvEq [.conn .senders, .conn .receivers, .conn .busListeners, .connGone, .connNew] :=
  Frame.ofConns (f := Option.map Conn.lists) (r := fun a b => b = a) cv_eq _
    (refl := fun _ => rfl) (trans := fun h1 h2 => h2.trans h1)
    (part := fun _ hφ k k' ha => by
      simp only [List.mem_cons, Prim.conn.injEq, not_or] at hφ
      show some (k'.senders, k'.receivers, k'.busListeners) = some (k.senders, k.receivers, k.busListeners)
      rw [ha.senders hφ.1, ha.receivers hφ.2.1, ha.busListeners hφ.2.2.1])
    (dead := fun _ _ => rfl)
    (gone := fun h => absurd (by decide) h) (new := fun h => absurd (by decide) h)

end Aldrin.Broker
