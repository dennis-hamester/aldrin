/-
The cross-reference invariant of the broker's registry of objects and services, on what it looks at — the map from
object cookies to uuids `ou`, the objects `ob`, the map from service cookies to (object id, service uuid, info) `su`,
the two cookies `sk` of every service entry, and the list of owned objects `ro` of every connection — and its
preservation by the abstract operations the broker performs on them.

`pc = some (id, l)`: connection `id` is gone from the map, the objects in `l` are still to be removed;
`ps = some (oid, l)`: object `oid` is gone from the maps, the services in `l` are still to be removed.
-/
import Aldrin.Lemmas.Broker.AL
import Aldrin.Lemmas.Broker.Upd

namespace Aldrin.Broker

abbrev OuView := Cookie → Option Uuid
abbrev ObView := Uuid → Option Obj
abbrev SuView := Cookie → Option (ObjId × Uuid × SvcInfo)
abbrev SkView := Uuid × Uuid → Option (Cookie × Cookie)
abbrev RoView := ConnId → Option (List Cookie)

structure RegP (pc : Option (ConnId × List Cookie)) (ps : Option (ObjId × List Cookie))
    (ou : OuView) (ob : ObView) (su : SuView) (sk : SkView) (ro : RoView) : Prop where
  /-- a registered object cookie names an object that carries that cookie -/
  i1 : ∀ c u, ou c = some u → ∃ o, ob u = some o ∧ o.cookie = c
  /-- an object's cookie is registered under the object's uuid -/
  i2 : ∀ u o, ob u = some o → ou o.cookie = some u
  /-- the owner of an object is a connection that lists it (or the connection being removed) -/
  i3 : ∀ u o, ob u = some o → (∃ l, ro o.conn = some l ∧ o.cookie ∈ l) ∨ (∃ l, pc = some (o.conn, l) ∧ o.cookie ∈ l)
  /-- what a connection lists is an object it owns -/
  i4 : ∀ id l c, ro id = some l → c ∈ l → ∃ u o, ou c = some u ∧ ob u = some o ∧ o.conn = id
  /-- a registered service cookie names a service entry that carries that cookie and the cookie of its object -/
  i5 : ∀ sc oid svu info, su sc = some (oid, svu, info) → sk (oid.uuid, svu) = some (sc, oid.cookie)
  /-- a service entry's cookie is registered under the entry's key -/
  i6 : ∀ obu svu sc oc, sk (obu, svu) = some (sc, oc) → ∃ info, su sc = some (⟨obu, oc⟩, svu, info)
  /-- the object of a service lives and lists it (or is the object being removed) -/
  i7 : ∀ sc oid svu info, su sc = some (oid, svu, info) →
        (ou oid.cookie = some oid.uuid ∧ ∃ o, ob oid.uuid = some o ∧ sc ∈ o.svcs) ∨ (∃ l, ps = some (oid, l) ∧ sc ∈ l)
  /-- what an object lists is a service of that object -/
  i8 : ∀ u o sc, ob u = some o → sc ∈ o.svcs → ∃ svu info, su sc = some (⟨u, o.cookie⟩, svu, info)

variable {pc : Option (ConnId × List Cookie)} {ps : Option (ObjId × List Cookie)}
  {ou : OuView} {ob : ObView} {su : SuView} {sk : SkView} {ro : RoView}

theorem RegP.init : RegP none none (fun _ => none) (fun _ => none) (fun _ => none) (fun _ => none) (fun _ => none) := by
  constructor <;> simp

/-- no object is left to be removed for the connection that went -/
theorem RegP.pc_done {id : ConnId} (h : RegP (some (id, [])) ps ou ob su sk ro) : RegP none ps ou ob su sk ro :=
  { h with i3 := fun u o ho => (h.i3 u o ho).imp_right fun ⟨l, hl, hm⟩ => by cases hl; cases hm }

/-- no service is left to be removed for the object that went -/
theorem RegP.ps_done {oid : ObjId} (h : RegP pc (some (oid, [])) ou ob su sk ro) : RegP pc none ou ob su sk ro :=
  { h with i7 := fun sc oid' svu info hs => (h.i7 sc oid' svu info hs).imp_right fun ⟨l, hl, hm⟩ => by cases hl; cases hm }

/-- an object of the connection that went has been dealt with -/
theorem RegP.pc_next {id : ConnId} {c : Cookie} {rest : List Cookie} (h : RegP (some (id, c :: rest)) ps ou ob su sk ro)
    (hc : ou c = none) : RegP (some (id, rest)) ps ou ob su sk ro := by
  refine { h with i3 := fun u o ho => (h.i3 u o ho).imp_right ?_ }
  rintro ⟨l, hl, hm⟩
  cases hl
  rcases List.mem_cons.mp hm with heq | hm
  · have := h.i2 u o ho; rw [heq, hc] at this; cases this
  · exact ⟨rest, rfl, hm⟩

/-- a service of the object that went has been dealt with -/
theorem RegP.ps_next {oid : ObjId} {c : Cookie} {rest : List Cookie} (h : RegP pc (some (oid, c :: rest)) ou ob su sk ro)
    (hc : su c = none) : RegP pc (some (oid, rest)) ou ob su sk ro := by
  refine { h with i7 := fun sc oid' svu info hs => (h.i7 sc oid' svu info hs).imp_right ?_ }
  rintro ⟨l, hl, hm⟩
  cases hl
  rcases List.mem_cons.mp hm with heq | hm
  · rw [heq, hc] at hs; cases hs
  · exact ⟨rest, rfl, hm⟩

theorem RegP.new_conn {id : ConnId} (h : RegP none none ou ob su sk ro) (hn : ro id = none) :
    RegP none none ou ob su sk (upd ro id (some [])) := by
  refine { h with i3 := fun u o ho => ?_, i4 := fun id' l c hl hm => ?_ }
  · rcases h.i3 u o ho with ⟨l, hl, hm⟩ | ⟨_, hl, _⟩
    · exact .inl ⟨l, upd_of_fresh hn hl, hm⟩
    · cases hl
  · rcases upd_eq_some hl with ⟨_, hv⟩ | ⟨_, hl⟩
    · cases hv; cases hm
    · exact h.i4 id' l c hl hm

/-- `create_object`: a fresh cookie, a uuid nobody has, a connection that is there -/
theorem RegP.create_object {id : ConnId} {uuid : Uuid} {ck : Cookie} {l : List Cookie} (h : RegP none none ou ob su sk ro)
    (hu : ob uuid = none) (hk : ou ck = none) (hr : ro id = some l) :
    RegP none none (upd ou ck (some uuid)) (upd ob uuid (some ⟨id, ck, []⟩)) su sk (upd ro id (some (sinsert ck l))) := by
  obtain ⟨h1, h2, h3, h4, h5, h6, h7, h8⟩ := h
  refine ⟨?_, ?_, ?_, ?_, h5, h6, ?_, ?_⟩
  · intro c u hc
    rcases upd_eq_some hc with ⟨rfl, hv⟩ | ⟨_, hc⟩
    · cases hv; exact ⟨_, upd_self, rfl⟩
    · obtain ⟨o, ho, hoc⟩ := h1 c u hc
      exact ⟨o, upd_of_fresh hu ho, hoc⟩
  · intro u o ho
    rcases upd_eq_some ho with ⟨rfl, hv⟩ | ⟨_, ho⟩
    · cases hv; exact upd_self
    · exact upd_of_fresh hk (h2 u o ho)
  · intro u o ho
    left
    rcases upd_eq_some ho with ⟨_, hv⟩ | ⟨_, ho⟩
    · cases hv; exact ⟨_, upd_self, (mem_sinsert _ _ _).2 (.inl rfl)⟩
    · rcases h3 u o ho with hex | ⟨_, hl', _⟩
      · exact upd_exists hr (fun hm => (mem_sinsert _ _ _).2 (.inr hm)) hex
      · cases hl'
  · intro id' l' c hl' hm
    -- what the connection listed before is still there
    have old : ∀ l0, ro id' = some l0 → c ∈ l0 →
        ∃ u o, upd ou ck (some uuid) c = some u ∧ upd ob uuid (some ⟨id, ck, []⟩) u = some o ∧ o.conn = id' := by
      intro l0 hl0 hm0
      obtain ⟨u, o, hu', ho, hc⟩ := h4 id' l0 c hl0 hm0
      exact ⟨u, o, upd_of_fresh hk hu', upd_of_fresh hu ho, hc⟩
    rcases upd_eq_some hl' with ⟨rfl, hv⟩ | ⟨_, hl'⟩
    · cases hv
      rcases (mem_sinsert _ _ _).1 hm with rfl | hm
      · exact ⟨uuid, _, upd_self, upd_self, rfl⟩
      · exact old l hr hm
    · exact old l' hl' hm
  · intro sc oid svu info hs
    rcases h7 sc oid svu info hs with ⟨ha, o, ho, hm⟩ | ⟨_, hl', _⟩
    · exact .inl ⟨upd_of_fresh hk ha, o, upd_of_fresh hu ho, hm⟩
    · cases hl'
  · intro u o sc ho hm
    rcases upd_eq_some ho with ⟨_, hv⟩ | ⟨_, ho⟩
    · cases hv; cases hm
    · exact h8 u o sc ho hm

/-- `create_service`: a fresh cookie, an object that is registered, a service uuid the object does not have -/
theorem RegP.create_service {objUuid svu : Uuid} {oc ck : Cookie} {obj : Obj} {info : SvcInfo}
    (h : RegP none none ou ob su sk ro) (ho : ou oc = some objUuid) (hb : ob objUuid = some obj)
    (hn : sk (objUuid, svu) = none) (hk : su ck = none) :
    RegP none none ou (upd ob objUuid (some { obj with svcs := sinsert ck obj.svcs }))
      (upd su ck (some (⟨objUuid, oc⟩, svu, info))) (upd sk (objUuid, svu) (some (ck, oc))) ro := by
  obtain ⟨h1, h2, h3, h4, h5, h6, h7, h8⟩ := h
  have hoc : obj.cookie = oc := by
    obtain ⟨o, ho', hc⟩ := h1 oc objUuid ho
    rw [hb] at ho'; cases ho'; exact hc
  subst hoc
  refine ⟨?_, ?_, ?_, ?_, ?_, ?_, ?_, ?_⟩
  · intro c u hc
    exact upd_exists hb (fun hc => hc) (h1 c u hc)
  · intro u o ho'
    rcases upd_eq_some ho' with ⟨rfl, hv⟩ | ⟨_, ho'⟩
    · cases hv; exact h2 _ obj hb
    · exact h2 u o ho'
  · intro u o ho'
    rcases upd_eq_some ho' with ⟨rfl, hv⟩ | ⟨_, ho'⟩
    · cases hv; exact h3 _ obj hb
    · exact h3 u o ho'
  · intro id l c hl hm
    obtain ⟨u, o, hu', ho', hc⟩ := h4 id l c hl hm
    obtain ⟨o', ho'', hc'⟩ := upd_exists (p := fun o => o.conn = id) (w := { obj with svcs := sinsert ck obj.svcs }) hb (fun hc => hc) ⟨o, ho', hc⟩
    exact ⟨u, o', hu', ho'', hc'⟩
  · intro sc oid svu' info' hs
    rcases upd_eq_some hs with ⟨rfl, hv⟩ | ⟨_, hs⟩
    · cases hv; exact upd_self
    · exact upd_of_fresh hn (h5 sc oid svu' info' hs)
  · intro obu svu' sc oc' hs
    rcases upd_eq_some hs with ⟨hkey, hv⟩ | ⟨_, hs⟩
    · cases hkey; cases hv; exact ⟨info, upd_self⟩
    · obtain ⟨info', hi⟩ := h6 obu svu' sc oc' hs
      exact ⟨info', upd_of_fresh hk hi⟩
  · intro sc oid svu' info' hs
    left
    rcases upd_eq_some hs with ⟨rfl, hv⟩ | ⟨_, hs⟩
    · cases hv; exact ⟨ho, _, upd_self, (mem_sinsert _ _ _).2 (.inl rfl)⟩
    · rcases h7 sc oid svu' info' hs with ⟨ha, hex⟩ | ⟨_, hl', _⟩
      · exact ⟨ha, upd_exists hb (fun hm => (mem_sinsert _ _ _).2 (.inr hm)) hex⟩
      · cases hl'
  · intro u o sc ho' hm
    -- the services the object listed before are still there
    have old : ∀ o0, ob u = some o0 → sc ∈ o0.svcs →
        ∃ svu' info', upd su ck (some (⟨objUuid, obj.cookie⟩, svu, info)) sc = some (⟨u, o0.cookie⟩, svu', info') := by
      intro o0 h0 hm0
      obtain ⟨svu', info', hs⟩ := h8 u o0 sc h0 hm0
      exact ⟨svu', info', upd_of_fresh hk hs⟩
    rcases upd_eq_some ho' with ⟨rfl, hv⟩ | ⟨_, ho'⟩
    · cases hv
      rcases (mem_sinsert _ _ _).1 hm with rfl | hm
      · exact ⟨svu, info, upd_self⟩
      · exact old obj hb hm
    · exact old o ho' hm

/-- what `remove_service` does to the object of the service, if it is still there -/
def obDropSvc (ob : ObView) (u : Uuid) (sc : Cookie) : ObView :=
  match ob u with
  | some o => upd ob u (some { o with svcs := sremove sc o.svcs })
  | none => ob

theorem obDropSvc_apply (ob : ObView) (u : Uuid) (sc : Cookie) (x : Uuid) :
    obDropSvc ob u sc x = if u = x then (ob u).map (fun o => { o with svcs := sremove sc o.svcs }) else ob x := by
  unfold obDropSvc
  cases h : ob u with
  | none => by_cases hx : u = x <;> simp [hx, h]; subst hx; exact h
  | some o => simp [h]

theorem RegP.remove_service {sc : Cookie} {oid : ObjId} {svu : Uuid} {info : SvcInfo}
    (h : RegP pc ps ou ob su sk ro) (hs : su sc = some (oid, svu, info)) :
    RegP pc ps ou (obDropSvc ob oid.uuid sc) (upd su sc none) (upd sk (oid.uuid, svu) none) ro := by
  obtain ⟨h1, h2, h3, h4, h5, h6, h7, h8⟩ := h
  have obs : ∀ u o', obDropSvc ob oid.uuid sc u = some o' → ∃ o, ob u = some o ∧ o'.conn = o.conn ∧ o'.cookie = o.cookie ∧
      (∀ x, x ∈ o'.svcs → x ∈ o.svcs ∧ (u = oid.uuid → x ≠ sc)) ∧ (∀ x, x ∈ o.svcs → x ≠ sc → x ∈ o'.svcs) := by
    intro u o' ho'
    rw [obDropSvc_apply] at ho'
    split at ho'
    · rename_i heq; subst heq
      cases hb : ob oid.uuid with
      | none => rw [hb] at ho'; simp at ho'
      | some o =>
        rw [hb] at ho'; simp at ho'; subst ho'
        exact ⟨o, rfl, rfl, rfl, fun x hx => by rw [mem_sremove] at hx; exact ⟨hx.2, fun _ => hx.1⟩, fun x hx hne => by rw [mem_sremove]; exact ⟨hne, hx⟩⟩
    · rename_i hne
      exact ⟨o', ho', rfl, rfl, fun x hx => ⟨hx, fun he => absurd he.symm hne⟩, fun x hx _ => hx⟩
  have obs' : ∀ u o, ob u = some o → ∃ o', obDropSvc ob oid.uuid sc u = some o' ∧ o'.conn = o.conn ∧ o'.cookie = o.cookie ∧
      (∀ x, x ∈ o.svcs → x ≠ sc → x ∈ o'.svcs) := by
    intro u o ho
    rw [obDropSvc_apply]
    split
    · rename_i heq; subst heq; rw [ho]
      exact ⟨_, rfl, rfl, rfl, fun x hx hne => by rw [mem_sremove]; exact ⟨hne, hx⟩⟩
    · exact ⟨o, ho, rfl, rfl, fun x hx _ => hx⟩
  refine ⟨?_, ?_, ?_, ?_, ?_, ?_, ?_, ?_⟩
  · intro c u hc
    obtain ⟨o, ho, hoc⟩ := h1 c u hc
    obtain ⟨o', ho', _, hc', _⟩ := obs' u o ho
    exact ⟨o', ho', hc'.trans hoc⟩
  · intro u o' ho'
    obtain ⟨o, ho, _, hc, _⟩ := obs u o' ho'
    rw [hc]; exact h2 u o ho
  · intro u o' ho'
    obtain ⟨o, ho, hcn, hc, _⟩ := obs u o' ho'
    rw [hcn, hc]; exact h3 u o ho
  · intro id l c hl hm
    obtain ⟨u, o, hu, ho, hc⟩ := h4 id l c hl hm
    obtain ⟨o', ho', hcn, _, _⟩ := obs' u o ho
    exact ⟨u, o', hu, ho', hcn.trans hc⟩
  · intro sc' oid' svu' info' hs'
    obtain ⟨hne, hs'⟩ := upd_none_eq_some hs'
    have h5' := h5 sc' oid' svu' info' hs'
    refine (upd_ne fun he => ?_).trans h5'
    -- two services under one key are one service
    have := h5 sc oid svu info hs
    rw [he, h5'] at this
    exact hne (Prod.mk.inj (Option.some.inj this)).1.symm
  · intro obu svu' sc' oc' hk
    obtain ⟨hne, hk⟩ := upd_none_eq_some hk
    obtain ⟨info', hi⟩ := h6 obu svu' sc' oc' hk
    refine ⟨info', (upd_ne fun he => ?_).trans hi⟩
    rw [← he, hs] at hi; cases hi
    exact hne rfl
  · intro sc' oid' svu' info' hs'
    obtain ⟨hne, hs'⟩ := upd_none_eq_some hs'
    refine (h7 sc' oid' svu' info' hs').imp_left fun ⟨ha, o, ho, hm⟩ => ?_
    obtain ⟨o', ho', _, _, hsv⟩ := obs' oid'.uuid o ho
    exact ⟨ha, o', ho', hsv sc' hm (Ne.symm hne)⟩
  · intro u o' sc' ho' hm
    obtain ⟨o, ho, _, hc, hsv, _⟩ := obs u o' ho'
    obtain ⟨hm', hne⟩ := hsv sc' hm
    obtain ⟨svu', info', hs'⟩ := h8 u o sc' ho hm'
    rw [hc]
    refine ⟨svu', info', (upd_ne fun he => ?_).trans hs'⟩
    subst he; rw [hs] at hs'; cases hs'
    exact hne rfl rfl

/-- what `remove_object` does to the owner's list of objects, if the owner is still there -/
def roDropObj (ro : RoView) (id : ConnId) (c : Cookie) : RoView :=
  match ro id with
  | some l => upd ro id (some (sremove c l))
  | none => ro

theorem roDropObj_apply (ro : RoView) (id : ConnId) (c : Cookie) (x : ConnId) :
    roDropObj ro id c x = if id = x then (ro id).map (fun l => sremove c l) else ro x := by
  unfold roDropObj
  cases h : ro id with
  | none => by_cases hx : id = x <;> simp [hx, h]; subst hx; exact h
  | some o => simp [h]

/-- `remove_object`, up to the point where its services are removed one by one -/
theorem RegP.remove_object {c : Cookie} {u : Uuid} {obj : Obj}
    (h : RegP pc none ou ob su sk ro) (hc : ou c = some u) (hb : ob u = some obj) :
    RegP pc (some (⟨u, c⟩, obj.svcs)) (upd ou c none) (upd ob u none) su sk (roDropObj ro obj.conn c) := by
  obtain ⟨h1, h2, h3, h4, h5, h6, h7, h8⟩ := h
  have hoc : obj.cookie = c := by
    obtain ⟨o, ho', hc'⟩ := h1 c u hc
    rw [hb] at ho'; cases ho'; exact hc'
  -- no other object has the cookie
  have hck : ∀ u' o, u ≠ u' → ob u' = some o → c ≠ o.cookie := by
    intro u' o hne ho he
    have := h2 u' o ho
    rw [← he, hc] at this
    exact hne (Option.some.inj this)
  refine ⟨?_, ?_, ?_, ?_, h5, h6, ?_, ?_⟩
  · intro c' u' hc'
    obtain ⟨hne, hc'⟩ := upd_none_eq_some hc'
    obtain ⟨o, ho, hoc'⟩ := h1 c' u' hc'
    refine ⟨o, (upd_ne fun he => ?_).trans ho, hoc'⟩
    subst he; rw [hb] at ho; cases ho
    exact hne (hoc.symm.trans hoc')
  · intro u' o ho
    obtain ⟨hne, ho⟩ := upd_none_eq_some ho
    exact (upd_ne (hck u' o hne ho)).trans (h2 u' o ho)
  · intro u' o ho
    obtain ⟨hne, ho⟩ := upd_none_eq_some ho
    refine (h3 u' o ho).imp_left fun ⟨l, hl, hm⟩ => ?_
    rw [roDropObj_apply]
    split
    · rename_i heq
      rw [heq, hl]
      exact ⟨_, rfl, (mem_sremove _ _ _).2 ⟨Ne.symm (hck u' o hne ho), hm⟩⟩
    · exact ⟨l, hl, hm⟩
  · intro id l c' hl hm
    rw [roDropObj_apply] at hl
    have : ∃ l0, ro id = some l0 ∧ c' ∈ l0 ∧ (id = obj.conn → c' ≠ c) := by
      split at hl
      · rename_i heq; subst heq
        cases hr : ro obj.conn with
        | none => rw [hr] at hl; cases hl
        | some l0 =>
          rw [hr] at hl; cases hl
          rw [mem_sremove] at hm
          exact ⟨l0, rfl, hm.2, fun _ => hm.1⟩
      · rename_i hne; exact ⟨l, hl, hm, fun he => absurd he.symm hne⟩
    obtain ⟨l0, hl0, hm0, hne0⟩ := this
    obtain ⟨u', o, hu', ho, hcn⟩ := h4 id l0 c' hl0 hm0
    -- the connection lists another object than the one that goes
    have n2 : u ≠ u' := by
      intro he; subst he
      rw [hb] at ho; cases ho
      obtain ⟨o2, ho2, hc2⟩ := h1 c' u hu'
      rw [hb] at ho2; cases ho2
      exact hne0 hcn.symm (hc2.symm.trans hoc)
    have n1 : c ≠ c' := fun he => by
      rw [← he, hc] at hu'
      exact n2 (Option.some.inj hu')
    exact ⟨u', o, (upd_ne n1).trans hu', (upd_ne n2).trans ho, hcn⟩
  · intro sc oid svu info hs
    rcases h7 sc oid svu info hs with ⟨ha, o, ho, hm⟩ | ⟨_, hl, _⟩
    · by_cases he : u = oid.uuid
      · right
        rw [← he, hb] at ho; cases ho
        obtain ⟨o2, ho2, hc2⟩ := h1 oid.cookie oid.uuid ha
        rw [← he, hb] at ho2; cases ho2
        obtain ⟨ou', oc'⟩ := oid
        cases he; cases hc2
        exact ⟨_, by rw [← hoc], hm⟩
      · have n1 : c ≠ oid.cookie := fun hcc => by
          rw [← hcc, hc] at ha
          exact he (Option.some.inj ha)
        exact .inl ⟨(upd_ne n1).trans ha, o, (upd_ne he).trans ho, hm⟩
    · cases hl
  · intro u' o sc ho hm
    exact h8 u' o sc (upd_none_eq_some ho).2 hm

/-- the connection is taken out of the map; the objects it lists are still to be removed -/
theorem RegP.remove_conn {id : ConnId} {l : List Cookie} (h : RegP none none ou ob su sk ro) (hr : ro id = some l) :
    RegP (some (id, l)) none ou ob su sk (upd ro id none) := by
  refine { h with i3 := fun u o ho => ?_, i4 := fun id' l' c hl' hm => h.i4 id' l' c (upd_none_eq_some hl').2 hm }
  rcases h.i3 u o ho with ⟨l', hl', hm⟩ | ⟨_, hl', _⟩
  · by_cases he : id = o.conn
    · rw [← he, hr] at hl'; cases hl'
      exact .inr ⟨l, by rw [he], hm⟩
    · exact .inl ⟨l', (upd_ne he).trans hl', hm⟩
  · cases hl'

end Aldrin.Broker
