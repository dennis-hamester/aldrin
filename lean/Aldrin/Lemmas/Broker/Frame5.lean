/-
`KS m m'`: two association lists have the same keys in the same order; `KSc`: the connection maps of two states do;
`Same5`: the registry is as it was up to values under existing keys — the two cookie maps equal, objects, services and
connections with the same keys, their three gauges equal, the cookie counter not lower. Each with its frame.
-/
import Aldrin.Lemmas.Broker.Footprint

namespace Aldrin.Broker
open Generated

/-- same keys in the same order (values may differ) -/
def KS {K V : Type} (m m' : List (K × V)) : Prop := m'.map Prod.fst = m.map Prod.fst

theorem KS.refl {K V : Type} (m : List (K × V)) : KS m m := rfl
theorem KS.trans {K V : Type} {a b c : List (K × V)} (h1 : KS a b) (h2 : KS b c) : KS a c := by
  unfold KS at *; rw [h2, h1]

theorem KS_insert_of_find {K V : Type} [DecidableEq K] {m : List (K × V)} {k : K} {v v' : V}
    (h : AL.find? k m = some v') : KS m (AL.insert k v m) := AL.keys_insert_of_some h

theorem KS_find_none {K V : Type} [DecidableEq K] {m m' : List (K × V)} (h : KS m m') (k : K) :
    AL.find? k m' = none ↔ AL.find? k m = none := by
  rw [AL.find?_none_iff, AL.find?_none_iff, h]

theorem KS_find_isSome {K V : Type} [DecidableEq K] {m m' : List (K × V)} (h : KS m m') (k : K) :
    (AL.find? k m').isSome = (AL.find? k m).isSome := by
  have := KS_find_none h k
  cases h1 : AL.find? k m' <;> cases h2 : AL.find? k m <;> simp_all

theorem KS_length {K V : Type} {m m' : List (K × V)} (h : KS m m') : m'.length = m.length := by
  have := congrArg List.length h; simpa using this

theorem KS_nodup {K V : Type} [DecidableEq K] {m m' : List (K × V)} (h : KS m m') (hn : AL.NodupKeys m) : AL.NodupKeys m' := by
  unfold AL.NodupKeys at *; rw [h]; exact hn

@[simp, grind =] theorem updConn_conns_keys (s : St) (id : ConnId) (f : Conn → Conn) :
    (s.updConn id f).b.conns.map Prod.fst = s.b.conns.map Prod.fst := by
  unfold St.updConn
  split
  · rename_i c hc
    simp only [St.setConn_b_conns]
    exact KS_insert_of_find (by simpa using hc)
  · exact KS.refl _

/-- the same connections -/
def KSc (s s' : St) : Prop := KS s.b.conns s'.b.conns

theorem KSc.frame : Frame KSc [.connGone, .connNew] := by
  refine ⟨fun _ => KS.refl _, fun h1 h2 => KS.trans h1 h2, fun h hb => ?_⟩
  cases h
  case connGone | connNew => exact (hb (by decide)).elim
  case conn => exact KS_insert_of_find ‹_›
  case connDead => exact updConn_conns_keys ..
  all_goals exact KS.refl _

/-- the registry part of the state is untouched except for values under existing keys -/
def Same5 (s s' : St) : Prop :=
  s'.b.objUuids = s.b.objUuids ∧ s'.b.svcUuids = s.b.svcUuids ∧
  s'.b.objs.map Prod.fst = s.b.objs.map Prod.fst ∧ s'.b.svcs.map Prod.fst = s.b.svcs.map Prod.fst ∧
  s'.b.conns.map Prod.fst = s.b.conns.map Prod.fst ∧
  s'.b.stats.numConnections = s.b.stats.numConnections ∧ s'.b.stats.numObjects = s.b.stats.numObjects ∧
  s'.b.stats.numServices = s.b.stats.numServices ∧ s.b.nextCookie ≤ s'.b.nextCookie

theorem Same5.refl (s : St) : Same5 s s := ⟨rfl, rfl, rfl, rfl, rfl, rfl, rfl, rfl, Nat.le_refl _⟩

theorem Same5.trans {a b c : St} (h1 : Same5 a b) (h2 : Same5 b c) : Same5 a c := by
  unfold Same5 at *
  obtain ⟨a1, a2, a3, a4, a5, a6, a7, a8, a9⟩ := h1
  obtain ⟨b1, b2, b3, b4, b5, b6, b7, b8, b9⟩ := h2
  exact ⟨b1.trans a1, b2.trans a2, b3.trans a3, b4.trans a4, b5.trans a5, b6.trans a6, b7.trans a7, b8.trans a8, Nat.le_trans a9 b9⟩

theorem Same5.frame : Frame Same5 [.objUuids, .svcUuids, .objs, .svcs, .connGone, .connNew, .stat .numConnections,
    .stat .numObjects, .stat .numServices] := by
  refine ⟨Same5.refl, Same5.trans, fun h hb => ?_⟩
  have hk : KSc _ _ := KSc.frame.step h fun hm => hb (by
    simp only [List.mem_cons, List.not_mem_nil, or_false] at hm
    rcases hm with rfl | rfl <;> decide)
  cases h
  case objUuids | svcUuids | objs | svcs | connGone | connNew => simp at hb
  case cookie => exact ⟨rfl, rfl, rfl, rfl, hk, rfl, rfl, rfl, Nat.le_succ _⟩
  case stat f g hf =>
    simp at hb
    exact ⟨rfl, rfl, rfl, rfl, hk, (hf _).numConnections hb.1, (hf _).numObjects hb.2.1, (hf _).numServices hb.2.2, Nat.le_refl _⟩
  case svc => exact ⟨rfl, rfl, rfl, AL.keys_insert_of_some ‹_›, hk, rfl, rfl, rfl, Nat.le_refl _⟩
  case connDead => exact ⟨by simp, by simp, by simp, by simp, hk, by simp, by simp, by simp, by simp⟩
  all_goals exact ⟨rfl, rfl, rfl, rfl, hk, rfl, rfl, rfl, Nat.le_refl _⟩

@[simp, grind =] theorem removeBusListener_same5_objUuids (s : St) (c : Cookie) : (removeBusListener s c).b.objUuids = s.b.objUuids := by
  unfold removeBusListener; split <;> simp

end Aldrin.Broker
