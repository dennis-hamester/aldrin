/-
Schema conformance of a dynamic value, stated declaratively (`Conf`), and the two halves of "the generated
type accepts exactly the conforming values": `accept_conf` and `conf_accept`.
-/
import Aldrin.Lemmas.Typed

namespace Aldrin.Typed
open Aldrin

/-- `Conf env n ty v`: the dynamic value `v` conforms to the schema type `ty`. Unknown struct field ids are
tolerated for every struct; unknown variants only for enums with a fallback. -/
inductive Conf (env : Env) (n : Nat) : Ty → Value → Prop
  | any {ty v} : shape env n ty = .value → Conf env n ty v
  | unit {ty} : shape env n ty = .unit → Conf env n ty .none
  | optNone {ty t} : shape env n ty = .opt t → Conf env n ty .none
  | optSome {ty t x} : shape env n ty = .opt t → Conf env n t x → Conf env n ty (.some x)
  | bool {ty b} : shape env n ty = .bool → Conf env n ty (.bool b)
  | int {ty t i} : shape env n ty = .int t → Conf env n ty (.int t i)
  | fixed {ty k bs} : shape env n ty = .fixed k → Conf env n ty (.fixed k bs)
  | string {ty bs} : shape env n ty = .string → Conf env n ty (.string bs)
  | bytes {ty bs} : shape env n ty = .bytes → Conf env n ty (.bytes bs)
  | vec {ty t vs} : shape env n ty = .vec t → (∀ x ∈ vs, Conf env n t x) → Conf env n ty (.vec vs)
  | arr {ty t k vs} : shape env n ty = .arr t k → vs.length = k → (∀ x ∈ vs, Conf env n t x) →
      Conf env n ty (.vec vs)
  | map {ty k t kt es} : shape env n ty = .map k t → keyTy env n k = some kt →
      (∀ p ∈ es, Conf env n t p.2) → Conf env n ty (.map kt es)
  | set {ty k kt ks} : shape env n ty = .set k → keyTy env n k = some kt → Conf env n ty (.set kt ks)
  | resOk {ty a b x} : shape env n ty = .result a b → Conf env n a x → Conf env n ty (.enum 0 x)
  | resErr {ty a b x} : shape env n ty = .result a b → Conf env n b x → Conf env n ty (.enum 1 x)
  | struct {ty fs fb es} : shape env n ty = .struct fs fb →
      -- every entry carries a field id, and a declared id carries a value of the field's type
      (∀ p ∈ es, (keyId p.1).isSome) →
      (∀ p ∈ es, ∀ id f, keyId p.1 = some id → findField fs id = some f → Conf env n f.wireTy p.2) →
      -- every required field is present
      (∀ f ∈ fs, f.required = true → ∃ p ∈ es, keyId p.1 = some f.id) →
      Conf env n ty (.map .field es)
  | variant {ty vs fb id id' t x} : shape env n ty = .enum vs fb → findVariant vs id = some ⟨id', some t⟩ →
      Conf env n t x → Conf env n ty (.enum id x)
  | unitVariant {ty vs fb id id'} : shape env n ty = .enum vs fb → findVariant vs id = some ⟨id', none⟩ →
      Conf env n ty (.enum id .none)
  | unknownVariant {ty vs id x} : shape env n ty = .enum vs true → findVariant vs id = none →
      Conf env n ty (.enum id x)

theorem accept_conf {env : Env} {n : Nat} {v : Value} {ty : Ty} {w : Value} : accept env n ty v = .ok w → Conf env n ty v := by
  refine accept_induct (P := fun ty v _ => Conf env n ty v) fun {ty v w} ih h => ?_
  generalize hs : shape env n ty = s at h
  cases h with
  | value => exact .any hs
  | unit => exact .unit hs
  | optNone => exact .optNone hs
  | optSome hx => exact .optSome hs (ih .some hx)
  | bool => exact .bool hs
  | int => exact .int hs
  | fixed => exact .fixed hs
  | string => exact .string hs
  | bytes => exact .bytes hs
  | set hk => exact .set hs hk
  | vec hws => exact .vec hs fun x hx => (acceptElems_ok_iff.1 ⟨_, hws⟩ x hx).elim fun _ => ih (.vec hx)
  | arr hl hws => exact .arr hs hl fun x hx => (acceptElems_ok_iff.1 ⟨_, hws⟩ x hx).elim fun _ => ih (.vec hx)
  | map hk hws => exact .map hs hk fun p hp => (acceptEntries_ok_iff.1 ⟨_, hws⟩ p hp).elim fun _ => ih (.map hp)
  | resOk hx => exact .resOk hs (ih .enum hx)
  | resErr hx => exact .resErr hs (ih .enum hx)
  | variant hv hx => exact .variant hs hv (ih .enum hx)
  | unitVariant hv => exact .unitVariant hs hv
  | unknownVariant hv => exact .unknownVariant hs hv
  | @struct fs fb es kn un out hacc hfin =>
    have hall := acceptFields_ok_iff.1 ⟨_, hacc⟩
    refine .struct hs (fun p hp => ?_) (fun p hp id f hid hf => ?_) (fun f hf hr => ?_)
    · obtain ⟨id, hid, _⟩ := hall p hp
      simp [hid]
    · obtain ⟨id', hid', ha⟩ := hall p hp
      cases hid.symm.trans hid'
      exact (ha f hf).elim fun _ => ih (.map hp)
    · -- a required field was written, so it was read, so some entry carries its id
      have hsome := (finishFields_some hfin).1 f hf hr
      cases he : emit kn f with
      | none => simp [he] at hsome
      | some q =>
        have hl := (emit_id he).2.1
        rw [lastOf_known hacc] at hl
        cases hx : lastOf f.id (entries es) with
        | none => cases hfd : findField fs f.id <;> simp [hfd, hx] at hl
        | some x =>
          obtain ⟨p, hp, hpk, _⟩ := mem_entries.1 (lastOf_mem hx)
          exact ⟨p, hp, hpk⟩

theorem acceptElems_conf (env : Env) (n : Nat) :
    ∀ (vs : List Value) (ty : Ty) (ws : List Value), acceptElems env n ty vs = .ok ws → ∀ x ∈ vs, Conf env n ty x :=
  fun _ ty _ h x hx => (acceptElems_ok_iff.1 ⟨_, h⟩ x hx).elim fun _ => accept_conf

theorem acceptEntries_conf (env : Env) (n : Nat) :
    ∀ (es : List (Key × Value)) (ty : Ty) (ws : List (Key × Value)),
      acceptEntries env n ty es = .ok ws → ∀ p ∈ es, Conf env n ty p.2 :=
  fun _ ty _ h p hp => (acceptEntries_ok_iff.1 ⟨_, h⟩ p hp).elim fun _ => accept_conf

theorem acceptFields_conf (env : Env) (n : Nat) :
    ∀ (es : List (Key × Value)) (fs : List Field) (kn un : List (Nat × Value)),
      acceptFields env n fs es = .ok (kn, un) →
      ∀ p ∈ es, (keyId p.1).isSome ∧
        ∀ id f, keyId p.1 = some id → findField fs id = some f → Conf env n f.wireTy p.2 := by
  intro es fs kn un h p hp
  obtain ⟨id, hid, ha⟩ := acceptFields_ok_iff.1 ⟨_, h⟩ p hp
  refine ⟨by simp [hid], fun id' f hid' hf => ?_⟩
  cases hid.symm.trans hid'
  exact (ha f hf).elim fun _ => accept_conf

theorem conf_accept {env : Env} (hwf : env.WF) {n : Nat} {ty : Ty} {v : Value} (h : Conf env n ty v) :
    ∃ w, accept env n ty v = .ok w := by
  induction h with
  | any hs => exact ⟨_, ok_of_takes hs .value⟩
  | unit hs => exact ⟨_, ok_of_takes hs .unit⟩
  | optNone hs => exact ⟨_, ok_of_takes hs .optNone⟩
  | optSome hs _ ih => exact ih.elim fun _ hw => ⟨_, ok_of_takes hs (.optSome hw)⟩
  | bool hs => exact ⟨_, ok_of_takes hs .bool⟩
  | int hs => exact ⟨_, ok_of_takes hs .int⟩
  | fixed hs => exact ⟨_, ok_of_takes hs .fixed⟩
  | string hs => exact ⟨_, ok_of_takes hs .string⟩
  | bytes hs => exact ⟨_, ok_of_takes hs .bytes⟩
  | vec hs _ ih => exact (acceptElems_ok_iff.2 ih).elim fun _ hws => ⟨_, ok_of_takes hs (.vec hws)⟩
  | arr hs hl _ ih => exact (acceptElems_ok_iff.2 ih).elim fun _ hws => ⟨_, ok_of_takes hs (.arr hl hws)⟩
  | map hs hk _ ih => exact (acceptEntries_ok_iff.2 ih).elim fun _ hws => ⟨_, ok_of_takes hs (.map hk hws)⟩
  | set hs hk => exact ⟨_, ok_of_takes hs (.set hk)⟩
  | resOk hs _ ih => exact ih.elim fun _ hw => ⟨_, ok_of_takes hs (.resOk hw)⟩
  | resErr hs _ ih => exact ih.elim fun _ hw => ⟨_, ok_of_takes hs (.resErr hw)⟩
  | @struct ty fs fb es hs hkeys _ hreq ih =>
    obtain ⟨⟨kn, un⟩, hacc⟩ := acceptFields_ok_iff.2 fun p hp =>
      (Option.isSome_iff_exists.1 (hkeys p hp)).imp fun id hid => ⟨hid, fun f hf => ih p hp id f hid hf⟩
    have hn := shape_struct_nodup hwf n ty hs
    -- a required field has an entry, whose last occurrence was read, so it is written
    have hfin : ∀ f ∈ fs, f.required = true → (emit kn f).isSome := by
      intro f hf hr
      obtain ⟨p, hp, hpk⟩ := hreq f hf hr
      have hmem : (f.id, p.2) ∈ entries es := mem_entries.2 ⟨p, hp, hpk, rfl⟩
      cases hx : lastOf f.id (entries es) with
      | none => exact absurd rfl ((lastOf_none_iff _ _).1 hx _ hmem)
      | some x =>
        obtain ⟨w, _, hl⟩ := lastOf_known_some hacc (findField_of_mem hn hf) hx
        simp [emit_of_lastOf hl (.inl hr)]
    exact ⟨_, ok_of_takes hs (.struct hacc (by rw [finishFields_eq, if_pos hfin]))⟩
  | variant hs hv _ ih => exact ih.elim fun _ hw => ⟨_, ok_of_takes hs (.variant hv hw)⟩
  | unitVariant hs hv => exact ⟨_, ok_of_takes hs (.unitVariant hv)⟩
  | unknownVariant hs hv => exact ⟨_, ok_of_takes hs (.unknownVariant hv)⟩

end Aldrin.Typed
