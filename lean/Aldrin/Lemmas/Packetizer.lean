/-
The packetizer on a stream of length-prefixed frames: `next_message` hands out the next frame exactly when all of it is
buffered (`next_on_stream`; `drain_inv` for the run), both feed interfaces only append, and a run of feed and drain
operations has emitted a prefix of the frames while buffer and unfed input hold the rest (`PkInvK`, `run_inv`).
`spare_spec`: what `spare_capacity_mut` reserves.
-/
import Aldrin.Model.Packetizer
namespace Aldrin

/-- A frame as `serialize_message` produces it: at least the 4-byte prefix, and the prefix is the
frame length. -/
def WellPrefixed (f : Bytes) : Prop := 4 ≤ f.length ∧ ofLeBytes (f.take 4) = f.length

def flat : List Bytes → Bytes
  | [] => []
  | f :: fs => f ++ flat fs

/-- The cached length, if any, is the prefix of what is buffered. -/
def LenOk (p : Pk) : Prop := ∀ l, p.len = some l → 4 ≤ p.buf.length ∧ l = ofLeBytes (p.buf.take 4)

theorem take4_prefix (a b : Bytes) (h : 4 ≤ a.length) : (a ++ b).take 4 = a.take 4 := by
  rw [List.take_append_of_le_length h]

theorem next_on_stream (p : Pk) (f rest unfed : Bytes) (hf : WellPrefixed f) (hl : LenOk p)
    (hs : p.buf ++ unfed = f ++ rest) :
    (f.length ≤ p.buf.length → p.next = ({ p with buf := p.buf.drop f.length, len := none, cap := p.cap - f.length }, some f)) ∧
    (p.buf.length < f.length → (p.next).2 = none ∧ (p.next).1.buf = p.buf ∧ (p.next).1.cap = p.cap ∧ LenOk (p.next).1) := by
  obtain ⟨hf4, hfl⟩ := hf
  have hpre : 4 ≤ p.buf.length → p.buf.take 4 = f.take 4 := by
    intro h4
    have h1 : (p.buf ++ unfed).take 4 = p.buf.take 4 := take4_prefix _ _ h4
    have h2 : (f ++ rest).take 4 = f.take 4 := take4_prefix _ _ hf4
    rw [← h1, hs, h2]
  have hcached : ∀ l, p.len = some l → l = f.length := by
    intro l hl'
    obtain ⟨h4, e⟩ := hl l hl'
    rw [e, hpre h4, hfl]
  have hcur : 4 ≤ p.buf.length → p.curLen = f.length := by
    intro h4
    unfold Pk.curLen
    cases hp : p.len with
    | none => simp only; rw [hpre h4, hfl]
    | some l => simp only; exact hcached l hp
  constructor
  · intro hge
    have h4 : ¬ p.buf.length < 4 := by omega
    have hlen := hcur (by omega)
    unfold Pk.next
    simp only [h4, ↓reduceIte, hlen, ge_iff_le, hge]
    have hmax : max f.length 4 = f.length := by omega
    rw [hmax]
    have hbuf : p.buf.take f.length = f := by
      have : (p.buf ++ unfed).take f.length = p.buf.take f.length := List.take_append_of_le_length hge
      rw [← this, hs]; simp
    simp [hbuf]
  · intro hlt
    unfold Pk.next
    by_cases h4 : p.buf.length < 4
    · rw [if_pos h4]
      exact ⟨rfl, rfl, rfl, hl⟩
    · have hlen := hcur (by omega)
      have hnot : ¬ f.length ≤ p.buf.length := by omega
      rw [if_neg h4]
      simp only [hlen, ge_iff_le, hnot, ↓reduceIte]
      refine ⟨trivial, trivial, trivial, ?_⟩
      intro l hl'
      simp at hl'
      subst hl'
      exact ⟨by simp at h4; omega, by simp; rw [hpre (by omega), hfl]⟩

theorem next_on_empty_stream (p : Pk) (hb : p.buf = []) : p.next = (p, none) := by
  unfold Pk.next; simp [hb]

theorem extend_buf (p : Pk) (bs : Bytes) : (p.extend bs).buf = p.buf ++ bs ∧ (p.extend bs).len = p.len := by
  simp [Pk.extend]

theorem clamp_pos {x lo hi : Nat} (hlo : 0 < lo) (hhi : 0 < hi) : 0 < clamp x lo hi := by
  unfold clamp; split
  · exact hlo
  · split <;> omega

/-- The first reservation of `spare_capacity_mut`, for a frame whose length is cached. -/
def Pk.spare1 (p : Pk) : Pk :=
  match p.len with
  | some len => if p.cap < len then p.reserve (clamp (len - p.buf.length) minReserve maxReserve) else p
  | none => p

theorem spare1_spec (p : Pk) :
    p.spare1.buf = p.buf ∧ p.spare1.len = p.len ∧ p.cap ≤ p.spare1.cap ∧
    ∀ l, p.len = some l → p.buf.length < l → p.buf.length < p.spare1.cap := by
  unfold Pk.spare1
  split
  · rename_i l hl
    have := clamp_pos (x := l - p.buf.length) (show 0 < minReserve by decide) (show 0 < maxReserve by decide)
    split
    · exact ⟨rfl, rfl, Nat.le_max_left .., fun _ _ _ => by simp only [Pk.reserve]; omega⟩
    · exact ⟨rfl, rfl, Nat.le_refl _, fun l' hl' h => by cases hl.symm.trans hl'; omega⟩
  · rename_i hl
    exact ⟨rfl, rfl, Nat.le_refl _, fun l' hl' => by rw [hl] at hl'; cases hl'⟩

theorem spare_eq (p : Pk) : p.spare =
    if Generated.spareSecondCheckIsElse && p.len.isSome then p.spare1
    else if p.spare1.cap = p.spare1.buf.length then p.spare1.reserve minReserve else p.spare1 := rfl

/-- `spare_capacity_mut`: where its "buffer full" check is made, the capacity ends up different from the length; while a
frame of cached length `l` is incomplete there is room after the first reservation already. -/
theorem spare_spec (p : Pk) :
    p.spare.buf = p.buf ∧ p.spare.len = p.len ∧ p.cap ≤ p.spare.cap ∧
    (¬ (Generated.spareSecondCheckIsElse && p.len.isSome) = true → p.spare.cap ≠ p.buf.length) ∧
    (∀ l, p.len = some l → p.buf.length < l → p.buf.length < p.spare.cap) := by
  obtain ⟨hb, hlen, hc, hl⟩ := spare1_spec p
  have hmin : 0 < minReserve := by decide
  rw [spare_eq]
  generalize p.spare1 = q at hb hlen hc hl
  obtain ⟨qbuf, qlen, qcap⟩ := q
  subst hb
  dsimp only at hc hl
  split
  · exact ⟨rfl, hlen, hc, fun h => absurd ‹_› h, hl⟩
  · split
    · dsimp only [Pk.reserve] at *
      exact ⟨rfl, hlen, by omega, fun _ => by omega, fun l h1 h2 => by have := hl l h1 h2; omega⟩
    · exact ⟨rfl, hlen, hc, fun _ => by omega, hl⟩

theorem written_buf (p : Pk) (bs : Bytes) : (p.written bs).buf = p.buf ++ bs ∧ (p.written bs).len = p.len := by
  simp [Pk.written, (spare_spec p).1, (spare_spec p).2.1]

theorem LenOk_append (p q : Pk) (bs : Bytes) (hb : q.buf = p.buf ++ bs) (hlen : q.len = p.len) (h : LenOk p) : LenOk q := by
  intro l hl
  rw [hlen] at hl
  obtain ⟨h4, e⟩ := h l hl
  rw [hb]
  exact ⟨by simp; omega, by rw [take4_prefix _ _ h4]; exact e⟩

/-- Invariant of a run: `k` frames have been handed out, and what is buffered or not yet fed is the rest. -/
def PkInvK (fs : List Bytes) (r : PkRun) (k : Nat) : Prop :=
  k ≤ fs.length ∧ r.out = fs.take k ∧ r.pk.buf ++ r.unfed = flat (fs.drop k) ∧ LenOk r.pk

theorem flat_nil_of_wp (fs : List Bytes) (hw : ∀ f ∈ fs, WellPrefixed f) (h : flat fs = []) : fs = [] := by
  cases fs with
  | nil => rfl
  | cons f fs =>
    have := (hw f (by simp)).1
    simp [flat] at h
    have : f.length = 0 := by simp [h.1]
    omega

theorem take_succ_of_drop {α : Type} (l : List α) (k : Nat) (f : α) (rest : List α) (h : l.drop k = f :: rest) :
    l.take (k + 1) = l.take k ++ [f] ∧ l.drop (k + 1) = rest ∧ k < l.length := by
  have hk : k < l.length := by
    rcases Nat.lt_or_ge k l.length with h1 | h1
    · exact h1
    · have : l.drop k = [] := List.drop_of_length_le h1
      rw [this] at h; cases h
  have hf : l[k] = f := by
    have h0 : (l.drop k)[0]? = some f := by rw [h]; rfl
    rw [List.getElem?_drop] at h0
    simp only [Nat.add_zero] at h0
    rw [List.getElem?_eq_getElem hk] at h0
    exact Option.some.inj h0
  refine ⟨?_, ?_, hk⟩
  · rw [List.take_succ_eq_append_getElem hk, hf]
  · have : l.drop (k + 1) = (l.drop k).drop 1 := by rw [List.drop_drop]
    rw [this, h]; rfl

theorem wp_of_drop {fs : List Bytes} (hw : ∀ f ∈ fs, WellPrefixed f) {k : Nat} {f : Bytes} {rest : List Bytes}
    (hd : fs.drop k = f :: rest) : WellPrefixed f :=
  hw f (List.mem_of_mem_drop (hd ▸ List.mem_cons_self))

theorem drain_inv (fs : List Bytes) (hw : ∀ f ∈ fs, WellPrefixed f) (r : PkRun) (k : Nat) {f : Bytes} {rest : List Bytes}
    (h : PkInvK fs r k) (hd : fs.drop k = f :: rest) :
    (f.length ≤ r.pk.buf.length → PkInvK fs (r.step .drain) (k + 1)) ∧
    (r.pk.buf.length < f.length → PkInvK fs (r.step .drain) k) := by
  obtain ⟨hk, hout, hbuf, hlen⟩ := h
  rw [hd] at hbuf
  simp only [flat] at hbuf
  obtain ⟨hA, hB⟩ := next_on_stream r.pk f (flat rest) r.unfed (wp_of_drop hw hd) hlen hbuf
  obtain ⟨ht, hdrop, hlt⟩ := take_succ_of_drop fs k f rest hd
  constructor
  · intro hc
    simp only [PkRun.step, hA hc]
    refine ⟨by omega, by rw [hout, ht], ?_, by intro l hl; simp at hl⟩
    have : r.pk.buf.drop f.length ++ r.unfed = (r.pk.buf ++ r.unfed).drop f.length := by
      rw [List.drop_append_of_le_length hc]
    simp only
    rw [hdrop, this, hbuf]; simp
  · intro hc
    obtain ⟨h1, h2, h3, h4⟩ := hB hc
    have : r.pk.next = ((r.pk.next).1, none) := by rw [← h1]
    simp only [PkRun.step]
    rw [this]
    exact ⟨hk, hout, by rw [h2, hd]; simpa [flat] using hbuf, h4⟩

theorem step_inv (fs : List Bytes) (hw : ∀ f ∈ fs, WellPrefixed f) (r : PkRun) (k : Nat) (op : PkOp)
    (h : PkInvK fs r k) : PkInvK fs (r.step op) k ∨ (op = .drain ∧ PkInvK fs (r.step op) (k + 1)) := by
  cases op with
  | extend n =>
    obtain ⟨hk, hout, hbuf, hlen⟩ := h
    left
    refine ⟨hk, hout, ?_, ?_⟩
    · simp only [PkRun.step, (extend_buf _ _).1, List.append_assoc, List.take_append_drop]; exact hbuf
    · exact LenOk_append r.pk _ _ (extend_buf _ _).1 (extend_buf _ _).2 hlen
  | fill n =>
    obtain ⟨hk, hout, hbuf, hlen⟩ := h
    left
    refine ⟨hk, hout, ?_, ?_⟩
    · simp only [PkRun.step, (written_buf _ _).1, List.append_assoc, List.take_append_drop]; exact hbuf
    · exact LenOk_append r.pk _ _ (written_buf _ _).1 (written_buf _ _).2 hlen
  | drain =>
    cases hd : fs.drop k with
    | nil =>
      obtain ⟨hk, hout, hbuf, hlen⟩ := h
      left
      rw [hd] at hbuf
      simp only [flat, List.append_eq_nil_iff] at hbuf
      have hn := next_on_empty_stream r.pk hbuf.1
      simp only [PkRun.step, hn]
      exact ⟨hk, hout, by rw [hd]; simp [flat, hbuf.1, hbuf.2], hlen⟩
    | cons f rest =>
      by_cases hc : f.length ≤ r.pk.buf.length
      · exact .inr ⟨rfl, (drain_inv fs hw r k h hd).1 hc⟩
      · exact .inl ((drain_inv fs hw r k h hd).2 (by omega))

theorem run_inv (fs : List Bytes) (hw : ∀ f ∈ fs, WellPrefixed f) : ∀ (ops : List PkOp) (r : PkRun) (k : Nat),
    PkInvK fs r k → ∃ k', k ≤ k' ∧ PkInvK fs (r.run ops) k'
  | [], r, k, h => ⟨k, Nat.le_refl k, h⟩
  | op :: ops, r, k, h => by
    rcases step_inv fs hw r k op h with h1 | ⟨_, h1⟩
    · obtain ⟨k', hk, hi⟩ := run_inv fs hw ops (r.step op) k h1
      exact ⟨k', hk, by simpa [PkRun.run] using hi⟩
    · obtain ⟨k', hk, hi⟩ := run_inv fs hw ops (r.step op) (k + 1) h1
      exact ⟨k', by omega, by simpa [PkRun.run] using hi⟩

theorem init_inv (fs : List Bytes) : PkInvK fs { unfed := flat fs } 0 := by
  refine ⟨by omega, by simp, by simp, ?_⟩
  intro l hl; simp at hl

theorem step_drain_unfed (r : PkRun) : (r.step .drain).unfed = r.unfed := by
  simp only [PkRun.step]; split <;> rfl

theorem drain_progress (fs : List Bytes) (hw : ∀ f ∈ fs, WellPrefixed f) (r : PkRun) (k : Nat)
    (h : PkInvK fs r k) (hu : r.unfed = []) (hk : k < fs.length) :
    PkInvK fs (r.step .drain) (k + 1) ∧ (r.step .drain).unfed = [] := by
  cases hd : fs.drop k with
  | nil => exact absurd (List.drop_eq_nil_iff.mp hd) (by omega)
  | cons f rest =>
    have ⟨_, _, hbuf, _⟩ := h
    rw [hd, hu] at hbuf
    simp only [flat, List.append_nil] at hbuf
    exact ⟨(drain_inv fs hw r k h hd).1 (by rw [hbuf]; simp), (step_drain_unfed r).trans hu⟩

/-- with everything fed, `j` more drains take the index to `k + j`, or to the end of the stream -/
theorem drains_progress (fs : List Bytes) (hw : ∀ f ∈ fs, WellPrefixed f) (j : Nat) : ∀ (r : PkRun) (k : Nat),
    PkInvK fs r k → r.unfed = [] → ∃ k', PkInvK fs (r.run (List.replicate j .drain)) k' ∧ min (k + j) fs.length ≤ k' := by
  induction j with
  | zero => exact fun r k h _ => ⟨k, h, Nat.min_le_left ..⟩
  | succ j ih =>
    intro r k h hu
    have hle := h.1
    obtain ⟨k1, h1, hk1⟩ : ∃ k1, PkInvK fs (r.step .drain) k1 ∧ min (k + 1) fs.length ≤ k1 := by
      by_cases hk : k < fs.length
      · exact ⟨k + 1, (drain_progress fs hw r k h hu hk).1, Nat.min_le_left ..⟩
      · rcases step_inv fs hw r k .drain h with h1 | ⟨_, h1⟩
        · exact ⟨k, h1, by omega⟩
        · exact ⟨k + 1, h1, Nat.min_le_left ..⟩
    obtain ⟨k', h2, hk'⟩ := ih (r.step .drain) k1 h1 ((step_drain_unfed r).trans hu)
    exact ⟨k', h2, by omega⟩

end Aldrin
