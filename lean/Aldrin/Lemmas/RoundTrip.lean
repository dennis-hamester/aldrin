/-
Decoding what the serializer writes (`dec_encRaw_all`): a well-formed value comes back, with exactly its bytes consumed, if
it fits below the depth limit from the depth the decoder starts at, and the nesting error if it does not.
-/
import Aldrin.Lemmas.Fuel
namespace Aldrin
open Generated

theorem decKeys1_encKeys (utf8 : Bool) (kt : KeyTy) : ∀ (ks : List Key) (rest : Bytes) (fuel : Nat),
    (∀ k ∈ ks, KeyWF kt k) → ks.length + 1 ≤ fuel →
    decKeys1 utf8 kt fuel ks.length (encKeys .v1 kt ks ++ rest) = .ok (ks, rest)
  | _, _, 0, _, hf => by omega
  | [], rest, f + 1, _, _ => by simp only [decKeys1, List.length_nil, reduceIte, encKeys, List.nil_append]
  | k :: ks, rest, f + 1, h, hf => by
    have ⟨hk, hks⟩ := List.forall_mem_cons.mp h
    simp only [List.length_cons] at hf
    simp only [decKeys1, encKeys, List.length_cons, List.append_assoc, Nat.succ_ne_zero, reduceIte,
      decKey_encKey utf8 kt k hk, Nat.add_sub_cancel, decKeys1_encKeys utf8 kt ks rest f hks (by omega)]

theorem decKeys2_encKeys (utf8 : Bool) (kt : KeyTy) : ∀ (ks : List Key) (rest : Bytes) (fuel : Nat),
    (∀ k ∈ ks, KeyWF kt k) → ks.length + 1 ≤ fuel →
    decKeys2 utf8 kt fuel (encKeys .v2 kt ks ++ rest) = .ok (ks, rest)
  | _, _, 0, _, hf => by omega
  | [], rest, f + 1, _, _ => by simp only [decKeys2, encKeys, List.cons_append, List.nil_append, reduceIte]
  | k :: ks, rest, f + 1, h, hf => by
    have ⟨hk, hks⟩ := List.forall_mem_cons.mp h
    simp only [List.length_cons] at hf
    simp only [decKeys2, encKeys, List.cons_append, List.append_assoc, some_ne_none_b, reduceIte,
      decKey_encKey utf8 kt k hk, decKeys2_encKeys utf8 kt ks rest f hks (by omega)]

/-! Comparing the depth check of one decoding step (`d + 1 > maxValueDepth`, then the parts from
`d + 1`) with the check of the whole value from `d`. -/

theorem fits_leaf {d m : Nat} (v : Value) (h : v.depth = 1 := by rfl) : d + v.depth ≤ m ↔ ¬ d + 1 > m := by omega
theorem fits_node {d m : Nat} (v : Value) (k : Nat) (h : v.depth = 1 + k := by rfl) :
    d + v.depth ≤ m ↔ d + 1 + k ≤ m := by omega
theorem fits_max {d a b m : Nat} : d + max a b ≤ m ↔ d + a ≤ m ∧ d + b ≤ m := by omega

/-- The depth check of a step (`d + 1 > m`) in front of what its parts return from `d + 1` is the check of the whole
from `d`; the parts need only be looked at where the step's own check passes. -/
theorem guard_step {α : Type} {d k m : Nat} {x a e : α} (h : d + 1 ≤ m → x = if d + 1 + k ≤ m then a else e) :
    (if d + 1 > m then e else x) = if d + 1 + k ≤ m then a else e := by
  by_cases hd : d + 1 > m
  · rw [if_pos hd, if_neg (by omega)]
  · rw [if_neg hd, h (Nat.le_of_not_lt hd)]

/-- Reading back what the serializer writes when its checks are left out, with `fuel`: the value and exactly its
bytes if it fits below the depth limit from depth `d`, and the nesting error if it does not — after
having decoded every earlier sibling successfully. -/
structure DecEncRaw (cfg : DecCfg) (fuel : Nat) : Prop where
  value : ∀ (ep : Epoch) (_ : ep = .v2 → cfg.v2 = true) (v : Value) (d : Nat) (rest : Bytes),
    v.WF → 2 * (encRaw ep v).length + 1 ≤ fuel →
    dec cfg fuel (encRaw ep v ++ rest) d = if d + v.depth ≤ maxValueDepth then .ok (v, rest) else .error .tooDeep
  entries2 : ∀ (_ : cfg.v2 = true) (kt : KeyTy) (es : List (Key × Value)) (d : Nat) (rest : Bytes),
    WFEntries kt es → d ≤ maxValueDepth → 2 * (encEntriesRaw .v2 kt es).length + 2 ≤ fuel →
    decEntries2 cfg kt fuel (encEntriesRaw .v2 kt es ++ rest) d =
      if d + depthEntries es ≤ maxValueDepth then .ok (es, rest) else .error .tooDeep
  elems2 : ∀ (_ : cfg.v2 = true) (vs : List Value) (d : Nat) (rest : Bytes),
    WFList vs → d ≤ maxValueDepth → 2 * (encElemsRaw .v2 vs).length + 2 ≤ fuel →
    decElems2 cfg fuel (encElemsRaw .v2 vs ++ rest) d =
      if d + depthList vs ≤ maxValueDepth then .ok (vs, rest) else .error .tooDeep
  entries1 : ∀ (kt : KeyTy) (es : List (Key × Value)) (d : Nat) (rest : Bytes),
    WFEntries kt es → d ≤ maxValueDepth → 2 * (encEntriesRaw .v1 kt es).length + 2 ≤ fuel →
    decEntries1 cfg kt fuel es.length (encEntriesRaw .v1 kt es ++ rest) d =
      if d + depthEntries es ≤ maxValueDepth then .ok (es, rest) else .error .tooDeep
  elems1 : ∀ (vs : List Value) (d : Nat) (rest : Bytes),
    WFList vs → d ≤ maxValueDepth → 2 * (encElemsRaw .v1 vs).length + 2 ≤ fuel →
    decElems1 cfg fuel vs.length (encElemsRaw .v1 vs ++ rest) d =
      if d + depthList vs ≤ maxValueDepth then .ok (vs, rest) else .error .tooDeep

/-- By induction on the fuel, which every call inside the decoder lowers by one, so that one hypothesis serves the
value and the four loops alike. -/
theorem dec_encRaw_all (cfg : DecCfg) : ∀ (fuel : Nat), DecEncRaw cfg fuel
  | 0 => ⟨fun _ _ _ _ _ _ hf => by omega, fun _ _ _ _ _ _ _ hf => by omega, fun _ _ _ _ _ _ hf => by omega,
      fun _ _ _ _ _ _ hf => by omega, fun _ _ _ _ _ hf => by omega⟩
  | f + 1 => by
    obtain ⟨ihV, ihE2, ihL2, ihE1, ihL1⟩ := dec_encRaw_all cfg f
    refine ⟨fun ep hv2 v d rest hw hf => ?_, fun hc kt es d rest hw hd hf => ?_, fun hc vs d rest hw hd hf => ?_,
      fun kt es d rest hw hd hf => ?_, fun vs d rest hw hd hf => ?_⟩
    · cases v with
      | none =>
        simp only [encRaw, List.cons_append, List.nil_append, dec, classifyC_v1 cfg (k := .none) rfl,
          fits_leaf (.none), ite_not]
      | bool b =>
        cases b <;> simp only [encRaw, List.cons_append, List.nil_append, dec, classifyC_v1 cfg (k := .bool) rfl,
          fits_leaf (.bool _), ite_not, reduceIte] <;> rfl
      | int t i =>
        simp only [encRaw, List.cons_append, dec, classifyC_v1 cfg (k := .int t) rfl, decInt_encInt t i hw,
          fits_leaf (.int t i), ite_not]
      | fixed k s =>
        simp only [encRaw, List.cons_append, dec, classifyC_v1 cfg (k := .fixed k) rfl, takeN_append' s rest _ hw,
          fits_leaf (.fixed k s), ite_not]
      | string s =>
        simp only [encRaw, List.cons_append, List.append_assoc, dec, classifyC_v1 cfg (k := .string) rfl,
          getVarint4_putVarint hw.1, takeN_append, hw.2, Bool.not_true, Bool.and_false, Bool.false_eq_true, reduceIte,
          fits_leaf (.string s), ite_not]
      | some v =>
        simp only [encRaw, List.length_cons] at hf
        have ih := ihV ep hv2 v (d + 1) rest hw (by omega)
        simp only [encRaw, List.cons_append, dec, classifyC_v1 cfg (k := .some) rfl, ih, fits_node (.some v) v.depth]
        exact guard_step fun _ => by by_cases h : d + 1 + v.depth ≤ maxValueDepth <;> simp only [h, reduceIte]
      | enum id v =>
        simp only [encRaw, List.length_cons, List.length_append] at hf
        have ih := ihV ep hv2 v (d + 1) rest hw.2 (by omega)
        simp only [encRaw, List.cons_append, List.append_assoc, dec, classifyC_v1 cfg (k := .enum) rfl,
          getVarint4_putVarint hw.1, ih, fits_node (.enum id v) v.depth]
        exact guard_step fun _ => by by_cases h : d + 1 + v.depth ≤ maxValueDepth <;> simp only [h, reduceIte]
      | bytes s =>
        cases ep with
        | v1 =>
          simp only [encRaw, List.cons_append, List.append_assoc, dec, classifyC_v1 cfg (k := .bytes1) rfl,
            getVarint4_putVarint hw, short_eq, List.length_append, Nat.not_lt.mpr (Nat.le_add_right _ _), decide_false,
            Bool.false_eq_true, reduceIte, List.take_left', List.drop_left', fits_leaf (.bytes _), ite_not]
        | v2 =>
          have hc := classifyC_v2 (hv2 rfl) (k := .bytes2)
          have hz := getVarint4_putVarint (Nat.zero_le _)
          by_cases he : s = []
          · subst he
            cases f with
            | zero => simp [encRaw] at hf
            | succ f =>
              simp only [encRaw, List.isEmpty_nil, reduceIte, List.cons_append, dec, hc, decChunks, hz,
                fits_leaf (.bytes _), ite_not]
          · have hpos : 0 < s.length := List.length_pos_iff.mpr he
            have hvl := putVarint_length_pos 4 s.length
            simp only [encRaw, List.isEmpty_iff, he, reduceIte, List.length_cons, List.length_append] at hf
            match f, hf with
            | f + 2, _ =>
              simp only [encRaw, List.isEmpty_iff, he, reduceIte, List.cons_append, List.append_assoc, dec, hc, decChunks,
                getVarint4_putVarint hw, Nat.ne_of_gt hpos, short_eq, List.length_append,
                Nat.not_lt.mpr (Nat.le_add_right _ _), decide_false, Bool.false_eq_true,
                List.take_left', List.drop_left', hz, List.append_nil, fits_leaf (.bytes _), ite_not]
      | vec vs =>
        cases ep with
        | v1 =>
          simp only [encRaw, List.length_cons, List.length_append] at hf
          simp only [encRaw, List.cons_append, List.append_assoc, dec, classifyC_v1 cfg (k := .vec1) rfl,
            getVarint4_putVarint hw.1, fits_node (.vec vs) (depthList vs)]
          refine guard_step fun hd => ?_
          rw [ihL1 vs (d + 1) rest hw.2 hd (by omega)]
          by_cases h : d + 1 + depthList vs ≤ maxValueDepth <;> simp only [h, reduceIte]
        | v2 =>
          simp only [encRaw, List.length_cons] at hf
          simp only [encRaw, List.cons_append, dec, classifyC_v2 (hv2 rfl) (k := .vec2), fits_node (.vec vs) (depthList vs)]
          refine guard_step fun hd => ?_
          rw [ihL2 (hv2 rfl) vs (d + 1) rest hw.2 hd (by omega)]
          by_cases h : d + 1 + depthList vs ≤ maxValueDepth <;> simp only [h, reduceIte]
      | map kt es =>
        cases ep with
        | v1 =>
          simp only [encRaw, List.length_cons, List.length_append] at hf
          simp only [encRaw, List.cons_append, List.append_assoc, dec, classifyC_v1 cfg (k := .map1 kt) rfl,
            getVarint4_putVarint hw.1, fits_node (.map kt es) (depthEntries es)]
          refine guard_step fun hd => ?_
          rw [ihE1 kt es (d + 1) rest hw.2 hd (by omega)]
          by_cases h : d + 1 + depthEntries es ≤ maxValueDepth <;> simp only [h, reduceIte]
        | v2 =>
          simp only [encRaw, List.length_cons] at hf
          simp only [encRaw, List.cons_append, dec, classifyC_v2 (hv2 rfl) (k := .map2 kt), fits_node (.map kt es) (depthEntries es)]
          refine guard_step fun hd => ?_
          rw [ihE2 (hv2 rfl) kt es (d + 1) rest hw.2 hd (by omega)]
          by_cases h : d + 1 + depthEntries es ≤ maxValueDepth <;> simp only [h, reduceIte]
      | set kt ks =>
        have hl := encKeys_length ep kt ks hw.2.2
        cases ep with
        | v1 =>
          simp only [encRaw, List.length_cons, List.length_append] at hf
          simp only [encRaw, List.cons_append, List.append_assoc, dec, classifyC_v1 cfg (k := .set1 kt) rfl fun e => hw.1 (Kind.set1.inj e),
            getVarint4_putVarint hw.2.1, decKeys1_encKeys cfg.utf8 kt ks rest f hw.2.2 (by omega), fits_leaf (.set kt ks), ite_not]
        | v2 =>
          simp only [encRaw, List.length_cons] at hf
          simp only [encRaw, List.cons_append, dec, classifyC_v2 (hv2 rfl) (k := .set2 kt) nofun fun e => hw.1 (Kind.set2.inj e),
            decKeys2_encKeys cfg.utf8 kt ks rest f hw.2.2 (by omega), fits_leaf (.set kt ks), ite_not]
    · cases es with
      | nil =>
        simp only [decEntries2, encEntriesRaw, List.cons_append, List.nil_append, depthEntries, Nat.add_zero, hd, reduceIte]
      | cons e es =>
        obtain ⟨k, v⟩ := e
        simp only [encEntriesRaw, List.length_cons, List.length_append] at hf
        simp only [decEntries2, encEntriesRaw, List.cons_append, List.append_assoc, some_ne_none_b, reduceIte,
          depthEntries, fits_max, decKey_encKey cfg.utf8 kt k hw.1,
          ihV .v2 (fun _ => hc) v d _ hw.2.1 (by omega)]
        have ih := ihE2 hc kt es d rest hw.2.2 hd (by omega)
        by_cases h1 : d + v.depth ≤ maxValueDepth <;> by_cases h2 : d + depthEntries es ≤ maxValueDepth <;>
          simp only [ih, h1, h2, and_self, and_true, and_false, reduceIte]
    · cases vs with
      | nil =>
        simp only [decElems2, encElemsRaw, List.cons_append, List.nil_append, depthList, Nat.add_zero, hd, reduceIte]
      | cons v vs =>
        simp only [encElemsRaw, List.length_cons, List.length_append] at hf
        simp only [decElems2, encElemsRaw, List.cons_append, List.append_assoc, some_ne_none_b, reduceIte,
          depthList, fits_max, ihV .v2 (fun _ => hc) v d _ hw.1 (by omega)]
        have ih := ihL2 hc vs d rest hw.2 hd (by omega)
        by_cases h1 : d + v.depth ≤ maxValueDepth <;> by_cases h2 : d + depthList vs ≤ maxValueDepth <;>
          simp only [ih, h1, h2, and_self, and_true, and_false, reduceIte]
    · cases es with
      | nil =>
        simp only [decEntries1, encEntriesRaw, List.length_nil, List.nil_append, depthEntries, Nat.add_zero, hd, reduceIte]
      | cons e es =>
        obtain ⟨k, v⟩ := e
        have hp := encRaw_length_pos .v1 v
        simp only [encEntriesRaw, List.length_append] at hf
        simp only [decEntries1, encEntriesRaw, List.length_cons, List.append_assoc, Nat.succ_ne_zero, reduceIte,
          Nat.add_sub_cancel, depthEntries, fits_max, decKey_encKey cfg.utf8 kt k hw.1,
          ihV .v1 nofun v d _ hw.2.1 (by omega)]
        have ih := ihE1 kt es d rest hw.2.2 hd (by omega)
        by_cases h1 : d + v.depth ≤ maxValueDepth <;> by_cases h2 : d + depthEntries es ≤ maxValueDepth <;>
          simp only [ih, h1, h2, and_self, and_true, and_false, reduceIte]
    · cases vs with
      | nil =>
        simp only [decElems1, encElemsRaw, List.length_nil, List.nil_append, depthList, Nat.add_zero, hd, reduceIte]
      | cons v vs =>
        have hp := encRaw_length_pos .v1 v
        simp only [encElemsRaw, List.length_append] at hf
        simp only [decElems1, encElemsRaw, List.length_cons, List.append_assoc, Nat.succ_ne_zero, reduceIte,
          Nat.add_sub_cancel, depthList, fits_max, ihV .v1 nofun v d _ hw.1 (by omega)]
        have ih := ihL1 vs d rest hw.2 hd (by omega)
        by_cases h1 : d + v.depth ≤ maxValueDepth <;> by_cases h2 : d + depthList vs ≤ maxValueDepth <;>
          simp only [ih, h1, h2, and_self, and_true, and_false, reduceIte]

theorem dec_encRaw (cfg : DecCfg) (ep : Epoch) (hv2 : ep = .v2 → cfg.v2 = true) (v : Value) (d : Nat)
    (rest : Bytes) (fuel : Nat) (hw : v.WF) (hd : d + v.depth ≤ maxValueDepth)
    (hf : 2 * (encRaw ep v).length + 1 ≤ fuel) : dec cfg fuel (encRaw ep v ++ rest) d = .ok (v, rest) :=
  ((dec_encRaw_all cfg fuel).value ep hv2 v d rest hw hf).trans (if_pos hd)

theorem decodeTop_encRaw (cfg : DecCfg) (ep : Epoch) (hv2 : ep = .v2 → cfg.v2 = true) (v : Value)
    (hw : v.WF) (hd : v.depth ≤ maxValueDepth) : decodeTop cfg (encRaw ep v) = .ok v := by
  have h := dec_encRaw cfg ep hv2 v 0 [] (fuelFor (encRaw ep v)) hw (by omega) (by unfold fuelFor; omega)
  rw [List.append_nil] at h
  exact decodeTop_eq_ok.mpr h

theorem decElems1_encRaw (cfg : DecCfg) : ∀ (vs : List Value) (d : Nat) (rest : Bytes) (fuel : Nat),
    WFList vs → d + depthList vs ≤ maxValueDepth + 1 - 1 → 2 * (encElemsRaw .v1 vs).length + 2 ≤ fuel →
    decElems1 cfg fuel vs.length (encElemsRaw .v1 vs ++ rest) d = .ok (vs, rest) :=
  fun vs d rest fuel hw hd hf =>
    ((dec_encRaw_all cfg fuel).elems1 vs d rest hw (by omega) hf).trans (if_pos (by omega))

theorem decEntries1_encRaw (cfg : DecCfg) (kt : KeyTy) : ∀ (es : List (Key × Value)) (d : Nat) (rest : Bytes) (fuel : Nat),
    WFEntries kt es → d + depthEntries es ≤ maxValueDepth + 1 - 1 → 2 * (encEntriesRaw .v1 kt es).length + 2 ≤ fuel →
    decEntries1 cfg kt fuel es.length (encEntriesRaw .v1 kt es ++ rest) d = .ok (es, rest) :=
  fun es d rest fuel hw hd hf =>
    ((dec_encRaw_all cfg fuel).entries1 kt es d rest hw (by omega) hf).trans (if_pos (by omega))

theorem decEntries2_encRaw (cfg : DecCfg) (hc : cfg.v2 = true) (kt : KeyTy) : ∀ (es : List (Key × Value)) (d : Nat) (rest : Bytes) (fuel : Nat),
    WFEntries kt es → d + depthEntries es ≤ maxValueDepth + 1 - 1 → 2 * (encEntriesRaw .v2 kt es).length + 2 ≤ fuel →
    decEntries2 cfg kt fuel (encEntriesRaw .v2 kt es ++ rest) d = .ok (es, rest) :=
  fun es d rest fuel hw hd hf =>
    ((dec_encRaw_all cfg fuel).entries2 hc kt es d rest hw (by omega) hf).trans (if_pos (by omega))

theorem dec_tooDeep (cfg : DecCfg) (ep : Epoch) (hv2 : ep = .v2 → cfg.v2 = true) (v : Value) (d : Nat)
    (rest : Bytes) (fuel : Nat) (hw : v.WF) (hd : d + v.depth > maxValueDepth)
    (hf : 2 * (encRaw ep v).length + 1 ≤ fuel) : dec cfg fuel (encRaw ep v ++ rest) d = .error .tooDeep :=
  ((dec_encRaw_all cfg fuel).value ep hv2 v d rest hw hf).trans (if_neg (by omega))

theorem decElems1_tooDeep (cfg : DecCfg) : ∀ (vs : List Value) (d : Nat) (rest : Bytes) (fuel : Nat),
    WFList vs → d ≤ maxValueDepth → d + depthList vs > maxValueDepth → 2 * (encElemsRaw .v1 vs).length + 2 ≤ fuel →
    decElems1 cfg fuel vs.length (encElemsRaw .v1 vs ++ rest) d = .error .tooDeep :=
  fun vs d rest fuel hw hle hd hf =>
    ((dec_encRaw_all cfg fuel).elems1 vs d rest hw hle hf).trans (if_neg (by omega))

theorem decEntries1_tooDeep (cfg : DecCfg) (kt : KeyTy) : ∀ (es : List (Key × Value)) (d : Nat) (rest : Bytes) (fuel : Nat),
    WFEntries kt es → d ≤ maxValueDepth → d + depthEntries es > maxValueDepth → 2 * (encEntriesRaw .v1 kt es).length + 2 ≤ fuel →
    decEntries1 cfg kt fuel es.length (encEntriesRaw .v1 kt es ++ rest) d = .error .tooDeep :=
  fun es d rest fuel hw hle hd hf =>
    ((dec_encRaw_all cfg fuel).entries1 kt es d rest hw hle hf).trans (if_neg (by omega))

theorem decEntries2_tooDeep (cfg : DecCfg) (hc : cfg.v2 = true) (kt : KeyTy) : ∀ (es : List (Key × Value)) (d : Nat) (rest : Bytes) (fuel : Nat),
    WFEntries kt es → d ≤ maxValueDepth → d + depthEntries es > maxValueDepth → 2 * (encEntriesRaw .v2 kt es).length + 2 ≤ fuel →
    decEntries2 cfg kt fuel (encEntriesRaw .v2 kt es ++ rest) d = .error .tooDeep :=
  fun es d rest fuel hw hle hd hf =>
    ((dec_encRaw_all cfg fuel).entries2 hc kt es d rest hw hle hf).trans (if_neg (by omega))

end Aldrin
