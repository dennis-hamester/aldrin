/-
The checks of the serializer (`encCheck`): on a well-formed value only the depth limit can fail, and it fails exactly when
the value does not fit below the limit (`encCheck_wf`). On the decoder's side: whatever it returns fits below the limit
from the depth it started at (`dec_depth_all`).
-/
import Aldrin.Lemmas.RoundTrip
namespace Aldrin
open Generated

theorem depth_pos (v : Value) : 1 ≤ v.depth := by
  cases v <;> simp [Value.depth] <;> omega

theorem guardDepth_eq (d : Nat) (k : Option SerErr) :
    guardDepth d k = if d + 1 > maxValueDepth then some .tooDeep else k := rfl

/-- The depth check of a container step against the check of its elements, which passes for an
empty list whatever the depth. -/
theorem guard_list {α β : Type} {vs : List β} {d k m : Nat} {a e : α} (h0 : vs = [] → k = 0) :
    (if d + 1 > m then e else if vs = [] ∨ d + 1 + k ≤ m then a else e) = if d + 1 + k ≤ m then a else e := by
  refine guard_step fun hd => ?_
  by_cases hv : vs = []
  · rw [if_pos (.inl hv), if_pos (by rw [h0 hv]; omega)]
  · simp only [hv, false_or]

mutual
theorem encCheck_wf (ep : Epoch) : ∀ (v : Value) (d : Nat), v.WF →
    encCheck ep v d = if d + v.depth ≤ maxValueDepth then none else some .tooDeep
  | .none, d, _ => by
    simp only [encCheck, guardDepth_eq, fits_leaf (.none), ite_not]
  | .bool b, d, _ => by
    simp only [encCheck, guardDepth_eq, fits_leaf (.bool b), ite_not]
  | .int t i, d, _ => by
    simp only [encCheck, guardDepth_eq, fits_leaf (.int t i), ite_not]
  | .fixed k s, d, _ => by
    simp only [encCheck, guardDepth_eq, fits_leaf (.fixed k s), ite_not]
  | .string s, d, hw => by
    simp only [encCheck, guardDepth_eq, gt_iff_lt, Nat.not_lt.mpr hw.1, reduceIte, fits_leaf (.string s), ite_not]
  | .bytes s, d, hw => by
    simp only [encCheck, guardDepth_eq, gt_iff_lt, Nat.not_lt.mpr hw, reduceIte, fits_leaf (.bytes s), ite_not]
  | .set kt ks, d, hw => by
    cases ep <;>
      simp only [encCheck, guardDepth_eq, gt_iff_lt, Nat.not_lt.mpr hw.2.1, reduceIte, fits_leaf (.set kt ks), ite_not]
  | .some v, d, hw => by
    simp only [encCheck, guardDepth_eq, encCheck_wf ep v (d + 1) hw, fits_node (.some v) v.depth]
    exact guard_step fun _ => rfl
  | .enum id v, d, hw => by
    simp only [encCheck, guardDepth_eq, encCheck_wf ep v (d + 1) hw.2, fits_node (.enum id v) v.depth]
    exact guard_step fun _ => rfl
  | .vec vs, d, hw => by
    cases ep <;>
      simp only [encCheck, guardDepth_eq, gt_iff_lt, Nat.not_lt.mpr hw.1, reduceIte,
        encCheckElems_wf _ vs (d + 1) hw.2, fits_node (.vec vs) (depthList vs)] <;>
      exact guard_list (by rintro rfl; rfl)
  | .map kt es, d, hw => by
    cases ep <;>
      simp only [encCheck, guardDepth_eq, gt_iff_lt, Nat.not_lt.mpr hw.1, reduceIte,
        encCheckEntries_wf _ kt es (d + 1) hw.2, fits_node (.map kt es) (depthEntries es)] <;>
      exact guard_list (by rintro rfl; rfl)

theorem encCheckElems_wf (ep : Epoch) : ∀ (vs : List Value) (d : Nat), WFList vs →
    encCheckElems ep vs d = if vs = [] ∨ d + depthList vs ≤ maxValueDepth then none else some .tooDeep
  | [], d, _ => by simp only [encCheckElems, true_or, reduceIte]
  | v :: vs, d, hw => by
    have hp := depth_pos v
    simp only [encCheckElems, encCheck_wf ep v d hw.1, encCheckElems_wf ep vs d hw.2, depthList, firstErr,
      reduceCtorEq, false_or, fits_max]
    by_cases h1 : d + v.depth ≤ maxValueDepth
    · by_cases hv : vs = []
      · subst hv; simp only [h1, depthList, true_or, reduceIte, true_and]; rw [if_pos (by omega)]
      · simp only [h1, hv, false_or, true_and, reduceIte]
    · simp only [h1, false_and, reduceIte]

theorem encCheckEntries_wf (ep : Epoch) (kt : KeyTy) : ∀ (es : List (Key × Value)) (d : Nat), WFEntries kt es →
    encCheckEntries ep kt es d = if es = [] ∨ d + depthEntries es ≤ maxValueDepth then none else some .tooDeep
  | [], d, _ => by simp only [encCheckEntries, true_or, reduceIte]
  | (k, v) :: es, d, hw => by
    have hp := depth_pos v
    simp only [encCheckEntries, encCheck_wf ep v d hw.2.1, encCheckEntries_wf ep kt es d hw.2.2, depthEntries, firstErr,
      reduceCtorEq, false_or, fits_max]
    by_cases h1 : d + v.depth ≤ maxValueDepth
    · by_cases hv : es = []
      · subst hv; simp only [h1, depthEntries, true_or, reduceIte, true_and]; rw [if_pos (by omega)]
      · simp only [h1, hv, false_or, true_and, reduceIte]
    · simp only [h1, false_and, reduceIte]
end

-- The loops do not check the depth themselves (the value that calls them has checked `d`), so a loop that returns
-- no element says nothing about `d`: hence the first disjunct.
theorem dec_depth_all (cfg : DecCfg) (f : Nat) : DecOk cfg f
    (fun _ _ d v _ => d + v.depth ≤ maxValueDepth)
    (fun _ _ _ d es _ => depthEntries es = 0 ∨ d + depthEntries es ≤ maxValueDepth)
    (fun _ _ d vs _ => depthList vs = 0 ∨ d + depthList vs ≤ maxValueDepth)
    (fun _ _ _ _ d es _ => depthEntries es = 0 ∨ d + depthEntries es ≤ maxValueDepth)
    (fun _ _ _ d vs _ => depthList vs = 0 ∨ d + depthList vs ≤ maxValueDepth) := by
  apply dec_ok_induct cfg
  constructor
  case entries2_nil | elems2_nil | entries1_nil | elems1_nil => intros; exact .inl rfl
  all_goals (intros; simp only [Value.depth, depthList, depthEntries]; omega)

end Aldrin
