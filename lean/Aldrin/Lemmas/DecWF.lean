import Aldrin.Lemmas.Depth
namespace Aldrin
open Generated

/-! What the decoder returns from an input of at most `u32Max` bytes, with UTF-8 validation on, is well-formed (what
the Rust types guarantee by construction; `dec_wf_all`); with `dec_depth_all` of `Depth.lean`, `dec_wf`. -/

theorem decInt_inRange {t : IntTy} {bs r : Bytes} {i : Int} (h : decInt t bs = .ok (i, r)) : t.inRange i := by
  rcases t.byte_or_wide with rfl | rfl | hw
  iterate 2
    cases bs <;> cases h
    rename_i b; have := b.toNat_lt
    simp [IntTy.inRange, IntTy.signed, IntTy.bytes]; first | omega | (split <;> omega)
  rw [decInt_wide hw] at h
  split at h <;> cases h
  exact ofWire_inRange (getVarint_ok (by omega) ‹_›).1

theorem getVarint4_le {bs r : Bytes} {n : Nat} (h : getVarint 4 bs = .ok (n, r)) : n ≤ u32Max := by
  have := (getVarint_ok (by decide) h).1
  simp [u32Max] at this ⊢; omega

theorem decKey_wf {utf8 : Bool} (hu : utf8 = true) {kt : KeyTy} {bs r : Bytes} {k : Key} (h : decKey utf8 kt bs = .ok (k, r))
    (hl : bs.length ≤ u32Max) : KeyWF kt k := by
  subst hu
  cases kt <;> simp only [decKey] at h <;> (repeat' split at h) <;> cases h
  · exact decInt_inRange ‹_›
  · have := getVarint_shrink ‹_›; have := takeN_ok ‹_›; have hv := ‹¬ _›
    simp only [Bool.true_and, Bool.not_eq_true', Bool.not_eq_false] at hv
    exact ⟨by omega, hv⟩
  · exact (takeN_ok ‹_›).2.1
  · have := getVarint4_le ‹_›
    exact ⟨Int.natCast_nonneg _, by omega⟩

theorem decKeys1_wf {utf8 : Bool} (hu : utf8 = true) {kt : KeyTy} {f n : Nat} {bs : Bytes} {ks : List Key} {r : Bytes} :
    decKeys1 utf8 kt f n bs = .ok (ks, r) → bs.length ≤ u32Max → ∀ k ∈ ks, KeyWF kt k := by
  fun_induction decKeys1 utf8 kt f n bs generalizing ks r <;> intro h hl <;> cases h
  · nofun
  · rename_i ih
    have hk := ‹decKey _ _ _ = .ok _›
    have := decKey_shrink hk
    exact List.forall_mem_cons.mpr ⟨decKey_wf hu hk hl, ih ‹decKeys1 _ _ _ _ _ = .ok _› (by omega)⟩

theorem decKeys2_wf {utf8 : Bool} (hu : utf8 = true) {kt : KeyTy} {f : Nat} {bs : Bytes} {ks : List Key} {r : Bytes} :
    decKeys2 utf8 kt f bs = .ok (ks, r) → bs.length ≤ u32Max → ∀ k ∈ ks, KeyWF kt k := by
  fun_induction decKeys2 utf8 kt f bs generalizing ks r <;> intro h hl <;> cases h
  · nofun
  · rename_i ih
    have hk := ‹decKey _ _ _ = .ok _›
    have := decKey_shrink hk
    simp only [List.length_cons] at hl
    exact List.forall_mem_cons.mpr ⟨decKey_wf hu hk (by omega), ih ‹decKeys2 _ _ _ _ = .ok _› (by omega)⟩

theorem dec_wf_all (cfg : DecCfg) (hu : cfg.utf8 = true) (f : Nat) : DecOk cfg f
    (fun _ bs _ v _ => bs.length ≤ u32Max → v.WF)
    (fun kt _ bs _ es _ => bs.length ≤ u32Max → WFEntries kt es)
    (fun _ bs _ vs _ => bs.length ≤ u32Max → WFList vs)
    (fun kt _ _ bs _ es _ => bs.length ≤ u32Max → WFEntries kt es)
    (fun _ _ bs _ vs _ => bs.length ≤ u32Max → WFList vs) := by
  apply dec_ok_induct cfg
  constructor
  -- The bound on the input passes to every part, since each read only shortens what is left.
  all_goals (intros; simp only [Value.WF, WFList, WFEntries, List.length_cons] at *)
  case some ih hl => exact ih (by omega)
  case int h _ => exact decInt_inRange h
  case fixed h _ => exact (takeN_ok h).2.1
  case string hg ht hv hl =>
    have := getVarint_shrink hg; have := takeN_ok ht
    exact ⟨by omega, by simpa [hu] using hv⟩
  case vec1 hg hs ih hl =>
    have := getVarint_shrink hg; have := decElems1_count hs
    exact ⟨by omega, ih (by omega)⟩
  case bytes1 hg _ hl => have := getVarint_shrink hg; simp only [List.length_take]; omega
  case map1 hg hs ih hl =>
    have := getVarint_shrink hg; have := decEntries1_count hs
    exact ⟨by omega, ih (by omega)⟩
  case set1 hk hg hs hl =>
    have := getVarint_shrink hg; have := decKeys1_count hs
    exact ⟨fun he => classify_has_byte (classifyC_some hk).1 (he ▸ rfl), by omega, decKeys1_wf hu hs (by omega)⟩
  case enum hg _ ih hl => have := getVarint_shrink hg; exact ⟨getVarint4_le hg, ih (by omega)⟩
  case vec2 hs ih hl => have := decElems2_count hs; exact ⟨by omega, ih (by omega)⟩
  case bytes2 h hl => have := decChunks_size h; omega
  case map2 hs ih hl => have := decEntries2_count hs; exact ⟨by omega, ih (by omega)⟩
  case set2 hk hs hl =>
    have := decKeys2_count hs
    exact ⟨fun he => classify_has_byte (classifyC_some hk).1 (he ▸ rfl), by omega, decKeys2_wf hu hs (by omega)⟩
  case entries2_cons hk hv ih1 _ ih2 hl =>
    have := decKey_shrink hk; have := dec_shrink hv
    exact ⟨decKey_wf hu hk (by omega), ih1 (by omega), ih2 (by omega)⟩
  case entries1_cons hk hv ih1 _ ih2 hl =>
    have := decKey_shrink hk; have := dec_shrink hv
    exact ⟨decKey_wf hu hk hl, ih1 (by omega), ih2 (by omega)⟩
  case elems2_cons hv ih1 _ ih2 hl => have := dec_shrink hv; exact ⟨ih1 (by omega), ih2 (by omega)⟩
  case elems1_cons hv ih1 _ ih2 hl => have := dec_shrink hv; exact ⟨ih1 hl, ih2 (by omega)⟩

theorem dec_wf {f : Nat} {bs : Bytes} {d : Nat} {v : Value} {r : Bytes}
    (h : dec .std f bs d = .ok (v, r)) (hl : bs.length ≤ u32Max) : v.WF ∧ d + v.depth ≤ maxValueDepth :=
  ⟨(dec_wf_all .std rfl f).value h hl, (dec_depth_all .std f).value h⟩

end Aldrin
