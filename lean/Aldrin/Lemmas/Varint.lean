/-
The variable-length integers of `buf_ext.rs`: a written varint is read back, byte for byte (`getVarint_putVarint`); the
value of a successful read is bounded, and no shorter on the wire than written canonically (`getVarint_ok`); skipping is
reading without the value; zig-zag is a bijection.
-/
import Aldrin.Model.Bytes
namespace Aldrin

@[simp] theorem leBytes_length (k n : Nat) : (leBytes k n).length = k := by
  induction k generalizing n with
  | zero => simp [leBytes]
  | succ k ih => simp [leBytes, ih]

theorem ofLeBytes_leBytes (k n : Nat) : ofLeBytes (leBytes k n) = n % 256 ^ k := by
  induction k generalizing n with
  | zero => simp [leBytes, ofLeBytes, Nat.mod_one]
  | succ k ih =>
    simp only [leBytes, ofLeBytes, ih]
    have h1 : (UInt8.ofNat (n % 256)).toNat = n % 256 := by
      simp [UInt8.toNat_ofNat']
    rw [h1, Nat.pow_succ, Nat.mul_comm (256 ^ k) 256, Nat.mod_mul]

theorem lt_pow_sigBytesAux : ∀ (f n : Nat), n ≤ f → n < 256 ^ sigBytesAux f n := by
  intro f
  induction f with
  | zero => intro n h; have : n = 0 := by omega
            subst this; simp [sigBytesAux]
  | succ f ih =>
    intro n h
    simp only [sigBytesAux]
    split
    · subst_vars; simp
    · rename_i hn
      have := ih (n / 256) (by omega)
      rw [Nat.add_comm, Nat.pow_succ]
      omega

theorem lt_pow_sigBytes (n : Nat) : n < 256 ^ sigBytes n := lt_pow_sigBytesAux n n (Nat.le_refl n)

theorem sigBytesAux_le : ∀ (f n N : Nat), n < 256 ^ N → sigBytesAux f n ≤ N := by
  intro f
  induction f with
  | zero => intro n N _; simp [sigBytesAux]
  | succ f ih =>
    intro n N h
    simp only [sigBytesAux]
    split
    · omega
    · rename_i hn
      cases N with
      | zero => simp at h; omega
      | succ N =>
        have : n / 256 < 256 ^ N := by rw [Nat.pow_succ] at h; omega
        have := ih _ _ this
        omega

theorem sigBytes_le {n N : Nat} (h : n < 256 ^ N) : sigBytes n ≤ N := sigBytesAux_le n n N h

theorem sigBytes_lt_256 {n : Nat} (h : sigBytes n < 2) : n < 256 := by
  have := lt_pow_sigBytes n
  have h2 : sigBytes n = 0 ∨ sigBytes n = 1 := by omega
  rcases h2 with h2 | h2 <;> simp [h2] at this <;> omega

theorem ofLeBytes_lt (bs : Bytes) : ofLeBytes bs < 256 ^ bs.length := by
  induction bs with
  | nil => simp [ofLeBytes]
  | cons b bs ih =>
    simp only [ofLeBytes, List.length_cons, Nat.pow_succ]
    have := b.toNat_lt
    omega

/-- Reading a marker byte for `k` payload bytes followed by exactly those bytes. -/
theorem getVarint_marker {N k : Nat} (hk : 1 ≤ k) (hkN : k ≤ N) (hN : N ≤ 8) (bs rest : Bytes) (hl : bs.length = k) :
    getVarint N (UInt8.ofNat (255 - N + k) :: (bs ++ rest)) = .ok (ofLeBytes bs, rest) := by
  have e1 : (UInt8.ofNat (255 - N + k)).toNat = 255 - N + k := by
    rw [UInt8.toNat_ofNat']; omega
  have e2 : 255 - N + k + N - 255 = bs.length := by omega
  simp only [getVarint, e1, e2, short_eq, List.length_append, List.take_left', List.drop_left']
  rw [if_pos (by omega), if_neg (by simp)]

theorem getVarint_putVarint (N n : Nat) (hN1 : 1 ≤ N) (hN8 : N ≤ 8) (h : n < 256 ^ N) (rest : Bytes) :
    getVarint N (putVarint N n ++ rest) = .ok (n, rest) := by
  have hk := sigBytes_le h
  unfold putVarint
  simp only
  split
  · rw [List.cons_append, getVarint_marker (by omega) hk hN8 _ _ (leBytes_length _ _), ofLeBytes_leBytes,
      Nat.mod_eq_of_lt (lt_pow_sigBytes n)]
  · have hn : n < 256 := sigBytes_lt_256 (by omega)
    have en : (UInt8.ofNat n).toNat = n := by rw [UInt8.toNat_ofNat']; omega
    split
    · exact (getVarint_marker (Nat.le_refl 1) hN1 hN8 [UInt8.ofNat n] rest rfl).trans
        (by simp only [ofLeBytes, en, Nat.mul_zero, Nat.add_zero])
    · rename_i h3
      simp only [List.cons_append, List.nil_append, getVarint, en, h3, reduceIte]

theorem skipVarint_eq_getVarint (N : Nat) (bs : Bytes) :
    skipVarint N bs = (getVarint N bs).map (·.2) := by
  cases bs with
  | nil => rfl
  | cons first r =>
    simp only [skipVarint, getVarint]
    by_cases h1 : first.toNat > 255 - N
    · by_cases h2 : r.length < first.toNat + N - 255
      · simp [h1, h2, Except.map]
      · simp [h1, h2, Except.map]
    · simp [h1, Except.map]

theorem putVarint_length (N n : Nat) :
    (putVarint N n).length = if 2 ≤ sigBytes n then sigBytes n + 1 else if n > 255 - N then 2 else 1 := by
  unfold putVarint; simp only; split <;> (try split) <;> simp

theorem putVarint_length_pos (N n : Nat) : 0 < (putVarint N n).length := by
  rw [putVarint_length]; split <;> (try split) <;> omega

theorem putVarint_length_le (N n : Nat) (hN : 1 ≤ N) (h : n < 256 ^ N) : (putVarint N n).length ≤ N + 1 := by
  have := sigBytes_le h
  rw [putVarint_length]; split <;> (try split) <;> omega

/-- What a successful read is, by the first byte: a marker for `k` bytes with `1 ≤ k ≤ N`, followed by them, or a byte
below the markers that is the value. -/
theorem getVarint_cases {N : Nat} {bs rest : Bytes} {n : Nat} (h : getVarint N bs = .ok (n, rest)) :
    (∃ k, 1 ≤ k ∧ k ≤ N ∧ n < 256 ^ k ∧ bs.length = 1 + k + rest.length) ∨
      (n ≤ 255 - N ∧ n < 256 ∧ bs.length = 1 + rest.length) := by
  cases bs with
  | nil => simp [getVarint] at h
  | cons first r =>
    simp only [getVarint] at h
    have hf := first.toNat_lt
    split at h
    · split at h
      · simp at h
      · rename_i h1 h2
        simp only [Except.ok.injEq, Prod.mk.injEq] at h
        obtain ⟨rfl, rfl⟩ := h
        simp only [short_eq, decide_eq_true_eq, Nat.not_lt] at h2
        have hlt := ofLeBytes_lt (r.take (first.toNat + N - 255))
        rw [List.length_take, Nat.min_eq_left h2] at hlt
        exact .inl ⟨_, by omega, by omega, hlt, by simp only [List.length_cons, List.length_drop]; omega⟩
    · simp only [Except.ok.injEq, Prod.mk.injEq] at h
      obtain ⟨rfl, rfl⟩ := h
      exact .inr ⟨by omega, hf, by simp only [List.length_cons]; omega⟩

/-- The value read is no shorter on the wire than written canonically: it is below `256 ^ k` for the `k` bytes read. -/
theorem getVarint_len {N : Nat} {bs rest : Bytes} {n : Nat} (h : getVarint N bs = .ok (n, rest)) :
    (putVarint N n).length + rest.length ≤ bs.length := by
  rw [putVarint_length]
  rcases getVarint_cases h with ⟨k, _, _, hlt, hl⟩ | ⟨_, hlt, hl⟩
  · have := sigBytes_le hlt
    split <;> (try split) <;> omega
  · have := sigBytes_le (N := 1) hlt
    split <;> (try split) <;> omega

theorem getVarint_ok {N : Nat} {bs rest : Bytes} {n : Nat} (hN1 : 1 ≤ N)
    (h : getVarint N bs = .ok (n, rest)) :
    n < 256 ^ N ∧ (putVarint N n).length + rest.length ≤ bs.length := by
  refine ⟨?_, getVarint_len h⟩
  rcases getVarint_cases h with ⟨k, _, hk, hlt, _⟩ | ⟨_, hlt, _⟩
  · exact Nat.lt_of_lt_of_le hlt (Nat.pow_le_pow_right (by omega) hk)
  · exact Nat.lt_of_lt_of_le (Nat.pow_one 256 ▸ hlt) (Nat.pow_le_pow_right (by omega) hN1)

theorem getVarint_shrink {N : Nat} {bs r : Bytes} {n : Nat} (h : getVarint N bs = .ok (n, r)) :
    r.length < bs.length := by
  have := getVarint_len h; have := putVarint_length_pos N n; omega

theorem zzDec_zzEnc (i : Int) : zzDec (zzEnc i) = i := by
  unfold zzDec zzEnc
  split <;> split <;> omega

theorem zzEnc_zzDec (n : Nat) : zzEnc (zzDec n) = n := by
  unfold zzDec zzEnc
  split <;> split <;> omega

theorem zzEnc_lt {w : Nat} {i : Int} (h1 : -(2 ^ (w - 1) : Int) ≤ i) (h2 : i < (2 ^ (w - 1) : Int))
    (hw : 1 ≤ w) : zzEnc i < 2 ^ w := by
  have : (2 : Int) ^ w = 2 * 2 ^ (w - 1) := by
    rw [show w = (w - 1) + 1 by omega, Int.pow_succ]; simp; omega
  unfold zzEnc
  have h3 : ((2 ^ w : Nat) : Int) = (2 : Int) ^ w := by simp
  split <;> omega

end Aldrin
