/-
Checks in front of a computation in `Except`: from the success of the whole, that no check fired.
-/

namespace Aldrin

theorem guard_eq_ok {ε α : Type} {c : Prop} [Decidable c] {e : ε} {x : Except ε α} {r : α} :
    (if c then .error e else x) = .ok r ↔ ¬ c ∧ x = .ok r := by
  split <;> simp [*]

theorem check_eq_ok {ε α : Type} {c : Prop} [Decidable c] {e : ε} {a r : α} :
    (if c then .ok a else (.error e : Except ε α)) = .ok r ↔ c ∧ a = r := by
  split <;> simp [*]

end Aldrin
