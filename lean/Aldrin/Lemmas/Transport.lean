/-
The stream transport over a scripted I/O object: the slice offered for reading is never empty, flushing conserves the
bytes in order, and `receive_poll` is a run of the packetizer over the pending input (`receive_is_run`).
-/
import Aldrin.Lemmas.Packetizer
namespace Aldrin

/-- The slice handed out is never empty — whatever was done to the packetizer before.
(Holds for the repaired code; `Generated.spareSecondCheckIsElse` is read from the source.) -/
theorem spare_nonempty (p : Pk) (hc : p.buf.length ≤ p.cap) : 0 < p.spareLen := by
  obtain ⟨hb, _, hcap, hne, _⟩ := spare_spec p
  have := hne (by simp [show Generated.spareSecondCheckIsElse = false by decide])
  rw [Pk.spareLen, hb]
  omega

/-- In the situation the transport is in (it has just drained: no complete frame is buffered), the
slice is non-empty for the original shape of the code as well. -/
theorem spare_nonempty_after_drain (p : Pk) (hc : p.buf.length ≤ p.cap)
    (hd : ∀ l, p.len = some l → p.buf.length < l) : 0 < p.spareLen := by
  obtain ⟨hb, _, hcap, hne, hl⟩ := spare_spec p
  rw [Pk.spareLen, hb]
  cases hp : p.len with
  | none => have := hne (by simp [hp]); omega
  | some l => have := hl l hp (hd l hp); omega

theorem spare_cap (p : Pk) (hc : p.buf.length ≤ p.cap) : p.spare.buf.length ≤ p.spare.cap := by
  obtain ⟨hb, _, hcap, _⟩ := spare_spec p
  rw [hb]
  omega

theorem flush_conserves (t : Tp) (script : List IoStep) :
    (t.flush script).1.written ++ (t.flush script).1.wbuf = t.written ++ t.wbuf ∧
    (t.flush script).1.pk = t.pk ∧ (t.flush script).1.inp = t.inp ∧
    (∀ u, (t.flush script).2.1 = .ready u → (t.flush script).1.wbuf = []) := by
  fun_induction Tp.flush t script <;> simp_all [List.isEmpty_iff]

theorem flush_write_zero (t : Tp) (s : List IoStep) (h : t.wbuf ≠ []) :
    (t.flush (.ok 0 :: s)).2.1 = .err .writeZero := by
  simp [Tp.flush, List.isEmpty_iff, h]

theorem pollReady_conserves (t : Tp) (script : List IoStep) :
    (t.pollReady script).1.written ++ (t.pollReady script).1.wbuf = t.written ++ t.wbuf := by
  unfold Tp.pollReady
  split
  · exact (flush_conserves t script).1
  · rfl

theorem take_min_length {α : Type} (l : List α) (a : Nat) : l.take (min a l.length) = l.take a := by
  rcases Nat.le_total a l.length with h | h
  · rw [Nat.min_eq_left h]
  · rw [Nat.min_eq_right h, List.take_of_length_le h, List.take_of_length_le (Nat.le_refl _)]

theorem drop_min_length {α : Type} (l : List α) (a : Nat) : l.drop (min a l.length) = l.drop a := by
  rcases Nat.le_total a l.length with h | h
  · rw [Nat.min_eq_left h]
  · rw [Nat.min_eq_right h, List.drop_of_length_le h, List.drop_of_length_le (Nat.le_refl _)]

theorem run_append (r : PkRun) (a b : List PkOp) : r.run (a ++ b) = (r.run a).run b := by
  simp [PkRun.run, List.foldl_append]

def resOut (out : List Bytes) : Poll Bytes → List Bytes
  | .ready f => out ++ [f]
  | _ => out

theorem receive_is_run (t : Tp) (script : List IoStep) (out : List Bytes) (e : Bool) :
    ∃ ops, ((PkRun.mk t.pk t.inp out e).run ops).pk = (t.receive script).1.pk ∧
      ((PkRun.mk t.pk t.inp out e).run ops).unfed = (t.receive script).1.inp ∧
      ((PkRun.mk t.pk t.inp out e).run ops).out = resOut out (t.receive script).2.1 ∧
      (t.receive script).1.wbuf = t.wbuf ∧ (t.receive script).1.written = t.written := by
  fun_induction Tp.receive t script generalizing out e
  case case5 t0 s pk hn n hk ih =>
    obtain ⟨ops, h1, h2, h3, h4, h5⟩ := ih out (e || pk.spareLen == 0)
    refine ⟨[.drain, .fill (min n t0.inp.length)] ++ ops, ?_⟩
    rw [run_append]
    have hstep : (PkRun.mk t0.pk t0.inp out e).run [.drain, .fill (min n t0.inp.length)]
        = PkRun.mk (pk.written (t0.inp.take (min n t0.inp.length)))
            (t0.inp.drop (min n t0.inp.length)) out (e || pk.spareLen == 0) := by
      simp only [PkRun.run, List.foldl_cons, List.foldl_nil, PkRun.step, hn]
    rw [hstep]
    exact ⟨h1, h2, h3, h4, h5⟩
  all_goals exact ⟨[.drain], by simp_all [PkRun.run, PkRun.step, resOut]⟩

end Aldrin
