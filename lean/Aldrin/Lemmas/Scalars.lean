/-
The leaves of the value codec: the kind table (`classify` against `Kind.b`, with and without the kinds of protocol 1.20),
integers, keys and fixed-size pieces — each written piece is read back, every written piece is at least one byte, and a
successful read consumes input (`decInt_shrink`, `takeN_ok`).
-/
import Aldrin.Model.WF
import Aldrin.Lemmas.Varint
namespace Aldrin
open Generated

/-- Every kind but the two that have no byte (a set of field ids) is the one `classify` returns for its byte: the
generated kind table is injective on the kinds the model uses. -/
theorem classify_b (k : Kind) (h1 : k ≠ .set1 .field) (h2 : k ≠ .set2 .field) : classify k.b = some k := by
  cases k with
  | int t => cases t <;> decide
  | fixed f => cases f <;> decide
  | map1 kt | map2 kt => cases kt with
    | int t => cases t <;> decide
    | _ => decide
  | set1 kt => cases kt with
    | int t => cases t <;> decide
    | field => exact absurd rfl h1
    | _ => decide
  | set2 kt => cases kt with
    | int t => cases t <;> decide
    | field => exact absurd rfl h2
    | _ => decide
  | _ => decide

theorem classify_sound {b : UInt8} {k : Kind} (h : classify b = some k) : k.byte = some b := by
  unfold classify at h
  have := List.find?_some h
  simpa using this

theorem classify_has_byte {b : UInt8} {k : Kind} (h : classify b = some k) : k.byte ≠ none := by
  rw [classify_sound h]; nofun

theorem classify_b_of {b : UInt8} {k : Kind} (h : classify b = some k) : k.b = b := by
  simp [Kind.b, classify_sound h]

theorem classifyC_b (cfg : DecCfg) (k : Kind) (hv : k.isV2 = true → cfg.v2 = true) (h1 : k ≠ .set1 .field)
    (h2 : k ≠ .set2 .field) : classifyC cfg k.b = some k := by
  unfold classifyC
  rw [classify_b k h1 h2]
  cases hk : k.isV2
  · simp [hk]
  · simp [hk, hv hk]

theorem classifyC_v1 (cfg : DecCfg) {k : Kind} (hv : k.isV2 = false) (h1 : k ≠ .set1 .field := by nofun)
    (h2 : k ≠ .set2 .field := by nofun) : classifyC cfg k.b = some k :=
  classifyC_b cfg k (by rw [hv]; nofun) h1 h2

theorem classifyC_v2 {cfg : DecCfg} (hc : cfg.v2 = true) {k : Kind} (h1 : k ≠ .set1 .field := by nofun)
    (h2 : k ≠ .set2 .field := by nofun) : classifyC cfg k.b = some k :=
  classifyC_b cfg k (fun _ => hc) h1 h2

@[simp] theorem std_utf8 : DecCfg.std.utf8 = true := rfl
@[simp] theorem lax_utf8 : DecCfg.lax.utf8 = false := rfl
@[simp] theorem legacy_utf8 : DecCfg.legacy.utf8 = true := rfl
@[simp] theorem std_v2 : DecCfg.std.v2 = true := rfl
@[simp] theorem lax_v2 : DecCfg.lax.v2 = true := rfl
@[simp] theorem legacy_v2 : DecCfg.legacy.v2 = false := rfl

theorem classifyC_of_v2 (cfg : DecCfg) (h : cfg.v2 = true) (b : UInt8) : classifyC cfg b = classify b := by
  unfold classifyC
  cases classify b <;> simp [h]

@[simp] theorem classifyC_lax (b : UInt8) : classifyC .lax b = classify b := classifyC_of_v2 _ rfl b

theorem classifyC_some {cfg : DecCfg} {b : UInt8} {k : Kind} (h : classifyC cfg b = some k) :
    classify b = some k ∧ (k.isV2 = true → cfg.v2 = true) := by
  unfold classifyC at h
  cases hc : classify b with
  | none => simp [hc] at h
  | some k' =>
    simp only [hc] at h
    split at h
    · simp at h
    · rename_i hn
      simp at h; subst h
      refine ⟨rfl, ?_⟩
      intro hk; simp [hk] at hn; exact hn

theorem some_ne_none_b : Kind.some.b ≠ Kind.none.b := by decide

theorem maxDepth_eq : maxValueDepth = 32 := by decide

/-! Integers. `decInt`/`encInt` have two shapes, not eight: one raw byte (`u8`, `i8`), or a varint of `t.bytes`
bytes holding the value itself or, for the signed types, its zig-zag image (`toWire`/`ofWire`). -/

theorem pow_bytes (t : IntTy) : (2 : Int) ^ (8 * t.bytes) = ((256 ^ t.bytes : Nat) : Int) := by
  cases t <;> decide

def IntTy.toWire (t : IntTy) (i : Int) : Nat := if t.signed then zzEnc i else i.toNat
def IntTy.ofWire (t : IntTy) (n : Nat) : Int := if t.signed then zzDec n else (n : Int)

theorem decInt_wide {t : IntTy} (h : 1 < t.bytes) (bs : Bytes) :
    decInt t bs = match getVarint t.bytes bs with
      | .error e => .error e
      | .ok (n, r) => .ok (t.ofWire n, r) := by
  cases t <;> first | rfl | exact absurd h (by decide)

theorem encInt_wide {t : IntTy} (h : 1 < t.bytes) (i : Int) : encInt t i = putVarint t.bytes (t.toWire i) := by
  cases t <;> first | rfl | exact absurd h (by decide)

theorem IntTy.bytes_le (t : IntTy) : t.bytes ≤ 8 := by cases t <;> decide

theorem IntTy.byte_or_wide (t : IntTy) : t = .u8 ∨ t = .i8 ∨ 1 < t.bytes := by cases t <;> decide

theorem toWire_lt {t : IntTy} {i : Int} (h : t.inRange i) : t.toWire i < 256 ^ t.bytes := by
  have hb : 1 ≤ 8 * t.bytes := by cases t <;> decide
  have hp : (256 : Nat) ^ t.bytes = 2 ^ (8 * t.bytes) := by rw [Nat.pow_mul]
  unfold IntTy.inRange at h
  unfold IntTy.toWire
  split <;> simp only [*, reduceIte] at h
  · rw [hp]; exact zzEnc_lt h.1 h.2 hb
  · rw [pow_bytes t] at h; exact (Int.toNat_lt h.1).mpr h.2

theorem ofWire_toWire {t : IntTy} {i : Int} (h : t.inRange i) : t.ofWire (t.toWire i) = i := by
  unfold IntTy.inRange at h
  unfold IntTy.toWire IntTy.ofWire
  split <;> simp only [*, reduceIte] at h
  · exact zzDec_zzEnc i
  · exact Int.toNat_of_nonneg h.1

theorem ofWire_inRange {t : IntTy} {n : Nat} (h : n < 256 ^ t.bytes) : t.inRange (t.ofWire n) := by
  have hb : 1 ≤ 8 * t.bytes := by cases t <;> decide
  have hp := pow_bytes t
  have h2 : (2 : Int) ^ (8 * t.bytes) = 2 * 2 ^ (8 * t.bytes - 1) := by
    rw [show 8 * t.bytes = (8 * t.bytes - 1) + 1 by omega, Int.pow_succ]; simp; omega
  unfold IntTy.inRange IntTy.ofWire
  split
  · unfold zzDec; split <;> omega
  · omega

theorem decInt_encInt (t : IntTy) (i : Int) (h : t.inRange i) (rest : Bytes) :
    decInt t (encInt t i ++ rest) = .ok (i, rest) := by
  have e : (UInt8.ofNat (i % 256).toNat).toNat = (i % 256).toNat := by
    simp [UInt8.toNat_ofNat']; omega
  rcases t.byte_or_wide with rfl | rfl | hw
  · simp [IntTy.inRange, IntTy.signed, IntTy.bytes] at h
    simp only [encInt, decInt, List.cons_append, List.nil_append, e]
    congr 2; omega
  · simp [IntTy.inRange, IntTy.signed, IntTy.bytes] at h
    simp only [encInt, decInt, List.cons_append, List.nil_append, e]
    congr 2; split <;> omega
  · rw [decInt_wide hw, encInt_wide hw, getVarint_putVarint _ _ (by omega) t.bytes_le (toWire_lt h)]
    simp only [ofWire_toWire h]

theorem decInt_shrink {t : IntTy} {bs r : Bytes} {i : Int} (h : decInt t bs = .ok (i, r)) :
    r.length < bs.length := by
  rcases t.byte_or_wide with rfl | rfl | hw
  iterate 2 cases bs <;> cases h; exact Nat.lt_succ_self _
  rw [decInt_wide hw] at h
  split at h <;> cases h
  exact getVarint_shrink ‹_›

theorem take_append_len {α} (a b : List α) : (a ++ b).take a.length = a := by simp
theorem drop_append_len {α} (a b : List α) : (a ++ b).drop a.length = b := by simp

theorem takeN_append (a rest : Bytes) : takeN a.length (a ++ rest) = .ok (a, rest) := by
  simp [takeN]

theorem takeN_append' (a rest : Bytes) (n : Nat) (h : a.length = n) :
    takeN n (a ++ rest) = .ok (a, rest) := by
  subst h; exact takeN_append a rest

theorem takeN_ok {k : Nat} {bs s r : Bytes} (h : takeN k bs = .ok (s, r)) :
    r.length + k = bs.length ∧ s.length = k ∧ bs = s ++ r := by
  unfold takeN at h
  split at h
  · simp at h
  · rename_i hs
    simp at h hs
    obtain ⟨rfl, rfl⟩ := h
    simp; omega

theorem getVarint4_putVarint {n : Nat} (h : n ≤ u32Max) (rest : Bytes) :
    getVarint 4 (putVarint 4 n ++ rest) = .ok (n, rest) :=
  getVarint_putVarint 4 n (by decide) (by decide) (by unfold u32Max at h; omega) rest

theorem decKey_encKey (utf8 : Bool) (kt : KeyTy) (k : Key) (h : KeyWF kt k) (rest : Bytes) :
    decKey utf8 kt (encKey kt k ++ rest) = .ok (k, rest) := by
  cases kt <;> cases k <;> simp only [KeyWF] at h <;> simp only [encKey, decKey, List.append_assoc]
  · simp only [decInt_encInt _ _ h]
  · simp only [getVarint4_putVarint h.1, takeN_append, h.2, Bool.not_true, Bool.and_false, Bool.false_eq_true,
      reduceIte]
  · simp only [takeN_append' _ rest 16 h]
  · simp only [getVarint4_putVarint (Int.toNat_le.mpr h.2), Int.toNat_of_nonneg h.1]

theorem encInt_length_pos (t : IntTy) (i : Int) : 0 < (encInt t i).length := by
  cases t <;> simp [encInt, putVarint_length_pos]

theorem encKey_length_pos {kt : KeyTy} {k : Key} (h : KeyWF kt k) : 0 < (encKey kt k).length := by
  cases kt <;> cases k <;> simp [KeyWF] at h <;>
    simp [encKey, encInt_length_pos, putVarint_length_pos]
  · have := putVarint_length_pos 4 (List.length ‹Bytes›); omega
  · omega

theorem encKeys_length (ep : Epoch) (kt : KeyTy) : ∀ (ks : List Key), (∀ k ∈ ks, KeyWF kt k) →
    ks.length ≤ (encKeys ep kt ks).length
  | [], _ => by simp
  | k :: ks, h => by
    have := encKey_length_pos (h k (by simp))
    have ih := encKeys_length ep kt ks (fun k' hk' => h k' (by simp [hk']))
    cases ep <;> simp [encKeys] <;> omega

theorem encRaw_length_pos (ep : Epoch) (v : Value) : 0 < (encRaw ep v).length := by
  cases v <;> cases ep <;> simp [encRaw]
  split <;> simp

end Aldrin
