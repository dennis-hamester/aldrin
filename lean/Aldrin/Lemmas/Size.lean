import Aldrin.Lemmas.DecInduct
namespace Aldrin
open Generated

/-! No amplification: the decoded structure is never larger than the input it was read from (`dec_size_all`).
`size` counts every node once plus every payload byte, which bounds what has to be allocated. Every value has a positive
size, so what a successful read leaves is shorter than its input (`dec_shrink` and the loops' `*_shrink`, where a counted
loop of no elements reads nothing), and the counted loops return as many elements as announced. -/

def Key.size : Key → Nat
  | .int _ => 1
  | .blob bs => bs.length

def keysSize : List Key → Nat
  | [] => 0
  | k :: ks => k.size + keysSize ks

mutual
def Value.size : Value → Nat
  | .some v => 1 + v.size
  | .fixed _ bs => 1 + bs.length
  | .string bs => 1 + bs.length
  | .bytes bs => 1 + bs.length
  | .vec vs => 1 + sizeList vs
  | .map _ es => 1 + sizeEntries es
  | .set _ ks => 1 + keysSize ks
  | .enum _ v => 1 + v.size
  | _ => 1
def sizeList : List Value → Nat
  | [] => 0
  | v :: vs => v.size + sizeList vs
def sizeEntries : List (Key × Value) → Nat
  | [] => 0
  | (k, v) :: es => k.size + v.size + sizeEntries es
end

theorem size_pos (v : Value) : 1 ≤ v.size := by
  cases v <;> simp only [Value.size] <;> omega

theorem sizeList_ge : ∀ (vs : List Value), vs.length ≤ sizeList vs
  | [] => Nat.le_refl 0
  | v :: vs => by
    have := size_pos v; have := sizeList_ge vs
    simp only [sizeList, List.length_cons]; omega

theorem sizeEntries_ge : ∀ (es : List (Key × Value)), es.length ≤ sizeEntries es
  | [] => Nat.le_refl 0
  | (k, v) :: es => by
    have := size_pos v; have := sizeEntries_ge es
    simp only [sizeEntries, List.length_cons]; omega

theorem decKey_size {utf8 : Bool} {kt : KeyTy} {bs r : Bytes} {k : Key} (h : decKey utf8 kt bs = .ok (k, r)) :
    k.size + r.length ≤ bs.length ∧ r.length < bs.length := by
  cases kt <;> simp only [decKey] at h <;> (repeat' split at h) <;> cases h <;> simp only [Key.size]
  · have := decInt_shrink ‹_›; omega
  · have := getVarint_shrink ‹_›; have := takeN_ok ‹_›; omega
  · have := takeN_ok ‹_›; omega
  · have := getVarint_shrink ‹_›; omega

theorem decKey_shrink {utf8 : Bool} {kt : KeyTy} {bs r : Bytes} {k : Key} (h : decKey utf8 kt bs = .ok (k, r)) :
    r.length < bs.length := (decKey_size h).2

theorem decKeys1_size {utf8 : Bool} {kt : KeyTy} {f n : Nat} {bs : Bytes} {ks : List Key} {r : Bytes} :
    decKeys1 utf8 kt f n bs = .ok (ks, r) →
      keysSize ks + r.length ≤ bs.length ∧ ks.length + r.length ≤ bs.length ∧ ks.length = n := by
  fun_induction decKeys1 utf8 kt f n bs generalizing ks r <;> intro h <;> cases h
  · simp [keysSize]
  · rename_i ih
    have := decKey_size ‹decKey _ _ _ = .ok _›; have := ih ‹decKeys1 _ _ _ _ _ = .ok _›
    simp only [keysSize, List.length_cons]; omega

theorem decKeys2_size {utf8 : Bool} {kt : KeyTy} {f : Nat} {bs : Bytes} {ks : List Key} {r : Bytes} :
    decKeys2 utf8 kt f bs = .ok (ks, r) →
      keysSize ks + r.length < bs.length ∧ ks.length + r.length < bs.length := by
  fun_induction decKeys2 utf8 kt f bs generalizing ks r <;> intro h <;> cases h
  · simp only [keysSize, List.length_cons, List.length_nil]; omega
  · rename_i ih
    have := decKey_size ‹decKey _ _ _ = .ok _›; have := ih ‹decKeys2 _ _ _ _ = .ok _›
    simp only [keysSize, List.length_cons]; omega

theorem decKeys1_length {utf8 : Bool} {kt : KeyTy} {f n : Nat} {bs : Bytes} {ks : List Key} {r : Bytes}
    (h : decKeys1 utf8 kt f n bs = .ok (ks, r)) : ks.length = n := (decKeys1_size h).2.2
theorem decKeys1_count {utf8 : Bool} {kt : KeyTy} {f n : Nat} {bs : Bytes} {ks : List Key} {r : Bytes}
    (h : decKeys1 utf8 kt f n bs = .ok (ks, r)) : ks.length + r.length ≤ bs.length := (decKeys1_size h).2.1
theorem decKeys2_count {utf8 : Bool} {kt : KeyTy} {f : Nat} {bs : Bytes} {ks : List Key} {r : Bytes}
    (h : decKeys2 utf8 kt f bs = .ok (ks, r)) : ks.length + r.length < bs.length := (decKeys2_size h).2

theorem decChunks_size {f : Nat} {bs s r : Bytes} :
    decChunks f bs = .ok (s, r) → s.length + r.length < bs.length := by
  fun_induction decChunks f bs generalizing s r <;> intro h <;> cases h
  · have := getVarint_shrink ‹getVarint _ _ = .ok _›; simpa using this
  · rename_i ih
    have := getVarint_shrink ‹getVarint _ _ = .ok _›; have := ih ‹decChunks _ _ = .ok _›
    have hs := ‹¬ short _ _ = true›
    simp only [short_eq, decide_eq_true_eq] at hs
    simp only [List.length_append, List.length_take, List.length_drop] at this ⊢; omega

theorem dec_size_all (cfg : DecCfg) (f : Nat) : DecOk cfg f
    (fun _ bs _ v r => v.size + r.length ≤ bs.length)
    (fun _ _ bs _ es r => sizeEntries es + r.length < bs.length)
    (fun _ bs _ vs r => sizeList vs + r.length < bs.length)
    (fun _ _ n bs _ es r => sizeEntries es + r.length ≤ bs.length ∧ es.length = n)
    (fun _ n bs _ vs r => sizeList vs + r.length ≤ bs.length ∧ vs.length = n) := by
  apply dec_ok_induct cfg
  constructor
  case entries1_nil | elems1_nil => intros; exact ⟨Nat.le_of_eq (Nat.zero_add _), rfl⟩
  all_goals (intros; simp only [Value.size, sizeList, sizeEntries, List.length_cons])
  case int h => have := decInt_shrink h; omega
  case fixed h => have := takeN_ok h; omega
  case string hg ht _ => have := getVarint_shrink hg; have := takeN_ok ht; omega
  case bytes1 hg hs =>
    have := getVarint_shrink hg
    simp only [short_eq, decide_eq_true_eq] at hs
    simp only [List.length_take, List.length_drop]; omega
  case set1 hg hk => have := getVarint_shrink hg; have := (decKeys1_size hk).1; omega
  case vec1 hg _ _ | map1 hg _ _ | enum hg _ _ => have := getVarint_shrink hg; omega
  case bytes2 h => have := decChunks_size h; omega
  case set2 h => have := (decKeys2_size h).1; omega
  case entries2_cons hk _ _ _ _ | entries1_cons hk _ _ _ _ => have := decKey_size hk; omega
  all_goals omega

theorem dec_size {cfg : DecCfg} {f : Nat} {bs : Bytes} {d : Nat} {v : Value} {r : Bytes}
    (h : dec cfg f bs d = .ok (v, r)) : v.size + r.length ≤ bs.length :=
  (dec_size_all cfg f).value h

theorem dec_shrink {cfg : DecCfg} {f : Nat} {bs : Bytes} {d : Nat} {v : Value} {r : Bytes}
    (h : dec cfg f bs d = .ok (v, r)) : r.length < bs.length := by
  have := dec_size h; have := size_pos v; omega
theorem decEntries2_shrink {cfg : DecCfg} {kt : KeyTy} {f : Nat} {bs : Bytes} {d : Nat} {v : List (Key × Value)} {r : Bytes}
    (h : decEntries2 cfg kt f bs d = .ok (v, r)) : r.length < bs.length := by
  have := (dec_size_all cfg f).entries2 h; omega
theorem decElems2_shrink {cfg : DecCfg} {f : Nat} {bs : Bytes} {d : Nat} {v : List Value} {r : Bytes}
    (h : decElems2 cfg f bs d = .ok (v, r)) : r.length < bs.length := by
  have := (dec_size_all cfg f).elems2 h; omega
theorem decEntries1_shrink {cfg : DecCfg} {kt : KeyTy} {f n : Nat} {bs : Bytes} {d : Nat} {v : List (Key × Value)} {r : Bytes}
    (h : decEntries1 cfg kt f n bs d = .ok (v, r)) : r.length ≤ bs.length := by
  have := ((dec_size_all cfg f).entries1 h).1; omega
theorem decElems1_shrink {cfg : DecCfg} {f n : Nat} {bs : Bytes} {d : Nat} {v : List Value} {r : Bytes}
    (h : decElems1 cfg f n bs d = .ok (v, r)) : r.length ≤ bs.length := by
  have := ((dec_size_all cfg f).elems1 h).1; omega

theorem decElems1_length {cfg : DecCfg} {f n : Nat} {bs : Bytes} {d : Nat} {vs : List Value} {r : Bytes}
    (h : decElems1 cfg f n bs d = .ok (vs, r)) : vs.length = n := ((dec_size_all cfg f).elems1 h).2
theorem decEntries1_length {cfg : DecCfg} {kt : KeyTy} {f n : Nat} {bs : Bytes} {d : Nat} {es : List (Key × Value)} {r : Bytes}
    (h : decEntries1 cfg kt f n bs d = .ok (es, r)) : es.length = n := ((dec_size_all cfg f).entries1 h).2

theorem decElems1_count {cfg : DecCfg} {f n : Nat} {bs : Bytes} {d : Nat} {vs : List Value} {r : Bytes}
    (h : decElems1 cfg f n bs d = .ok (vs, r)) : vs.length + r.length ≤ bs.length := by
  have := ((dec_size_all cfg f).elems1 h).1; have := sizeList_ge vs; omega
theorem decEntries1_count {cfg : DecCfg} {kt : KeyTy} {f n : Nat} {bs : Bytes} {d : Nat} {es : List (Key × Value)} {r : Bytes}
    (h : decEntries1 cfg kt f n bs d = .ok (es, r)) : es.length + r.length ≤ bs.length := by
  have := ((dec_size_all cfg f).entries1 h).1; have := sizeEntries_ge es; omega
theorem decElems2_count {cfg : DecCfg} {f : Nat} {bs : Bytes} {d : Nat} {vs : List Value} {r : Bytes}
    (h : decElems2 cfg f bs d = .ok (vs, r)) : vs.length + r.length < bs.length := by
  have := (dec_size_all cfg f).elems2 h; have := sizeList_ge vs; omega
theorem decEntries2_count {cfg : DecCfg} {kt : KeyTy} {f : Nat} {bs : Bytes} {d : Nat} {es : List (Key × Value)} {r : Bytes}
    (h : decEntries2 cfg kt f bs d = .ok (es, r)) : es.length + r.length < bs.length := by
  have := (dec_size_all cfg f).entries2 h; have := sizeEntries_ge es; omega

end Aldrin
