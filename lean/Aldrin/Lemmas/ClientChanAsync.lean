/-
The three parties of a channel with messages in flight (`ASys`): for every schedule — every interleaving of what the two
applications do with the four message queues moving — the counts agree once what is in flight is added in, nothing
panics and the broker refuses nothing.
-/
import Aldrin.Lemmas.ClientChan
import Aldrin.Lemmas.Broker.Chan

namespace Aldrin.ClientChan
open Aldrin.Broker Generated

structure AInv (s : ASys) : Prop where
  ex : ∃ sc rc, s.chan = ⟨.claimed sid sc, .claimed rid rc⟩ ∧
    sc = s.snd.capacity + s.snd.queue.sum + s.bs.sum + s.sb ∧
    s.rcv.cur = rc + s.rb.sum + s.rcv.items + s.br ∧
    sc ≤ rc ∧ (sc ≤ lowCapacity → sc = rc)
  curPos : 0 < s.rcv.cur
  curLe : s.rcv.cur ≤ s.rcv.max
  maxLe : s.rcv.max ≤ u32Max

theorem AInv.ofSys {s : Sys} (h : Inv s) : AInv (ASys.ofSys s) := by
  obtain ⟨⟨sc, rc, hc, hs, hr, hle, hlow⟩, hpos, hcur, hmax⟩ := h
  exact ⟨⟨sc, rc, hc, by simp [ASys.ofSys]; omega, by simp [ASys.ofSys]; omega, hle, hlow⟩, hpos, hcur, hmax⟩

theorem Inv.ofASys {s : Sys} (h : AInv (ASys.ofSys s)) : Inv s := by
  obtain ⟨⟨sc, rc, hc, hs, hr, hcr⟩, hpos, hcur, hmax⟩ := h
  simp only [ASys.ofSys, List.sum_nil, Nat.add_zero] at hs hr
  exact ⟨⟨sc, rc, hc, hs.symm, hr, hcr⟩, hpos, hcur, hmax⟩

theorem sum_toList (o : Option Nat) : o.toList.sum = o.getD 0 := by cases o <;> rfl

theorem astep_inv {s : ASys} (h : AInv s) (op : AOp) : ∃ s' o, astep s op = .ok (s', o) ∧ AInv s' ∧ o ≠ .cutOff := by
  obtain ⟨⟨sc, rc, hc, hs, hr, hcr⟩, hpos, hcur, hmax⟩ := h
  obtain ⟨⟨cap, q⟩, chan, ⟨max, cur, items⟩, sb, br, rb, bs⟩ := s
  dsimp only at hc hs hr hpos hcur hmax
  cases op with
  | app op =>
    cases op with
    | ready => exact ⟨_, _, rfl, ⟨⟨sc, rc, hc, by simpa using hs, hr, hcr⟩, hpos, hcur, hmax⟩, by simp⟩
    | pollClosed => exact ⟨_, _, rfl, ⟨⟨sc, rc, hc, by simpa using hs, hr, hcr⟩, hpos, hcur, hmax⟩, by simp⟩
    | send =>
      by_cases h0 : cap + q.sum = 0
      · simp only [astep, drain_capacity, h0, ↓reduceIte]
        exact ⟨_, _, rfl, ⟨⟨sc, rc, hc, by simpa using hs, hr, hcr⟩, hpos, hcur, hmax⟩, by simp⟩
      · simp only [astep, drain_capacity, h0, ↓reduceIte]
        refine ⟨_, _, rfl, ⟨⟨sc, rc, hc, ?_, hr, hcr⟩, hpos, hcur, hmax⟩, by simp⟩
        simp only [drain_queue, List.sum_nil]; omega
    | take =>
      cases items with
      | zero =>
        have hcur0 : cur ≠ 0 := by omega
        have hngt : ¬ cur > max := by omega
        simp only [astep, hcur0, hngt, ↓reduceIte]
        exact ⟨_, _, rfl, ⟨⟨sc, rc, hc, hs, hr, hcr⟩, hpos, hcur, hmax⟩, by simp⟩
      | succ items =>
        cases cur with
        | zero => cases hpos
        | succ cur =>
          have hngt : ¬ cur + 1 > max := by omega
          simp only [astep, Nat.add_one_ne_zero, hngt, ↓reduceIte, Nat.add_sub_cancel]
          by_cases hl : cur ≤ clientLowCapacity
          · -- the receiver tops up to its maximum
            generalize hg : max - cur = g
            have hg : cur + g = max := by omega
            have hdiff : ¬ g < 1 := by omega
            have hafter : ¬ (cur + g = 0 ∨ cur + g > max) := by omega
            simp only [hl, hdiff, ↓reduceIte, hafter]
            refine ⟨_, _, rfl, ⟨⟨sc, rc, hc, hs, ?_, hcr⟩, ?_, ?_, hmax⟩, by simp⟩
            · simp only [List.sum_append, List.sum_cons, List.sum_nil]; omega
            · dsimp only; omega
            · dsimp only; omega
          · have hafter : ¬ (cur = 0 ∨ cur > max) := by omega
            simp only [hl, ↓reduceIte, hafter]
            refine ⟨_, _, rfl, ⟨⟨sc, rc, hc, hs, ?_, hcr⟩, ?_, ?_, hmax⟩, by simp⟩
            · dsimp only; omega
            · dsimp only; omega
            · dsimp only; omega
  | brokerItem =>
    cases sb with
    | zero => exact ⟨_, _, rfl, ⟨⟨sc, rc, hc, hs, hr, hcr⟩, hpos, hcur, hmax⟩, by simp⟩
    | succ sb =>
      obtain ⟨sc', add, hsend, hsc', hcr'⟩ := sendItem_credit (s := sid) (r := rid) hcr (by omega)
      have hrc : rc ≠ 0 := by have := hcr.1; omega
      simp only [astep, Nat.add_one_ne_zero, ↓reduceIte, hc, hsend, Nat.add_sub_cancel]
      refine ⟨_, _, rfl, ⟨⟨sc', rc - 1, rfl, ?_, ?_, hcr'⟩, hpos, hcur, hmax⟩, by simp⟩
      · simp only [List.sum_append, sum_toList]; omega
      · dsimp only; omega
  | brokerGrant =>
    cases rb with
    | nil => exact ⟨_, _, rfl, ⟨⟨sc, rc, hc, hs, hr, hcr⟩, hpos, hcur, hmax⟩, by simp⟩
    | cons g rest =>
      simp only [List.sum_cons] at hr
      obtain ⟨sc', fwd, hadd, hsc', hcr'⟩ := addCapacity_credit (s := sid) (r := rid) (g := g) hcr (by omega)
      simp only [astep, hc, hadd]
      refine ⟨_, _, rfl, ⟨⟨sc', rc + g, rfl, ?_, ?_, hcr'⟩, hpos, hcur, hmax⟩, by simp⟩
      · simp only [List.sum_append, sum_toList]; omega
      · dsimp only; omega
  | deliverItem =>
    cases br with
    | zero => exact ⟨_, _, rfl, ⟨⟨sc, rc, hc, hs, hr, hcr⟩, hpos, hcur, hmax⟩, by simp⟩
    | succ br =>
      refine ⟨_, _, rfl, ⟨⟨sc, rc, hc, hs, ?_, hcr⟩, hpos, hcur, hmax⟩, by simp⟩
      dsimp only; omega
  | deliverAnn =>
    cases bs with
    | nil => exact ⟨_, _, rfl, ⟨⟨sc, rc, hc, hs, hr, hcr⟩, hpos, hcur, hmax⟩, by simp⟩
    | cons a rest =>
      refine ⟨_, _, rfl, ⟨⟨sc, rc, hc, ?_, hr, hcr⟩, hpos, hcur, hmax⟩, by simp⟩
      simp only [List.sum_cons, List.sum_append, List.sum_nil] at hs ⊢; omega

theorem arun_inv {s : ASys} (h : AInv s) (ops : List AOp) : ∃ s' os, arun s ops = .ok (s', os) ∧ AInv s' ∧ .cutOff ∉ os := by
  induction ops generalizing s with
  | nil => exact ⟨s, [], rfl, h, by simp⟩
  | cons op ops ih =>
    obtain ⟨s1, o, h1, hi1, ho⟩ := astep_inv h op
    obtain ⟨s2, os, h2, hi2, hos⟩ := ih hi1
    refine ⟨s2, o :: os, by simp [arun, h1, h2], hi2, ?_⟩
    simp only [List.mem_cons, not_or]
    exact ⟨fun e => ho e.symm, hos⟩

theorem AInv.outstanding_le {s : ASys} (h : AInv s) : s.rcv.items + s.br ≤ s.rcv.max := by
  obtain ⟨⟨sc, rc, hc, hs, hr, hle, hlow⟩, hpos, hcur, hmax⟩ := h
  omega

theorem AInv.ready_at_rest {s : ASys} (h : AInv s) (h1 : s.sb = 0) (h2 : s.br = 0) (h3 : s.rb = []) (h4 : s.bs = [])
    (hi : s.rcv.items = 0) : 0 < s.snd.drain.capacity := by
  obtain ⟨⟨sc, rc, hc, hs, hr, hle, hlow⟩, hpos, hcur, hmax⟩ := h
  simp only [drain_capacity]
  simp only [h1, h2, h3, h4, hi, List.sum_nil] at hs hr
  have : lowCapacity = 4 := rfl
  by_cases hl : sc ≤ lowCapacity
  · have := hlow hl; omega
  · omega

theorem ready_of_caught_up {s : Sys} (h : Inv s) (hi : s.rcv.items = 0) : 0 < s.snd.drain.capacity :=
  (AInv.ofSys h).ready_at_rest rfl rfl rfl rfl hi

end Aldrin.ClientChan
