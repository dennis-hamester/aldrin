/-
Producer, broker and consumer of one established channel agree on the capacity, for every schedule of sends, takes
and polls: what the sender believes it may send (its `capacity` plus the announcements still in its queue) is the
broker's credit of the sender; what the receiver still has (`cur_capacity`) is the broker's credit of the receiver
plus the items it has not taken yet. Hence no `debug_assert!` of `Sender` / `Receiver` fails, the broker never refuses
an item or a grant, and a sender whose receiver has taken every item may send.

Here: the invariant of the system at rest and the count of waiting items. That a step keeps the invariant follows from
the system with messages in flight (`ClientChanAsync.lean`) through the refinement (`ClientChanRefine.lean`).
-/
import Aldrin.Model.ClientChan
import Aldrin.Lemmas.Guard

namespace Aldrin.ClientChan
open Aldrin.Broker Generated

structure Inv (s : Sys) : Prop where
  ex : ∃ sc rc, s.chan = ⟨.claimed sid sc, .claimed rid rc⟩ ∧
    s.snd.capacity + s.snd.queue.sum = sc ∧ s.rcv.cur = rc + s.rcv.items ∧
    sc ≤ rc ∧ (sc ≤ lowCapacity → sc = rc)
  curPos : 0 < s.rcv.cur
  curLe : s.rcv.cur ≤ s.rcv.max
  maxLe : s.rcv.max ≤ u32Max

theorem init_inv {max : Nat} (h1 : 0 < max) (h2 : max ≤ u32Max) : Inv (init max) := by
  refine ⟨⟨max, max, rfl, ?_, ?_, Nat.le_refl _, fun _ => rfl⟩, h1, Nat.le_refl _, h2⟩ <;> simp [init]

@[simp] theorem drain_capacity (s : Sender) : s.drain.capacity = s.capacity + s.queue.sum := rfl
@[simp] theorem drain_queue (s : Sender) : s.drain.queue = [] := rfl

theorem step_items {s s' : Sys} {op : Op} {o : Obs} (h : step s op = .ok (s', o)) :
    s'.rcv.items + (if o = .item then 1 else 0) = s.rcv.items + (if o = .sent then 1 else 0) ∧ s'.rcv.max = s.rcv.max := by
  cases op with
  | ready => cases h; dsimp only; split <;> exact ⟨rfl, rfl⟩
  | pollClosed => cases h; exact ⟨rfl, rfl⟩
  | send =>
    simp only [step] at h
    split at h
    · cases h; exact ⟨rfl, rfl⟩
    · split at h <;> cases h <;> exact ⟨rfl, rfl⟩
  | take =>
    simp only [step, guard_eq_ok] at h
    obtain ⟨_, _, h⟩ := h
    split at h
    · cases h; exact ⟨rfl, rfl⟩
    · split at h <;> simp only [guard_eq_ok] at h
      · split at h
        · cases h.2
        · cases h.2; exact ⟨rfl, rfl⟩
        · simp only [guard_eq_ok] at h; cases h.2.2
          refine ⟨?_, rfl⟩
          simp only [reduceCtorEq, ↓reduceIte]; omega
      · cases h.2
        refine ⟨?_, rfl⟩
        simp only [reduceCtorEq, ↓reduceIte]; omega

theorem run_max {s s' : Sys} {ops : List Op} {os : List Obs} (h : run s ops = .ok (s', os)) : s'.rcv.max = s.rcv.max := by
  induction ops generalizing s os with
  | nil => cases h; rfl
  | cons op ops ih =>
    simp only [run] at h
    split at h
    · cases h
    · split at h <;> cases h
      exact (ih ‹_›).trans (step_items ‹_›).2

def count (x : Obs) (os : List Obs) : Nat := (os.filter (· = x)).length

theorem count_cons (x o : Obs) (os : List Obs) : count x (o :: os) = (if o = x then 1 else 0) + count x os := by
  simp only [count, List.filter_cons, decide_eq_true_eq]
  split <;> simp [Nat.add_comm]

theorem run_items {s s' : Sys} {ops : List Op} {os : List Obs} (h : run s ops = .ok (s', os)) :
    s'.rcv.items + count .item os = s.rcv.items + count .sent os := by
  induction ops generalizing s os with
  | nil => cases h; rfl
  | cons op ops ih =>
    simp only [run] at h
    split at h
    · cases h
    · rename_i s1 o h1
      split at h <;> cases h
      rename_i h2
      have e1 := (step_items h1).1
      have e2 := ih h2
      rw [count_cons, count_cons]
      omega

end Aldrin.ClientChan
