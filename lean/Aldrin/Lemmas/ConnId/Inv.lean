/-
The allocator of connection ids never hands out an id that is in use, for every history of acquiring and
releasing ids, and neither `debug_assert!` of `Inner::release` can fail.

The invariant is that the ids in use followed by the free list are a permutation of `0, …, next - 1` (`Part`): every
id below `next` is in exactly one of the two places, once. `acquire` (pop the free list, or take `next`) and `release`
(push on the free list, or lower `next`) are then moves inside a permutation.
-/
import Aldrin.Model.ConnId

namespace Aldrin.ConnId

/-- the ids below `next` are exactly those in use and those on the free list, and no id is both or listed twice -/
structure Inv (s : Sys) : Prop where
  heldNd : s.held.Nodup
  freeNd : s.ids.free.Nodup
  disj : ∀ i, i ∈ s.held → i ∉ s.ids.free
  cover : ∀ i, i < s.ids.next ↔ (i ∈ s.held ∨ i ∈ s.ids.free)

theorem Inv.init : Inv {} := by
  constructor <;> simp

def Part (s : Sys) : Prop := (s.held ++ s.ids.free).Perm (List.range s.ids.next)

theorem inv_iff_part (s : Sys) : Inv s ↔ Part s := by
  unfold Part
  constructor
  · intro ⟨h1, h2, h3, h4⟩
    refine (List.perm_ext_iff_of_nodup (List.nodup_append.2 ⟨h1, h2, fun a ha b hb e => h3 a ha (e ▸ hb)⟩) List.nodup_range).2
      fun i => ?_
    rw [List.mem_append, List.mem_range, h4]
  · intro h
    obtain ⟨h1, h2, h3⟩ := List.nodup_append.1 (h.nodup_iff.2 List.nodup_range)
    exact ⟨h1, h2, fun i hi hf => h3 i hi i hf rfl, fun i => by rw [← List.mem_range, ← h.mem_iff, List.mem_append]⟩

theorem Part.acquire {s : Sys} (h : Part s) : Part { ids := s.ids.acquire.2, held := s.ids.acquire.1 :: s.held } := by
  obtain ⟨⟨next, free⟩, held⟩ := s
  cases free with
  | cons id r => exact List.perm_middle.symm.trans h
  | nil =>
    have h : held.Perm (List.range next) := by simpa [Part] using h
    show (next :: held ++ []).Perm (List.range (next + 1))
    rw [List.append_nil, List.range_succ]
    exact (List.perm_append_singleton next held).symm.trans (h.append_right [next])

theorem Part.release {s : Sys} (h : Part s) {id : Nat} (hm : id ∈ s.held) :
    ∃ ids, s.ids.release id = .ok ids ∧ Part { ids := ids, held := s.held.erase id } := by
  have hlt : id < s.ids.next := List.mem_range.1 (h.mem_iff.1 (List.mem_append_left _ hm))
  have hnd := List.nodup_append.1 (h.nodup_iff.2 List.nodup_range)
  have hnf : s.ids.free.contains id = false := by simpa using fun hf => hnd.2.2 id hm id hf rfl
  have he : (s.held ++ s.ids.free).erase id = s.held.erase id ++ s.ids.free := List.erase_append_left _ hm
  unfold Ids.release
  simp only [hlt, not_true_eq_false, ↓reduceIte, hnf, Bool.false_eq_true]
  split
  · -- the top id: the range shrinks by it
    next htop =>
    refine ⟨_, rfl, ?_⟩
    have := h.erase id
    rw [he, ← htop, List.range_succ, List.erase_append_right _ (by simp), List.erase_cons_head, List.append_nil] at this
    simpa [Part, ← htop] using this
  · -- the id goes from the ids in use to the free list
    refine ⟨_, rfl, ?_⟩
    calc List.Perm (s.held.erase id ++ id :: s.ids.free) (id :: (s.held.erase id ++ s.ids.free)) := List.perm_middle
      _ = id :: (s.held ++ s.ids.free).erase id := by rw [he]
      List.Perm _ (s.held ++ s.ids.free) := (List.perm_cons_erase (List.mem_append_left _ hm)).symm
      List.Perm _ (List.range s.ids.next) := h

theorem acquire_fresh {s : Sys} (h : Inv s) : s.ids.acquire.1 ∉ s.held := by
  unfold Ids.acquire
  split
  · next id r hf => exact fun hm => h.disj id hm (hf ▸ List.mem_cons_self)
  · exact fun hm => Nat.lt_irrefl _ ((h.cover _).2 (.inl hm))

theorem acquire_inv {s : Sys} (h : Inv s) :
    Inv { ids := s.ids.acquire.2, held := s.ids.acquire.1 :: s.held } :=
  (inv_iff_part _).2 ((inv_iff_part s).1 h).acquire

theorem release_ok {s : Sys} (h : Inv s) {id : Nat} (hm : id ∈ s.held) :
    ∃ ids, s.ids.release id = .ok ids :=
  let ⟨ids, hr, _⟩ := ((inv_iff_part s).1 h).release hm
  ⟨ids, hr⟩

theorem step_release_held {s s' : Sys} {id : Nat} (h : s.step (.release id) = .ok s') : s'.held = s.held.erase id := by
  simp only [Sys.step] at h
  split at h
  · split at h <;> cases h; rfl
  · cases h; exact (List.erase_of_not_mem ‹_›).symm

theorem step_ok {s : Sys} (h : Inv s) (op : Op) : ∃ s', s.step op = .ok s' ∧ Inv s' := by
  cases op with
  | acquire => exact ⟨_, rfl, acquire_inv h⟩
  | release id =>
    by_cases hm : id ∈ s.held
    · obtain ⟨ids, hr, hp⟩ := ((inv_iff_part s).1 h).release hm
      exact ⟨_, by simp only [Sys.step, hm, ↓reduceIte, hr], (inv_iff_part _).2 hp⟩
    · exact ⟨s, by simp only [Sys.step, hm, ↓reduceIte], h⟩

theorem run_ok {s : Sys} (h : Inv s) (ops : List Op) : ∃ s', s.run ops = .ok s' ∧ Inv s' := by
  induction ops generalizing s with
  | nil => exact ⟨s, rfl, h⟩
  | cons op ops ih =>
    obtain ⟨s1, h1, hi1⟩ := step_ok h op
    obtain ⟨s2, h2, hi2⟩ := ih hi1
    exact ⟨s2, by simp [Sys.run, h1, h2], hi2⟩

end Aldrin.ConnId
