/-
A lifetime bound to a scope (`Model/Lifetime.lean`) ends exactly when the scope is gone: the cookie a scope lived
under is never handed out again (`Bus.apply_gone`), so after the enumeration of what exists (`run_current`) the first
thing that can happen to a living scope is its end (`run_alive`).
-/
import Aldrin.Model.Lifetime
namespace Aldrin.Lifetime

theorem run_ended (target : Nat) (s : LfSt) (evs : List LEv) (h : s.ended = true) : run target s evs = s := by
  induction evs with
  | nil => rfl
  | cons e evs ih => simp only [run, List.foldl_cons, h, ↓reduceIte] at ih ⊢; exact ih

theorem run_append (target : Nat) (s : LfSt) (a b : List LEv) : run target s (a ++ b) = run target (run target s a) b :=
  List.foldl_append ..

theorem Bus.apply_create {b b' : Bus} {ck : Nat} :
    b.apply (.create ck) = some b' ↔ b.alive = none ∧ ck ∉ b.used ∧ b' = { alive := some ck, used := ck :: b.used } := by
  cases b with | mk alive used =>
  cases alive <;> simp [Bus.apply, eq_comm]

theorem Bus.apply_destroy {b b' : Bus} :
    b.apply .destroy = some b' ↔ b.alive.isSome ∧ b' = { b with alive := none } := by
  cases b with | mk alive used =>
  cases alive <;> simp [Bus.apply, eq_comm]

theorem Bus.run_cons {b b' : Bus} {op : BOp} {ops : List BOp} :
    b.run (op :: ops) = some b' ↔ ∃ b1, b.apply op = some b1 ∧ b1.run ops = some b' := by
  rw [Bus.run]
  cases b.apply op <;> simp

theorem Bus.run_preserves {P : Bus → Prop} (hstep : ∀ {b b' op}, b.apply op = some b' → P b → P b') :
    ∀ (ops : List BOp) {b b' : Bus}, b.run ops = some b' → P b → P b' := by
  intro ops
  induction ops with
  | nil => intro b b' h hp; exact Option.some.inj h ▸ hp
  | cons op ops ih =>
    intro b b' h hp
    obtain ⟨_, h1, h2⟩ := Bus.run_cons.mp h
    exact ih h2 (hstep h1 hp)

def Bus.WF (b : Bus) : Prop := ∀ ck, b.alive = some ck → ck ∈ b.used

theorem Bus.apply_wf {b b' : Bus} {op : BOp} (h : b.apply op = some b') : b'.WF := by
  cases op with
  | create ck =>
    obtain ⟨_, _, rfl⟩ := Bus.apply_create.mp h
    intro c hc; cases hc; exact List.mem_cons_self
  | destroy =>
    obtain ⟨_, rfl⟩ := Bus.apply_destroy.mp h
    exact nofun

def Bus.Gone (t : Nat) (b : Bus) : Prop := t ∈ b.used ∧ b.alive ≠ some t

theorem Bus.apply_gone {t : Nat} {b b' : Bus} {op : BOp} (h : b.apply op = some b') (hg : b.Gone t) : b'.Gone t := by
  cases op with
  | create ck =>
    obtain ⟨_, hck, rfl⟩ := Bus.apply_create.mp h
    exact ⟨List.mem_cons_of_mem _ hg.1, fun e => hck (Option.some.inj e ▸ hg.1)⟩
  | destroy =>
    obtain ⟨_, rfl⟩ := Bus.apply_destroy.mp h
    exact ⟨hg.1, nofun⟩

theorem run_alive (t : Nat) (b b' : Bus) (ops : List BOp) (hb : b.alive = some t) (hu : t ∈ b.used)
    (hr : b.run ops = some b') :
    (run t { found := true, ended := false } (eventsFrom b ops)).ended = true ↔ b'.alive ≠ some t := by
  cases ops with
  | nil => cases hr; exact ⟨nofun, fun h => absurd hb h⟩
  | cons op ops =>
    obtain ⟨b1, h1, h2⟩ := Bus.run_cons.mp hr
    cases op with
    | create ck => rw [(Bus.apply_create.mp h1).1] at hb; cases hb
    | destroy =>
      obtain ⟨_, rfl⟩ := Bus.apply_destroy.mp h1
      exact iff_of_true (congrArg LfSt.ended (run_ended t { found := true, ended := true } _ rfl))
        (Bus.run_preserves Bus.apply_gone ops h2 ⟨hu, nofun⟩).2

theorem run_current (t : Nat) (b : Bus) :
    run t {} (currentEvents b) = if b.alive = some t then { found := true } else { ended := true } := by
  cases b with | mk alive used =>
  cases alive with
  | none => rfl
  | some ck =>
    show run t (step t {} (.created ck)) [.currentFinished] = _
    by_cases hc : ck = t
    · rw [step, if_pos hc, if_pos (congrArg some hc)]; rfl
    · rw [step, if_neg hc, if_neg fun h => hc (Option.some.inj h)]; rfl

/-- For every history of the scope's UUID on the bus and every point of it at which the lifetime is bound: once all
events have been handled, the lifetime has ended iff its scope does not live (any more). The identifier is one that
was handed out before the lifetime was bound, or never at all. -/
theorem ended_iff_scope_gone (t : Nat) (pre post : List BOp) (b1 b2 : Bus)
    (h1 : ({} : Bus).run pre = some b1) (h2 : b1.run post = some b2) (ht : t ∈ b1.used ∨ t ∉ b2.used) :
    (run t {} (currentEvents b1 ++ eventsFrom b1 post)).ended = true ↔ b2.alive ≠ some t := by
  have w1 : b1.WF := Bus.run_preserves (fun h _ => Bus.apply_wf h) pre h1 nofun
  rw [run_append, run_current]
  split
  · -- bound while the scope lives
    exact run_alive t b1 b2 post ‹_› (w1 t ‹_›) h2
  · -- bound when the scope does not live: ended at once, and it never lives later
    rw [run_ended t _ _ rfl]
    refine iff_of_true rfl ?_
    rcases ht with ht | ht
    · exact (Bus.run_preserves Bus.apply_gone post h2 ⟨ht, ‹_›⟩).2
    · exact fun hb => ht (Bus.run_preserves (fun h _ => Bus.apply_wf h) post h2 w1 t hb)

end Aldrin.Lifetime
