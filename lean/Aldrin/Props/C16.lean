/-
C16 — generated Rust types are wire-compatible with their schema.

The model (`Model/Typed.lean`) is the composition "deserialize as the generated type, serialize again" on
dynamic values, for every schema type over every environment of struct / enum / newtype definitions.
What is proved here holds for all environments with pairwise distinct field ids per struct (`Env.WF`,
enforced by schema validation), all types, all values and every `shape` fuel:

* `accepts_exactly_conforming` — a value is accepted iff it conforms to the schema type (`Conf`, a declarative
  definition: unknown field ids tolerated, required fields present, declared fields and variant payloads of
  the declared type, unknown variants only with a fallback); the three rejections of the statement are
  corollaries;
* `reencoding_stable` — what is written back is accepted again and written back unchanged;
* `newer_data_survives_older_type` — for two environments where the new one keeps every definition, field and
  variant of the old one (and may add fields, variants and definitions) and the old structs / enums have a
  fallback: whatever the old types write back for a value is read by the new types exactly as they read the
  value itself, at every nesting level;
* `known_fields_written`, `unknown_fields_kept`, `unknown_fields_dropped_without_fallback`,
  `unknown_variant_kept` — what exactly is written back for a struct / enum, with and without fallback.

That the generated code compiles is not a statement about this model: the harness build compiles the code
generator's output for the schema corpus (see DESIGN.md).
-/
import Aldrin.Lemmas.TypedConf
import Aldrin.Lemmas.TypedEvolve

namespace Aldrin.Typed
open Aldrin

/-- A generated type decodes exactly the dynamic values that conform to its schema type. -/
theorem accepts_exactly_conforming {env : Env} (hwf : env.WF) (n : Nat) (ty : Ty) (v : Value) :
    (∃ w, accept env n ty v = .ok w) ↔ Conf env n ty v :=
  ⟨fun ⟨_, h⟩ => accept_conf h, conf_accept hwf⟩

/-- Decode/encode is stable: the re-encoded value decodes again, to itself. -/
theorem reencoding_stable {env : Env} (hwf : env.WF) (n : Nat) (ty : Ty) (v w : Value)
    (h : accept env n ty v = .ok w) : accept env n ty w = .ok w :=
  accept_idem env hwf n v ty w h

/-- ... and the re-encoded value conforms to the schema type. -/
theorem reencoded_conforms {env : Env} (hwf : env.WF) (n : Nat) (ty : Ty) (v w : Value)
    (h : accept env n ty v = .ok w) : Conf env n ty w :=
  accept_conf (accept_idem env hwf n v ty w h)

theorem error_of_not_conf {env : Env} {n : Nat} {ty : Ty} {v : Value} (h : ¬ Conf env n ty v) :
    accept env n ty v = .error () := by
  cases ha : accept env n ty v with
  | error e => rfl
  | ok w => exact absurd (accept_conf ha) h

/-- A value that lacks a required field is rejected. -/
theorem missing_required_field_rejected {env : Env} {n : Nat} {ty : Ty} {fs : List Field} {fb : Bool}
    {es : List (Key × Value)} {f : Field} (hs : shape env n ty = .struct fs fb)
    (hf : f ∈ fs) (hr : f.required = true) (hmiss : ∀ p ∈ es, keyId p.1 ≠ some f.id) :
    accept env n ty (.map .field es) = .error () := by
  apply error_of_not_conf
  intro hc
  cases hc with
  | any h => rw [hs] at h; cases h
  | map h => rw [hs] at h; cases h
  | struct h _ _ hreq =>
    rw [hs] at h; cases h
    obtain ⟨p, hp, hk⟩ := hreq f hf hr
    exact hmiss p hp hk

/-- A value that carries a wrongly typed field is rejected (a declared id whose value the field's type does
not accept; for an optional field the wire type is `Option<T>`). -/
theorem wrongly_typed_field_rejected {env : Env} (hwf : env.WF) {n : Nat} {ty : Ty} {fs : List Field} {fb : Bool}
    {es : List (Key × Value)} {k : Key} {x : Value} {id : Nat} {f : Field}
    (hs : shape env n ty = .struct fs fb) (hp : (k, x) ∈ es) (hk : keyId k = some id)
    (hf : findField fs id = some f) (hbad : accept env n f.wireTy x = .error ()) :
    accept env n ty (.map .field es) = .error () := by
  apply error_of_not_conf
  intro hc
  cases hc with
  | any h => rw [hs] at h; cases h
  | map h => rw [hs] at h; cases h
  | struct h _ hty _ =>
    rw [hs] at h; cases h
    obtain ⟨w, hw⟩ := conf_accept hwf (hty (k, x) hp id f hk hf)
    rw [hbad] at hw; cases hw

/-- An unknown variant is rejected by an enum without fallback. -/
theorem unknown_variant_rejected {env : Env} {n : Nat} {ty : Ty} {vs : List Variant} {id : Nat} {x : Value}
    (hs : shape env n ty = .enum vs false) (hv : findVariant vs id = none) :
    accept env n ty (.enum id x) = .error () := by
  simp [accept, hs, hv]

/-- A declared variant with a payload of the wrong type is rejected. -/
theorem wrong_payload_rejected {env : Env} {n : Nat} {ty : Ty} {vs : List Variant} {fb : Bool} {id id' : Nat}
    {t : Ty} {x : Value} (hs : shape env n ty = .enum vs fb) (hv : findVariant vs id = some ⟨id', some t⟩)
    (hbad : accept env n t x = .error ()) : accept env n ty (.enum id x) = .error () := by
  simp [accept, hs, hv, hbad]

/-- An enum with a fallback variant keeps an unknown variant intact. -/
theorem unknown_variant_kept {env : Env} {n : Nat} {ty : Ty} {vs : List Variant} {id : Nat} {x : Value}
    (hs : shape env n ty = .enum vs true) (hv : findVariant vs id = none) :
    accept env n ty (.enum id x) = .ok (.enum id x) :=
  ok_of_takes hs (.unknownVariant hv)

/-- A struct with a fallback field keeps every unknown field intact (the last value per id, as the unknown
fields are collected in a map). -/
theorem unknown_fields_kept {env : Env} {n : Nat} {ty : Ty} {fs : List Field} {es : List (Key × Value)} {w : Value}
    (hs : shape env n ty = .struct fs true) (h : accept env n ty (.map .field es) = .ok w) :
    ∃ out, w = .map .field out ∧
      ∀ id x, findField fs id = none → lastOf id (entries es) = some x → (Key.int id, x) ∈ out := by
  rw [accept_iff, hs] at h
  cases h with
  | @struct _ _ _ kn un out hacc hfin =>
    refine ⟨_, rfl, fun id x hf hl => List.mem_append_right _ (mem_dedupLast ?_)⟩
    rw [acceptFields_unknown hacc, lastOf_filter (fun i => (findField fs i).isNone), hf]
    exact hl

/-- A struct without a fallback field writes back declared fields only: unknown field ids are tolerated and
dropped. -/
theorem unknown_fields_dropped_without_fallback {env : Env} {n : Nat} {ty : Ty} {fs : List Field}
    {es : List (Key × Value)} {w : Value}
    (hs : shape env n ty = .struct fs false) (h : accept env n ty (.map .field es) = .ok w) :
    ∃ out, w = .map .field out ∧ ∀ p ∈ out, ∃ f ∈ fs, p.1 = Key.int f.id := by
  rw [accept_iff, hs] at h
  cases h with
  | @struct _ _ _ kn un out hacc hfin =>
    refine ⟨_, rfl, fun p hp => ?_⟩
    rw [(finishFields_some hfin).2] at hp
    simp only [Bool.false_eq_true, ↓reduceIte, List.append_nil, List.mem_filterMap] at hp
    obtain ⟨f, hf, he⟩ := hp
    exact ⟨f, hf, (emit_id he).1⟩

/-- What is written back for the declared fields of a struct: a required field carries what its type makes
of the (last) input value; an optional field is written as `Some` of what its type makes of the payload, and
is omitted when the input has `None` or nothing for it. -/
theorem known_fields_written {env : Env} (hwf : env.WF) {n : Nat} {ty : Ty} {fs : List Field} {fb : Bool}
    {es : List (Key × Value)} {w : Value}
    (hs : shape env n ty = .struct fs fb) (h : accept env n ty (.map .field es) = .ok w) :
    ∃ out, w = .map .field out ∧ ∀ f ∈ fs,
      (f.required = true → ∃ x y, lastOf f.id (entries es) = some x ∧ accept env n f.ty x = .ok y ∧
          (Key.int f.id, y) ∈ out) ∧
      (f.required = false → ∀ x, lastOf f.id (entries es) = some (.some x) →
          ∃ y, accept env n f.ty x = .ok y ∧ (Key.int f.id, .some y) ∈ out) := by
  have hn := shape_struct_nodup hwf n ty hs
  rw [accept_iff, hs] at h
  cases h with
  | @struct _ _ _ kn un out hacc hfin =>
    obtain ⟨hreq, rfl⟩ := finishFields_some hfin
    have hwritten : ∀ f ∈ fs, ∀ v, lastOf f.id kn = some v → f.required = true ∨ v ≠ .none →
        (Key.int f.id, v) ∈ fs.filterMap (emit kn) ++ if fb then dedupLast un else [] :=
      fun f hf v hl hv => List.mem_append_left _ (List.mem_filterMap.2 ⟨f, hf, emit_of_lastOf hl hv⟩)
    refine ⟨_, rfl, fun f hf => ⟨fun hr => ?_, fun hr x hl => ?_⟩⟩
    · cases hx : lastOf f.id (entries es) with
      | none =>
        have := hreq f hf hr
        simp [emit, lastOf_known hacc, hx] at this
      | some x =>
        obtain ⟨y, hy, hl⟩ := lastOf_known_some hacc (findField_of_mem hn hf) hx
        simp only [Field.wireTy, hr, ↓reduceIte] at hy
        exact ⟨x, y, rfl, hy, hwritten f hf y hl (.inl hr)⟩
    · obtain ⟨y, hy, hl'⟩ := lastOf_known_some hacc (findField_of_mem hn hf) hl
      simp only [Field.wireTy, hr, Bool.false_eq_true, ↓reduceIte] at hy
      rw [accept_iff] at hy
      cases n with
      | zero => cases hy     -- without fuel nothing has a shape, so nothing is accepted
      | succ n =>
        cases hy with
        | optSome hx => exact ⟨_, hx, hwritten f hf _ hl' (.inr (by simp))⟩

/-- Data written by a newer schema version survives passing through code generated from an older one: for
every value that both versions of a type accept, the new type reads the old type's output as it reads the
original. -/
theorem newer_data_survives_older_type {envO envN : Env} (hx : Ext envO envN) (n : Nat) (ty : Ty) (v wo wn : Value)
    (hO : accept envO n ty v = .ok wo) (hN : accept envN n ty v = .ok wn) :
    accept envN n ty wo = .ok wn :=
  survives hx n v ty wo wn hO hN

/-- ... and the old type does accept it when it conforms to the old schema with unknown fields / variants
tolerated, which for a struct or enum with fallback is all that can be asked of data it has never seen. -/
theorem older_type_accepts {envO : Env} (hwf : envO.WF) (n : Nat) (ty : Ty) (v : Value)
    (h : Conf envO n ty v) : ∃ wo, accept envO n ty v = .ok wo :=
  conf_accept hwf h

/-! ### the premises are satisfiable, and the statements say something about concrete values -/

def envEx : Env :=
  [("Open", .struct [⟨1, true, .int .u8⟩, ⟨2, false, .string⟩] true),
   ("Closed", .struct [⟨1, true, .int .u8⟩, ⟨2, false, .string⟩] false),
   ("Choice", .enum [⟨1, none⟩, ⟨2, some (.int .u32)⟩] true),
   ("Strict", .enum [⟨1, none⟩, ⟨2, some (.int .u32)⟩] false),
   ("Id", .newtype (.box (.ref "Open")))]

theorem envEx_wf : envEx.WF := Env.WF_of_check (by decide)

-- an unknown field (id 9) survives the struct with fallback, through the newtype and the box, ...
example : accept envEx 8 (.ref "Id") (.map .field [(.int 1, .int .u8 7), (.int 9, .bool true), (.int 2, .none)])
    = .ok (.map .field [(.int 1, .int .u8 7), (.int 9, .bool true)]) := rfl

-- ... is dropped by the one without, ...
example : accept envEx 8 (.ref "Closed") (.map .field [(.int 1, .int .u8 7), (.int 9, .bool true)])
    = .ok (.map .field [(.int 1, .int .u8 7)]) := rfl

-- ... a missing required field, a wrongly typed field and an Option-less optional field are rejected, ...
example : accept envEx 8 (.ref "Open") (.map .field [(.int 2, .some (.string []))]) = .error () := rfl
example : accept envEx 8 (.ref "Open") (.map .field [(.int 1, .int .u16 7)]) = .error () := rfl
example : accept envEx 8 (.ref "Open") (.map .field [(.int 1, .int .u8 7), (.int 2, .string [])]) = .error () := rfl

-- ... and an unknown variant is kept or rejected.
example : accept envEx 8 (.ref "Choice") (.enum 5 (.bool true)) = .ok (.enum 5 (.bool true)) := rfl
example : accept envEx 8 (.ref "Strict") (.enum 5 (.bool true)) = .error () := rfl

-- an old and a new version of a record type: the new one adds a field and a variant
def envOld : Env :=
  [("Kind", .enum [⟨0, none⟩, ⟨1, some (.int .u16)⟩] true),
   ("Record", .struct [⟨1, true, .int .u32⟩, ⟨2, false, .ref "Kind"⟩] true)]

def envNew : Env :=
  [("Kind", .enum [⟨0, none⟩, ⟨1, some (.int .u16)⟩, ⟨2, some .string⟩] true),
   ("Record", .struct [⟨1, true, .int .u32⟩, ⟨2, false, .ref "Kind"⟩, ⟨3, false, .vec .string⟩] true)]

theorem envOld_envNew_ext : Ext envOld envNew := Ext_of_check (by decide)

-- a record written by the new version (new variant inside an old field, new field), through the old type ...
example : accept envOld 8 (.ref "Record")
      (.map .field [(.int 3, .some (.vec [.string [104]])), (.int 2, .some (.enum 2 (.string [120]))), (.int 1, .int .u32 5)])
    = .ok (.map .field [(.int 1, .int .u32 5), (.int 2, .some (.enum 2 (.string [120]))), (.int 3, .some (.vec [.string [104]]))]) := rfl

-- ... and read by the new type again: everything is still there.
example : accept envNew 8 (.ref "Record")
      (.map .field [(.int 1, .int .u32 5), (.int 2, .some (.enum 2 (.string [120]))), (.int 3, .some (.vec [.string [104]]))])
    = .ok (.map .field [(.int 1, .int .u32 5), (.int 2, .some (.enum 2 (.string [120]))), (.int 3, .some (.vec [.string [104]]))]) := rfl

end Aldrin.Typed
