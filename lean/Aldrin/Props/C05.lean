/-
C05 — Channels: in-order exactly-once delivery under capacity flow control.

Statement (properties.jsonl): items sent on an established channel reach the receiver exactly once
and in send order, and the broker never forwards more items than the receiver has granted capacity
for (initial plus added); a sender that stays within the capacity announced to it is never cut off,
one that exceeds it loses only its own end. Claiming and closing follow the end state machine: an
end can be claimed once, only its owner (or anyone, if unclaimed) can close it, and the peer is told
exactly once when the other end is claimed, closed or its owner disconnects. A capacity grant that
would overflow closes only the receiver.

What is proved here, about the model of `broker/src/broker/channel.rs` and the channel handlers of
`broker/src/broker.rs` (M4):
* for ALL histories of broker events (any connections, any interleaving, disconnects included) every
  channel in the broker's map satisfies the channel invariant `Chan.OK` (`chan_inv_all_histories`);
* under that invariant none of the eight panic sites of `channel.rs` is reachable from a channel
  operation on a stored channel, with the one documented exception of `close` on an end that is
  already closed, which the handlers exclude through `check_close` (`*_no_panic`);
* credit accounting for ALL histories of sends and grants on an established channel
  (`credit_accounting`, `forwarded_le_granted`);
* the per-request decision logic (`send_*`, `claim_*`, `close_*`, `grant_overflow`).
* for ALL histories, between two events: a claimed end is claimed by a connection that is still there and lists the
  channel among its senders / receivers, and what a connection lists there is an end it has claimed
  (`claimed_end_is_listed_by_its_connected_owner`, `connection_lists_only_ends_it_claimed`; the ownership invariant
  `Lemmas/Broker/{XOwn,OwnView,Own}.lean`). So the teardown of a connection closes exactly the ends it
  holds, each of which is claimed — never the `close`-on-closed arm — and "the peer is told when the owner
  disconnects" is the `remove_channel_end` of a claimed end.
Partial: the client-side `Sender`/`Receiver` of the `aldrin` crate are not modelled.
-/
import Aldrin.Lemmas.Broker.Handlers
import Aldrin.Lemmas.Broker.Own
import Aldrin.Lemmas.ClientChan
import Aldrin.Lemmas.ClientChanAsync
import Aldrin.Lemmas.ClientChanRefine

namespace Aldrin.Broker

/-- Every channel the broker holds, after any history that does not panic, has at least one claimed
end, a sender credit that never exceeds the receiver's, and equal credits at or below the low-water
mark. -/
theorem chan_inv_all_histories (es : List Event) (b : Broker) (w : Work) (outs : List (List Out))
    (h : run {} {} es = .ok (b, w, outs)) (ck : Cookie) (ch : Chan) (hc : AL.find? ck b.channels = some ch) :
    ch.OK :=
  AllV_find (run_CLInv es _ _ _ _ _ CLInv_init h).1 hc

/-- Credit accounting, for all histories of sends and grants on an established channel: no panic, and
at every point  forwarded ≤ announced-to-sender ≤ granted-by-receiver; the stored capacities are the
unspent parts. `cap` is the capacity the receiver claimed or created its end with. -/
theorem credit_accounting (s r : ConnId) (cap : Nat) (ops : List COp) :
    ∃ c g, crun s r ⟨.claimed s cap, .claimed r cap⟩ ⟨cap, cap, 0⟩ ops = .ok (c, g) ∧ Acct s r c g :=
  crun_acct s r ops _ _ ⟨cap, cap, rfl, by simp, by simp, Nat.le_refl _, fun _ => rfl⟩

theorem forwarded_le_granted (s r : ConnId) (cap : Nat) (ops : List COp) (c : Chan) (g : Ghost)
    (h : crun s r ⟨.claimed s cap, .claimed r cap⟩ ⟨cap, cap, 0⟩ ops = .ok (c, g)) :
    g.forwarded ≤ g.announced ∧ g.announced ≤ g.granted := by
  obtain ⟨c', g', h1, h2⟩ := credit_accounting s r cap ops
  rw [h] at h1; cases h1
  exact acct_bounds h2

/-- a sender within its announced credit is never refused -/
theorem send_within_credit {c : Chan} {s r : ConnId} {sc rc : Nat} (h : c.OK)
    (hs : c.sender = .claimed s sc) (hr : c.receiver = .claimed r rc) (hpos : 0 < sc) :
    ∃ c' add, c.sendItem s = .ok (.ok (c', r, add)) := sendItem_within_credit h hs hr hpos

/-- a sender without credit is refused with `capacityExhausted` (the handler then closes the sender's end only) -/
theorem send_beyond_credit {c : Chan} {s r : ConnId} {rc : Nat} (h : c.OK)
    (hs : c.sender = .claimed s 0) (hr : c.receiver = .claimed r rc) :
    c.sendItem s = .ok (.error .capacityExhausted) := by
  obtain ⟨snd, rcv⟩ := c
  cases hs; cases hr
  rw [sendItem_established h.credit, if_pos rfl]

/-- exactly one `ItemReceived`, payload unchanged, appended to the receiver's queue in send order -/
theorem send_delivers_once {s : St} {id r : ConnId} {cookie : Cookie} {p : Payload} {sender rconn : Conn} {sc rc : Nat}
    (hs : AL.find? id s.b.conns = some sender) (hr : AL.find? r s.b.conns = some rconn)
    (hsa : sender.alive = true) (hra : rconn.alive = true)
    (hch : AL.find? cookie s.b.channels = some ⟨.claimed id sc, .claimed r rc⟩)
    (hok : ChInv s) (hpos : 0 < sc) :
    ∃ s' credit, sendItem s id cookie p = .ok (s', true) ∧
      s'.out = s.out ++ [⟨r, .itemReceived cookie p, some sender.version⟩] ++ credit ∧
      (credit = [] ∨ ∃ n, credit = [⟨id, .addChannelCapacity cookie n, none⟩]) :=
  sendItem_delivers hs hr hsa hra hch hok hpos

/-- a grant is refused exactly when the receiver's credit would exceed `u32::MAX` -/
theorem grant_overflow {c : Chan} {r : ConnId} {rc cap : Nat} (h : c.OK)
    (hr : c.receiver = .claimed r rc) (hc : cap ≠ 0) :
    (c.addCapacity r cap = .ok none ↔ rc + cap > u32Max) := by
  obtain ⟨snd, rcv⟩ := c
  cases hr
  refine ⟨fun he => Nat.not_le.1 fun hov => ?_, addCapacity_overflows hc⟩
  obtain ⟨c', fwd, he', -⟩ := addCapacity_taken h hov
  rw [he'] at he; cases he

/-- claiming: each end can be claimed exactly once, a closed end never -/
theorem claim_sender_once (c : Chan) (conn : ConnId) (h : c.WF) :
    (c.sender = .unclaimed → ∃ o cap, c.receiver = .claimed o cap ∧
        c.claimSender conn = .ok (.ok ({ c with sender := .claimed conn cap }, o, cap))) ∧
    ((∃ o k, c.sender = .claimed o k) → c.claimSender conn = .ok (.error .alreadyClaimed)) ∧
    (c.sender = .closed → c.claimSender conn = .ok (.error .invalidChannel)) := claimSender_result c conn h

theorem claim_receiver_once (c : Chan) (conn : ConnId) (cap : Nat) (h : c.WF) :
    (c.receiver = .unclaimed → ∃ o k, c.sender = .claimed o k ∧
        c.claimReceiver conn cap = .ok (.ok (⟨.claimed o cap, .claimed conn cap⟩, o))) ∧
    ((∃ o k, c.receiver = .claimed o k) → c.claimReceiver conn cap = .ok (.error .alreadyClaimed)) ∧
    (c.receiver = .closed → c.claimReceiver conn cap = .ok (.error .invalidChannel)) := claimReceiver_result c conn cap h

/-- closing: allowed for the owner or on an unclaimed end, foreign for another owner, invalid once closed -/
theorem close_permission (c : Chan) (conn : ConnId) (e : ChanEnd) :
    ((c.checkClose conn e).1 = .ok ↔ (c.endState e = .unclaimed ∨ ∃ k, c.endState e = .claimed conn k)) ∧
    ((c.checkClose conn e).1 = .foreignChannel ↔ ∃ o k, c.endState e = .claimed o k ∧ o ≠ conn) ∧
    ((c.checkClose conn e).1 = .invalidChannel ↔ c.endState e = .closed) ∧
    ((c.checkClose conn e).2 = true ↔ (c.endState e).isClaimed = true) := checkClose_spec c conn e

/-- closing an end that is not closed never panics; the peer to notify is returned exactly when the
other end is claimed, and only then does the channel stay in the map -/
theorem close_no_panic {c : Chan} {e : ChanEnd} (h : c.OK) (he : c.endState e ≠ .closed) :
    okAnd (c.close e) (fun r => r.1.endState e = .closed ∧ r.1.endState e.other = c.endState e.other ∧
      (∀ o, r.2 = some o → r.1.OK ∧ ∃ k, c.endState e.other = .claimed o k) ∧
      (r.2 = none ↔ (c.endState e.other).isClaimed = false)) := close_ok h he

theorem send_no_panic {c : Chan} {conn : ConnId} (h : c.OK) :
    okAnd (c.sendItem conn) (fun r => ∀ c' o add, r = .ok (c', o, add) → c'.OK) := sendItem_ok h
theorem grant_no_panic {c : Chan} {conn : ConnId} {cap : Nat} (h : c.OK) :
    okAnd (c.addCapacity conn cap) (fun r => ∀ c' f, r = some (c', f) → c'.OK) := addCapacity_ok h
theorem claim_sender_no_panic {c : Chan} {conn : ConnId} (h : c.OK) :
    okAnd (c.claimSender conn) (fun r => ∀ c' o cap, r = .ok (c', o, cap) → c'.OK) := claimSender_ok h
theorem claim_receiver_no_panic {c : Chan} {conn : ConnId} {cap : Nat} (h : c.OK) :
    okAnd (c.claimReceiver conn cap) (fun r => ∀ c' o, r = .ok (c', o) → c'.OK) := claimReceiver_ok h

/-- for ALL histories: an end that is claimed is claimed by a connection that is still there, and that connection
lists the channel among its senders resp. receivers -/
theorem claimed_end_is_listed_by_its_connected_owner (es : List Event) (b : Broker) (w : Work) (outs : List (List Out))
    (h : run {} {} es = .ok (b, w, outs)) {ck : Cookie} {ch : Chan} (hc : AL.find? ck b.channels = some ch) :
    (∀ o cap, ch.sender = .claimed o cap → ∃ conn, AL.find? o b.conns = some conn ∧ ck ∈ conn.senders) ∧
    (∀ o cap, ch.receiver = .claimed o cap → ∃ conn, AL.find? o b.conns = some conn ∧ ck ∈ conn.receivers) := by
  have hown := run_own es _ _ _ _ _ G2_init Own.init h
  obtain ⟨os, or⟩ := own_chan (s := ⟨b, w, []⟩) hc
  constructor
  · intro o cap hs
    obtain ⟨conn, h1, h2⟩ := hown.holder (x := (.snd, ck)) (by rw [os, hs]; rfl)
    rw [mem_holds] at h2; simp at h2; exact ⟨conn, h1, h2⟩
  · intro o cap hs
    obtain ⟨conn, h1, h2⟩ := hown.holder (x := (.rcv, ck)) (by rw [or, hs]; rfl)
    rw [mem_holds] at h2; simp at h2; exact ⟨conn, h1, h2⟩

/-- for ALL histories: what a connection lists among its senders resp. receivers is an end it has claimed -/
theorem connection_lists_only_ends_it_claimed (es : List Event) (b : Broker) (w : Work) (outs : List (List Out))
    (h : run {} {} es = .ok (b, w, outs)) {id : ConnId} {conn : Conn} (hc : AL.find? id b.conns = some conn) :
    (∀ ck, ck ∈ conn.senders → ∃ ch cap, AL.find? ck b.channels = some ch ∧ ch.sender = .claimed id cap) ∧
    (∀ ck, ck ∈ conn.receivers → ∃ ch cap, AL.find? ck b.channels = some ch ∧ ch.receiver = .claimed id cap) := by
  have hown := run_own es _ _ _ _ _ G2_init Own.init h
  exact ⟨fun ck hm => hown.listed_end (s := ⟨b, w, []⟩) hc (e := .sender) hm,
    fun ck hm => hown.listed_end (s := ⟨b, w, []⟩) hc (e := .receiver) hm⟩

/-! ### client level: the real `Sender` / `Receiver` composed with the broker's channel (`Model/ClientChan.lean`) -/

/-- **All schedules of a producer and a consumer.** A channel established with any capacity `1 ≤ max ≤ u32::MAX`; any
sequence of: the sender sends if `poll_send_ready` lets it, the receiver takes an item, the sender polls
`receiver_closed`, the sender polls `send_ready` — the system at rest in between. Then: no `debug_assert!` of `Sender`,
`Receiver` or `Channel` fails; the broker never refuses an item or a grant (a sender that stays within the capacity
announced to it is never cut off, and no grant overflows); the items waiting at the receiver are exactly those sent
and not yet taken; the sender's capacity together with the announcements waiting in its queue is the broker's credit
of the sender, the receiver's remaining capacity is the broker's credit of the receiver plus the waiting items; and a
sender whose receiver has taken everything is allowed to send. -/
theorem client_channel_all_schedules (max : Nat) (h1 : 0 < max) (h2 : max ≤ u32Max) (ops : List ClientChan.Op) :
    ∃ s os, ClientChan.run (ClientChan.init max) ops = .ok (s, os) ∧ ClientChan.Obs.cutOff ∉ os ∧
      s.rcv.items + ClientChan.count .item os = ClientChan.count .sent os ∧
      (∃ sc rc, s.chan = ⟨.claimed ClientChan.sid sc, .claimed ClientChan.rid rc⟩ ∧
        s.snd.capacity + s.snd.queue.sum = sc ∧ s.rcv.cur = rc + s.rcv.items ∧ sc ≤ rc) ∧
      0 < s.rcv.cur ∧ s.rcv.cur ≤ max ∧
      (s.rcv.items = 0 → 0 < s.snd.drain.capacity) := by
  obtain ⟨s, os, hr, hi, hc⟩ := ClientChan.run_inv (ClientChan.init_inv h1 h2) ops
  have hitems := ClientChan.run_items hr
  have hmax : s.rcv.max = max := ClientChan.run_max hr
  obtain ⟨sc, rc, e1, e2, e3, e4, _⟩ := hi.ex
  refine ⟨s, os, hr, hc, ?_, ⟨sc, rc, e1, e2, e3, e4⟩, hi.curPos, hmax ▸ hi.curLe, ClientChan.ready_of_caught_up hi⟩
  simpa [ClientChan.init] using hitems

/-- **All interleavings, with messages in flight.** The same three parties, but every message waits in a FIFO queue
until the schedule moves it (sender's client → broker, broker → receiver's queue, receiver's client → broker, broker →
sender's queue); the schedule is any sequence of application operations and of moves of the four queues. Then: no
`debug_assert!` fails; the broker refuses no item (it never sees one without credit) and no grant (none overflows);
the sender's capacity plus the announcements in its queue and on their way plus the items on their way is the broker's
credit of the sender; the receiver's `cur_capacity` is the broker's credit of the receiver plus the grants on their way
plus the items waiting and on their way; what has been forwarded and not taken never exceeds the receiver's capacity;
and when nothing is in flight and the receiver has taken everything, the sender may send. -/
theorem client_channel_all_interleavings (max : Nat) (h1 : 0 < max) (h2 : max ≤ u32Max) (ops : List ClientChan.AOp) :
    ∃ s os, ClientChan.arun (ClientChan.ASys.ofSys (ClientChan.init max)) ops = .ok (s, os) ∧ ClientChan.AObs.cutOff ∉ os ∧
      (∃ sc rc, s.chan = ⟨.claimed ClientChan.sid sc, .claimed ClientChan.rid rc⟩ ∧
        sc = s.snd.capacity + s.snd.queue.sum + s.bs.sum + s.sb ∧
        s.rcv.cur = rc + s.rb.sum + s.rcv.items + s.br ∧ sc ≤ rc) ∧
      0 < s.rcv.cur ∧ s.rcv.items + s.br ≤ s.rcv.max ∧
      (s.sb = 0 → s.br = 0 → s.rb = [] → s.bs = [] → s.rcv.items = 0 → 0 < s.snd.drain.capacity) := by
  obtain ⟨s, os, hr, hi, hc⟩ := ClientChan.arun_inv (ClientChan.AInv.ofSys (ClientChan.init_inv h1 h2)) ops
  obtain ⟨sc, rc, e1, e2, e3, e4, _⟩ := hi.ex
  exact ⟨s, os, hr, hc, ⟨sc, rc, e1, e2, e3, e4⟩, hi.curPos, hi.outstanding_le, hi.ready_at_rest⟩

/-- **The system at rest is the system with messages in flight under a particular schedule.** Every run of the at-rest
model — the one the `chan` harness compares with two real clients on a real broker — is the run of the in-flight model
under the schedule that delivers everything after each operation (`expand`): the same observations of the applications,
the same resulting state, nothing left in flight, and the broker refuses nothing. So the correspondence runs tie the
in-flight model's steps under those schedules as well. -/
theorem at_rest_runs_are_in_flight_runs (max : Nat) (h1 : 0 < max) (h2 : max ≤ u32Max) (ops : List ClientChan.Op) :
    ∃ s os aos, ClientChan.run (ClientChan.init max) ops = .ok (s, os) ∧
      ClientChan.arun (ClientChan.ASys.ofSys (ClientChan.init max)) (ops.flatMap ClientChan.expand) = .ok (ClientChan.ASys.ofSys s, aos) ∧
      ClientChan.AObs.cutOff ∉ aos ∧
      aos.filterMap (fun o => match o with | .app x => some x | _ => none) = os :=
  ClientChan.run_refines ops _ (ClientChan.init_inv h1 h2)

/-! non-vacuity: capacity 1; the item is sent, the sender polls `receiver_closed` while the item, then the grant, then
the announcement are still on their way, and is ready again once the announcement has arrived -/
example : (match ClientChan.arun (ClientChan.ASys.ofSys (ClientChan.init 1))
      [.app .send, .app .ready, .brokerItem, .deliverItem, .app .take, .app .pollClosed, .brokerGrant, .app .ready, .deliverAnn, .app .ready] with
    | .ok (s, os) => (os, s.snd.capacity, s.rcv.cur) | .error _ => ([], 0, 0)) =
    ([.app .sent, .app .blocked, .moved, .moved, .app .item, .app .pending, .moved, .app .blocked, .moved, .app .isReady], 1, 1) := by decide

/-! non-vacuity: capacity 2; two items go, the third send is blocked; one take tops the receiver up and the announcement
reaches the sender, which `poll_receiver_closed` counts as well as `poll_send_ready` does -/
example : (match ClientChan.run (ClientChan.init 2) [.send, .send, .send, .take, .pollClosed, .send] with
    | .ok (s, os) => (os, s.snd.capacity, s.rcv.cur, s.rcv.items) | .error _ => ([], 0, 0, 0)) =
    ([.sent, .sent, .blocked, .item, .pending, .sent], 0, 2, 2) := by decide

/-! non-vacuity: a concrete history that establishes a channel with capacity 5 and sends an item -/
example : (match run {} {} [.newConn 0 20, .newConn 1 20, .msg 0 (.createChannel 1 .sender 0),
      .msg 1 (.claimChannelEnd 2 0 .receiver 5), .msg 0 (.sendItem 0 [3, 7])] with
    | .ok (b, _, outs) => (AL.find? 0 b.channels, outs.getLast?) | .error _ => (none, none)) =
    (some ⟨.claimed 0 4, .claimed 1 4⟩, some [⟨1, .itemReceived 0 [3, 7], some 20⟩]) := by decide

end Aldrin.Broker
