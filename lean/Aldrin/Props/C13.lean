/-
C13 — Value epoch conversion preserves meaning and removes new encodings.

Statement (properties.jsonl): converting a well-formed serialized value to a protocol version before
1.20 yields a well-formed value that decodes to the same value and contains none of the container
encodings introduced in 1.20; converting to the same or a newer epoch returns the input unchanged,
and converting twice equals converting once. Conversion fails only for ill-formed input (UTF-8
validity aside) or for versions outside 1.14..1.20, and never panics.

"Contains none of the new encodings" is stated operationally: the output is accepted — with the
same value — by `DecCfg.legacy`, a decoder to which the kinds 43..65 do not exist.
The `≤ u32Max` hypotheses are the `Overflow` branch of `convert_*2_to_*1` (an element count ≥ 2³²
needs an input ≥ 4 GiB); they are forced by the code, not by the proof technique.
-/
import Aldrin.Lemmas.DecWF
import Aldrin.Lemmas.ConvDec
import Aldrin.Lemmas.RoundTrip

namespace Aldrin
open Generated

/-- The epoch table in the source is the one the property talks about. -/
theorem epoch_table :
    epochV1min = (1, 14) ∧ epochV1max = (1, 19) ∧ epochV2min = (1, 20) ∧ epochV2max = (1, 20) ∧
    convertDefaultFrom = (1, 20) := by decide

theorem epochOf_iff (v : Nat × Nat) :
    (epochOf v = some .v1 ↔ v.1 = 1 ∧ 14 ≤ v.2 ∧ v.2 ≤ 19) ∧ (epochOf v = some .v2 ↔ v.1 = 1 ∧ v.2 = 20) ∧
    (epochOf v = none ↔ ¬ (v.1 = 1 ∧ 14 ≤ v.2 ∧ v.2 ≤ 20)) := by
  obtain ⟨a, b⟩ := v
  simp only [epochOf, verLe, epochV1min, epochV1max, epochV2min, epochV2max]
  grind

/-- Core of the property: the converter computes "decode (without UTF-8 validation), then write in
the legacy encoding". -/
theorem convert_is_reencode (bs : Bytes) (hl : bs.length ≤ u32Max) (v : Value)
    (h : decodeTop .lax bs = .ok v) : conv (fuelFor bs) bs 0 = .ok (encRaw .v1 v, []) :=
  norm_eq_ok.mp ((conv_dec_all.1 _ bs 0 hl).trans (by rw [decodeTop_eq_ok.mp h]; rfl))

/-- What `convertTop` does once both versions are known to lie in an epoch. -/
theorem convertTop_eq {frm : Option (Nat × Nat)} {to : Nat × Nat} {ef et : Epoch} (bs : Bytes)
    (hf : epochOf (frm.getD convertDefaultFrom) = some ef) (ht : epochOf to = some et) :
    convertTop frm to bs =
      if et = .v1 ∧ ef = .v2 then
        match conv (fuelFor bs) bs 0 with
        | .error e => .error e
        | .ok (o, rest) => if rest.isEmpty then .ok o else .error .trailing
      else .ok bs := by
  unfold convertTop
  rw [hf, ht]
  rfl

theorem convertTop_down {frm : Option (Nat × Nat)} {to : Nat × Nat} {bs : Bytes} {v : Value}
    (hf : epochOf (frm.getD convertDefaultFrom) = some .v2) (ht : epochOf to = some .v1)
    (h : decodeTop .std bs = .ok v) (hl : bs.length ≤ u32Max) : convertTop frm to bs = .ok (encRaw .v1 v) := by
  rw [convertTop_eq bs hf ht, if_pos ⟨rfl, rfl⟩, convert_is_reencode bs hl v (decodeTop_std_lax h)]
  rfl

/-- Converting a well-formed value from the 1.20 epoch to an older one succeeds; the result decodes
to the same value with the current decoder and with a decoder that predates 1.20. -/
theorem convert_preserves (frm : Option (Nat × Nat)) (to : Nat × Nat) (bs : Bytes) (v : Value)
    (hf : epochOf (frm.getD convertDefaultFrom) = some .v2) (ht : epochOf to = some .v1)
    (h : decodeTop .std bs = .ok v) (hl : bs.length ≤ u32Max) :
    ∃ bs', convertTop frm to bs = .ok bs' ∧ decodeTop .std bs' = .ok v ∧ decodeTop .legacy bs' = .ok v :=
  have hw := dec_wf (decodeTop_eq_ok.mp h) hl
  have hd := Nat.zero_add v.depth ▸ hw.2
  ⟨_, convertTop_down hf ht h hl, decodeTop_encRaw .std .v1 nofun v hw.1 hd,
    decodeTop_encRaw .legacy .v1 nofun v hw.1 hd⟩

/-- Converting to the same or a newer epoch returns the input unchanged. -/
theorem convert_same_or_newer (frm : Option (Nat × Nat)) (to : Nat × Nat) (bs : Bytes) (ef et : Epoch)
    (hf : epochOf (frm.getD convertDefaultFrom) = some ef) (ht : epochOf to = some et)
    (h : ¬ (et = .v1 ∧ ef = .v2)) : convertTop frm to bs = .ok bs := by
  rw [convertTop_eq bs hf ht, if_neg h]

/-- Versions outside 1.14..1.20 are rejected as such, whatever the bytes. -/
theorem convert_bad_version (frm : Option (Nat × Nat)) (to : Nat × Nat) (bs : Bytes)
    (h : epochOf (frm.getD convertDefaultFrom) = none ∨ epochOf to = none) :
    convertTop frm to bs = .error .version := by
  rcases h with h | h
  · simp [convertTop, h]
  · cases hf : epochOf (frm.getD convertDefaultFrom) <;> simp [convertTop, hf, h]

/-- Either a version lies outside every epoch, and the conversion says so, or both lie in one. -/
theorem convertTop_cases (frm : Option (Nat × Nat)) (to : Nat × Nat) (bs : Bytes) :
    ((epochOf (frm.getD convertDefaultFrom) = none ∨ epochOf to = none) ∧ convertTop frm to bs = .error .version) ∨
    ∃ ef et, epochOf (frm.getD convertDefaultFrom) = some ef ∧ epochOf to = some et := by
  cases hf : epochOf (frm.getD convertDefaultFrom) with
  | none => exact .inl ⟨.inl rfl, convert_bad_version frm to bs (.inl hf)⟩
  | some ef =>
    cases ht : epochOf to with
    | none => exact .inl ⟨.inr rfl, convert_bad_version frm to bs (.inr ht)⟩
    | some et => exact .inr ⟨ef, et, rfl, rfl⟩

/-- Conversion fails only for a bad version, for input that does not decode even without UTF-8
validation, or (formally) for inputs of 4 GiB and more. -/
theorem convert_fails_only_if (frm : Option (Nat × Nat)) (to : Nat × Nat) (bs : Bytes) (e : DeErr)
    (h : convertTop frm to bs = .error e) :
    (e = .version ∧ (epochOf (frm.getD convertDefaultFrom) = none ∨ epochOf to = none)) ∨
    (∀ v, decodeTop .lax bs ≠ .ok v) ∨ bs.length > u32Max := by
  rcases convertTop_cases frm to bs with ⟨hb, hv⟩ | ⟨ef, et, hf, ht⟩
  · exact .inl ⟨by cases h.symm.trans hv; rfl, hb⟩
  · refine .inr ((Nat.lt_or_ge u32Max bs.length).symm.imp_left fun hl v hv => ?_)
    rw [convertTop_eq bs hf ht, convert_is_reencode bs hl v hv] at h
    split at h <;> cases h

/-- Converting twice equals converting once (for inputs that are well-formed values). -/
theorem convert_idem (frm : Option (Nat × Nat)) (to : Nat × Nat) (bs bs' : Bytes) (v : Value)
    (hv : decodeTop .std bs = .ok v) (hl : bs.length ≤ u32Max) (hl' : bs'.length ≤ u32Max)
    (h : convertTop frm to bs = .ok bs') : convertTop frm to bs' = .ok bs' := by
  rcases convertTop_cases frm to bs with ⟨_, hv'⟩ | ⟨ef, et, hf, ht⟩
  · cases h.symm.trans hv'
  · by_cases hc : et = .v1 ∧ ef = .v2
    · obtain ⟨rfl, rfl⟩ := hc
      obtain ⟨b, h1, h2, _⟩ := convert_preserves frm to bs v hf ht hv hl
      cases h.symm.trans h1
      cases h.symm.trans (convertTop_down hf ht hv hl)
      exact convertTop_down hf ht h2 hl'
    · exact convert_same_or_newer frm to bs' ef et hf ht hc

/-- The converter never stops because its recursion budget ran out. -/
theorem convert_total (frm : Option (Nat × Nat)) (to : Nat × Nat) (bs : Bytes) (hl : bs.length ≤ u32Max) :
    convertTop frm to bs ≠ .error .fuel := by
  intro h
  rcases convertTop_cases frm to bs with ⟨_, hv⟩ | ⟨ef, et, hf, ht⟩
  · cases h.symm.trans hv
  · have hn := conv_dec_all.1 (fuelFor bs) bs 0 hl
    rw [convertTop_eq bs hf ht] at h
    split at h
    · split at h
      · rename_i hc; cases h
        rw [hc, norm_err, cls_fuel, eq_comm, norm_eq_fuel, view1_eq_err] at hn
        exact dec_total .lax bs 0 hn
      · split at h <;> cases h
    · cases h

/-- Non-vacuity: a V2 vector of two `u8`s (`[43, 1, 3, 7, 1, 3, 9, 0]`) converts to the V1 form. -/
example : convertTop none (1, 14) [43, 1, 3, 7, 1, 3, 9, 0] = .ok [17, 2, 3, 7, 3, 9] := by rfl

end Aldrin
