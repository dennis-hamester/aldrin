/-
C04 — Event delivery matches subscriptions; owner sees 0<->1 transitions.

Statement (properties.jsonl): an event emitted by a service's owner is delivered exactly once, payload
unchanged, to every connection that at that moment is subscribed to that event id or to all events of
the service, and to no other connection; events emitted by non-owners are dropped. The owner is told to
start or stop producing an event (or all events) exactly when the number of subscribed connections
changes between zero and non-zero. When a service is destroyed, each subscribed connection is notified
once and its subscriptions to that service end.

What is proved here (model M4 of `broker/src/broker/service.rs` and the event handlers):
* the fan-out of `emit_event`, for every broker state (`fanout_exact`, `foreign_emit_dropped`);
* the subscriber bookkeeping of a service for ALL histories of subscribe / unsubscribe on an event id:
  `first` / `last` (which trigger the message to the owner) are raised exactly when the subscriber set
  changes between empty and non-empty, membership changes only for the acting connection, and no empty
  entry is kept (`subscribe_transition`, `unsubscribe_transition`, `transitions_all_histories`), likewise for
  the all-events set (`subscribe_all_transition`, `unsubscribe_all_transition`).
* who is told that a service is destroyed, for every service entry: exactly the connections subscribed to one of its
  events or to the service itself, each once (`service_destroyed_audience`); `remove_service` queues one
  `ServiceDestroyed` notification for each of them that is still connected, each once, and nothing else
  (`service_destroyed_queued_once`; the work loop then sends one message per queued notification).
Partial: agreement of the per-connection mirror (`ConnectionState.events`) with the per-service sets over
histories with disconnects is tied by the correspondence runs, not proved; the owner's client-side record of what
it was told to produce by scenario B of the `sys` harness.
-/
import Aldrin.Lemmas.Broker.Events
import Aldrin.Lemmas.Broker.SvcDestroyed

namespace Aldrin.Broker

theorem fanout_exact {s : St} {id svc ev p} {emitter : Conn} {oid : ObjId} {su info} {o : Obj}
    (hc : AL.find? id s.b.conns = some emitter) (hs : AL.find? svc s.b.svcUuids = some (oid, su, info))
    (ho : AL.find? oid.uuid s.b.objs = some o) (hown : o.conn = id) :
    ∃ s', emitEvent s id svc ev p = .ok (s', true) ∧
      s'.out = s.out ++ s.b.conns.filterMap (fun q => if q.2.isSubscribedToEvent svc ev then
        (match AL.find? q.1 s.b.conns with
          | some c => if c.alive then some ⟨q.1, .emitEvent svc ev p, some emitter.version⟩ else none
          | none => none) else none) := by
  unfold emitEvent
  simp only [St.conn?_def, hc, hs, ho, hown, ne_eq, not_true_eq_false, ↓reduceIte, okH]
  refine ⟨_, rfl, foldl_says _ s.b.conns _ (fun t q ht => ?_) _ s rfl⟩
  by_cases hq : q.2.isSubscribedToEvent svc ev = true
  · simp only [hq, ↓reduceIte, St.sendOrRemove_out, St.sendOrRemove_b_conns, aliveB, ht, and_true]
    cases AL.find? q.1 s.b.conns with
    | none => rfl
    | some c => cases h : c.alive <;> simp [h]
  · simp only [hq, Bool.false_eq_true, ↓reduceIte, Option.toList_none, List.append_nil, ht, and_self]

theorem foreign_emit_dropped {s : St} {id svc ev p} {emitter : Conn} {oid : ObjId} {su info} {o : Obj}
    (hc : AL.find? id s.b.conns = some emitter) (hs : AL.find? svc s.b.svcUuids = some (oid, su, info))
    (ho : AL.find? oid.uuid s.b.objs = some o) (hne : o.conn ≠ id) :
    emitEvent s id svc ev p = .ok (s, true) := by
  unfold emitEvent
  simp [hc, hs, ho, hne, okH]

theorem subscribe_transition (s : Svc) (ev : Nat) (c : ConnId) (h : s.OK) :
    ((s.subscribeEvent ev c).2 = true ↔ s.subscribers ev = []) ∧
    (∀ x, x ∈ (s.subscribeEvent ev c).1.subscribers ev ↔ x = c ∨ x ∈ s.subscribers ev) ∧
    (∀ ev', ev' ≠ ev → (s.subscribeEvent ev c).1.subscribers ev' = s.subscribers ev') ∧
    (s.subscribeEvent ev c).1.OK := Svc.subscribeEvent_spec s ev c h

theorem unsubscribe_transition (s : Svc) (ev : Nat) (c : ConnId) (h : s.OK) :
    ((s.unsubscribeEvent ev c).2 = true ↔ (s.subscribers ev ≠ [] ∧ (s.unsubscribeEvent ev c).1.subscribers ev = [])) ∧
    (∀ x, x ∈ (s.unsubscribeEvent ev c).1.subscribers ev ↔ x ≠ c ∧ x ∈ s.subscribers ev) ∧
    (∀ ev', ev' ≠ ev → (s.unsubscribeEvent ev c).1.subscribers ev' = s.subscribers ev') ∧
    (s.unsubscribeEvent ev c).1.OK := Svc.unsubscribeEvent_spec s ev c h

theorem subscribe_all_transition (s : Svc) (c : ConnId) :
    ((s.subscribeAll c).2 = true ↔ s.allEvents = []) ∧
    (∀ x, x ∈ (s.subscribeAll c).1.allEvents ↔ x = c ∨ x ∈ s.allEvents) := by
  unfold Svc.subscribeAll
  simp [mem_sinsert, List.isEmpty_iff]

theorem unsubscribe_all_transition (s : Svc) (c : ConnId) :
    ((s.unsubscribeAll c).2 = true ↔ (s.allEvents ≠ [] ∧ (s.unsubscribeAll c).1.allEvents = [])) ∧
    (∀ x, x ∈ (s.unsubscribeAll c).1.allEvents ↔ x ≠ c ∧ x ∈ s.allEvents) := by
  unfold Svc.unsubscribeAll
  simp [mem_sremove, List.isEmpty_iff]

/-- all histories of subscribe / unsubscribe by any connections on one event id of a new service: at
every step the flag that makes the broker notify the owner is raised iff emptiness of the subscriber
set flipped -/
theorem transitions_all_histories (ev : Nat) (ops : List SubOp) (c oc : Cookie) :
    (ops.foldl (fun (a : Svc × Prop) op => ((a.1.applySub ev op).1,
        a.2 ∧ (((a.1.applySub ev op).2 = true) ↔
          ((a.1.subscribers ev = []) ≠ (((a.1.applySub ev op).1).subscribers ev = []))))) ({ cookie := c, objCookie := oc }, True)).2 :=
  (Svc.history_transitions ev ops _ (Svc.new_ok c oc) True trivial).1

/-! non-vacuity: two subscribers, the owner is told once to start and once to stop -/
example : (match run {} {} [.newConn 0 20, .newConn 1 20, .newConn 2 20, .msg 0 (.createObject 1 5),
      .msg 0 (.createService 2 0 6 1), .msg 1 (.subscribeEvent (some 3) 1 7), .msg 2 (.subscribeEvent (some 4) 1 7),
      .msg 0 (.emitEvent 1 7 [3, 9]), .msg 1 (.unsubscribeEvent 1 7), .msg 2 (.unsubscribeEvent 1 7)] with
    | .ok (_, _, outs) => outs.drop 5 | .error _ => []) =
    [[⟨1, .subscribeEventReply 3 .ok, none⟩, ⟨0, .subscribeEvent 1 7, none⟩], [⟨2, .subscribeEventReply 4 .ok, none⟩],
     [⟨1, .emitEvent 1 7 [3, 9], some 20⟩, ⟨2, .emitEvent 1 7 [3, 9], some 20⟩], [], [⟨0, .unsubscribeEvent 1 7, none⟩]] := by decide

/-- **Who is told that a service is gone**: `Service::subscribed_conn_ids` lists exactly the connections subscribed to
one of the service's events or to the service itself, and lists each once. -/
theorem service_destroyed_audience (s : Svc) :
    s.subscribedConnIds.Nodup ∧ ∀ x, x ∈ s.subscribedConnIds ↔ (∃ p, p ∈ s.events ∧ x ∈ p.2) ∨ x ∈ s.subs := by
  unfold Svc.subscribedConnIds
  obtain ⟨h1, h2⟩ := foldl_events_spec s.events [] List.nodup_nil
  obtain ⟨g1, g2⟩ := foldl_sinsert_spec s.subs _ h1
  refine ⟨g1, fun x => ?_⟩
  simp only [Function.comp, g2, h2]
  simp

/-- … and `remove_service` queues, for a list of such connections, one `ServiceDestroyed` notification per connection of
the list that is still there (in turn, newest first), and nothing else. With `service_destroyed_audience`: each
subscribed connection that is still connected is notified once. -/
theorem service_destroyed_queued_once (svcCookie : Cookie) (l : List ConnId) (s : St) :
    (l.foldl (fun s cid =>
          match s.conn? cid with
          | some c =>
            let s := s.setConn cid (c.unsubscribeAllOf svcCookie)
            (s.setWServicesDestroyed ((cid, svcCookie) :: s.w.servicesDestroyed))
          | none => s) s).w.servicesDestroyed =
      ((l.filter (fun cid => (s.conn? cid).isSome)).map (fun cid => (cid, svcCookie))).reverse ++ s.w.servicesDestroyed :=
  (queue_destroyed_spec svcCookie l s).1

end Aldrin.Broker
