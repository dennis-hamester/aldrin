/-
C15 — Client termination: every pending operation resolves at any fault point.

Statement (properties.jsonl): whenever a client stops — shutdown requested, last handle dropped, broker
shutdown, or the transport failing or closing at any point — its run future returns (ok for the clean cases,
the transport error otherwise) and every operation pending or started afterwards on any of its handles,
objects, services, proxies, channels and listeners completes with a shutdown error or end-of-stream instead
of hanging. The broker side observes the connection as closed and cleans up.

What is proved here, on the model of `Client::run` (`Model/Client.lean`: `recv`, `sent`, `transportFailed`,
`flushed` around `onRecv` / `onSend`), for histories of any length:

* `fault_at_any_point_returns_transport_error` — wherever in a history the transport fails, if the client had
  not returned before, it returns the transport error, and nothing that happens afterwards changes that;
* `stopped_is_final` — a client that has returned stays returned with the same result;
* `own_shutdown_then_brokers_returns_ok`, `brokers_shutdown_then_flush_returns_ok` — the two clean exchanges
  end in `Ok(())`, whatever the broker sends in between: while draining the client looks at nothing but
  `Shutdown` (`draining_ignores_everything_else`), in particular it cannot stop with
  `UnexpectedMessageReceived` any more;
* `result_is_unexpected_only_by_refusal` — `UnexpectedMessageReceived` is returned only for a message that
  `handle_message` refuses while the client is in its main loop.

Partial (see DESIGN.md): that every pending operation completes once the client has returned is Rust drop
semantics (the maps own the `oneshot` senders; dropping `Client` drops them, which wakes the receivers with
`Canceled`, mapped to `Error::Shutdown`). The model has no notion of it. It is checked by the runs of
`harness/src/bin/sys.rs`: for every scenario with a fault at the k-th transport operation (k random per
scenario, both kinds) and for the four clean causes, every operation task must be complete once the system
is quiescent, operations started after the stop must complete at once, the run result must be the one this
model computes (`cend` lines), the broker must count no connection, object, service, channel or listener.
-/
import Aldrin.Lemmas.Client.Serial

namespace Aldrin.Client
open Aldrin.Broker

/-- what happens to a running client, seen at its transport -/
inductive REv where
  | got (m : Rsp)
  | sent (r : Option Req)       -- `none` = its own `Shutdown`
  | fail                        -- the transport reports an error or the end of the stream
  | flushed
  deriving Repr

def stepR (s : CSt) : REv → CSt
  | .got m => (recv s m).1
  | .sent r => sent s r
  | .fail => transportFailed s
  | .flushed => flushed s

def runR (s : CSt) (h : List REv) : CSt := h.foldl stepR s

def CSt.result (s : CSt) : Option StopResult :=
  match s.phase with
  | .stopped r => some r
  | _ => none

theorem stepR_stopped (s : CSt) (e : REv) (r : StopResult) (h : s.phase = .stopped r) : (stepR s e).phase = .stopped r := by
  cases e with
  | got m => simp [stepR, recv, h]
  | sent o =>
    cases o with
    | none => simp [stepR, sent, h]
    | some q => simp [stepR, sent, onSend_phase, h]
  | fail => simp [stepR, transportFailed, h]
  | flushed => simp [stepR, flushed, h]

theorem stopped_is_final (s : CSt) (h : List REv) (r : StopResult) (hs : s.phase = .stopped r) :
    (runR s h).phase = .stopped r := by
  induction h generalizing s with
  | nil => exact hs
  | cons e h ih => exact ih _ (stepR_stopped s e r hs)

theorem runR_append (s : CSt) (h1 h2 : List REv) : runR s (h1 ++ h2) = runR (runR s h1) h2 := by
  simp [runR, List.foldl_append]

theorem fault_at_any_point_returns_transport_error (s : CSt) (before after : List REv)
    (hrun : (runR s before).result = none) :
    (runR s (before ++ [.fail] ++ after)).result = some .transport := by
  rw [List.append_assoc, runR_append, runR_append]
  have h1 : (runR (runR s before) [.fail]).phase = .stopped .transport := by
    generalize runR s before = t at hrun
    simp only [runR, List.foldl, stepR, transportFailed]
    cases hp : t.phase <;> simp_all [CSt.result]
  simp [CSt.result, stopped_is_final _ after _ h1]

/-- and if it had returned before, the fault changes nothing -/
theorem fault_after_return_changes_nothing (s : CSt) (before after : List REv) (r : StopResult)
    (hrun : (runR s before).result = some r) :
    (runR s (before ++ [.fail] ++ after)).result = some r := by
  rw [List.append_assoc, runR_append]
  have hp : (runR s before).phase = .stopped r := by
    simp only [CSt.result] at hrun
    split at hrun <;> simp_all
  simp [CSt.result, stopped_is_final _ _ _ hp]

theorem draining_ignores_everything_else (s : CSt) (w : Bool) (m : Rsp) (hs : s.phase = .draining w) (hm : m ≠ .shutdown) :
    recv s m = (s, "ok") := by
  simp [recv, hs, hm]

/-- messages other than `Shutdown` -/
def noShutdown (h : List REv) : Prop := ∀ e ∈ h, (∀ m, e = .got m → m ≠ .shutdown) ∧ e ≠ .fail ∧ e ≠ .flushed

theorem draining_stays (s : CSt) (h : List REv) (hs : s.phase = .draining true) (hn : noShutdown h) :
    (runR s h).phase = .draining true := by
  induction h generalizing s with
  | nil => exact hs
  | cons e h ih =>
    have he := hn e (by simp)
    have hn' : noShutdown h := fun e' he' => hn e' (by simp [he'])
    apply ih _ _ hn'
    cases e with
    | got m => simp [stepR, draining_ignores_everything_else s true m hs (he.1 m rfl), hs]
    | sent o =>
      cases o with
      | none => simp [stepR, sent, hs]
      | some q => simp [stepR, sent, onSend_phase, hs]
    | fail => exact absurd rfl he.2.1
    | flushed => exact absurd rfl he.2.2

/-- the client stops on its own (shutdown requested, or the last handle is gone): it says `Shutdown`, ignores
whatever else arrives, and returns `Ok(())` when the broker's `Shutdown` comes -/
theorem own_shutdown_then_brokers_returns_ok (s : CSt) (between after : List REv) (hs : s.phase = .running)
    (hn : noShutdown between) :
    (runR s ([.sent none] ++ between ++ [.got .shutdown] ++ after)).result = some .clean := by
  rw [List.append_assoc, List.append_assoc, runR_append, runR_append, runR_append]
  have h1 : (runR s [.sent none]).phase = .draining true := by simp [runR, stepR, sent, hs]
  have h2 := draining_stays _ between h1 hn
  have h3 : (runR (runR (runR s [.sent none]) between) [.got .shutdown]).phase = .stopped .clean := by
    generalize runR (runR s [.sent none]) between = t at h2
    simp [runR, stepR, recv, h2]
  simp [CSt.result, stopped_is_final _ after _ h3]

/-- the broker says `Shutdown` first: the client answers and returns `Ok(())` once its answer is flushed -/
theorem brokers_shutdown_then_flush_returns_ok (s : CSt) (q : Option Req) (after : List REv) (hs : s.phase = .running)
    (hq : q = none) :
    (runR s ([.got .shutdown, .sent q, .flushed] ++ after)).result = some .clean := by
  subst hq
  rw [runR_append]
  have h3 : (runR s [.got .shutdown, .sent none, .flushed]).phase = .stopped .clean := by
    simp [runR, stepR, recv, hs, onRecv, sent, flushed]
  simp [CSt.result, stopped_is_final _ after _ h3]

/-- one step can only produce `unexpected` from the main loop, on a message `handle_message` refuses -/
theorem result_is_unexpected_only_by_refusal (s : CSt) (e : REv) (hs : s.result ≠ some .unexpected)
    (h : (stepR s e).result = some .unexpected) :
    ∃ m, e = .got m ∧ s.phase = .running ∧ onRecv s m = .unexpected := by
  cases e with
  | got m =>
    refine ⟨m, rfl, ?_⟩
    simp only [stepR, recv] at h
    cases hp : s.phase with
    | running =>
      simp only [hp] at h
      cases ho : onRecv s m with
      | ok s1 =>
        have := (onRecv_phase_version ho).1
        simp_all [CSt.result]
      | _ => simp_all [CSt.result]
    | draining w =>
      simp only [hp] at h
      cases w <;> split at h <;> simp_all [CSt.result]
    | stopped r => simp_all [CSt.result]
  | sent o =>
    cases o with
    | none =>
      simp only [stepR, sent] at h
      cases hp : s.phase <;> simp_all [CSt.result]
    | some q =>
      have := onSend_phase s q
      simp_all [stepR, sent, CSt.result]
  | fail =>
    simp only [stepR, transportFailed] at h
    cases hp : s.phase <;> simp_all [CSt.result]
  | flushed =>
    simp only [stepR, flushed] at h
    cases hp : s.phase with
    | draining w => cases w <;> simp_all [CSt.result]
    | _ => simp_all [CSt.result]

/-! ### non-vacuity -/

example : (runR { version := 20 } [.sent (some (.sync 0)), .got (.syncReply 0), .sent none, .got (.itemReceived 3 []),
    .got .shutdown, .got (.syncReply 5)]).result = some .clean := by decide
example : (runR { version := 20 } [.sent (some (.sync 0)), .fail, .got (.syncReply 0)]).result = some .transport := by decide
example : (runR { version := 20 } [.got (.itemReceived 3 [])]).result = some .unexpected := by decide

end Aldrin.Client
