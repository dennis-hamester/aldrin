/-
C02 — Every accepted call gets exactly one correctly routed reply.

Statement (properties.jsonl): for every function call a connected client sends, that client receives
exactly one reply carrying its own serial, as long as it stays connected and one of these happens: the
service owner answers, the caller aborts, the service does not exist or it (or its object) is
destroyed, or the owner disconnects. The reply carries the owner's result and payload unchanged when
the owner answered first, otherwise the synthesized outcome (invalid-service or aborted); replies from
non-owners, duplicate replies and replies after an abort are never delivered.

What is proved here (model M4).

*Every history* (`Broker.run`, any interleaving of requests of any connections, connects, disconnects in the four
ways, shutdown), from any state:
* `call_replies_balance`: for a connection `c` that is there at the end with its task running and a caller serial
  `n`: replies with serial `n` put into `c`'s queue + (1 if a call `(c, n)` is pending at the end) = (1 if one was
  pending at the start) + the calls `(c, n)` the broker took. No invariant is assumed: the law holds from any state.
* `replies_never_exceed_calls`: so never more replies than calls — a reply from a non-owner, a second reply, a reply
  after an abort, an abort of an unknown call, the destruction of services and objects, disconnects of anyone never
  add a reply `c` did not ask for.
* `well_behaved_caller_exactly_once`: if `c` sends a call with serial `n` only while no earlier one with that serial
  is pending (and `CallFunction2` only with a version that has it), replies + pending = calls: each call is answered
  exactly once, except that the last may still be pending. Reuse of a serial after a reply or an abort is covered.
* `fresh_connection_balance`: a connection starts with no pending call.

*Every reachable state* (`Reachable`: states of `Broker::run` between two events, fewer than 2³² calls pending at a
time — with 2³² the implementation's `SerialMap::insert` does not return), by the invariant `XrefP`
(`Lemmas/Broker/XP.lean`, `Xref.lean`, `Xref2.lean`) between the per-connection call tables, `function_calls` and
the two deferred lists:
* `pending_entry_is_live_call`, `live_call_is_pending_at_its_caller`: an entry `n ↦ bs` of connection `c` is the
  pending, not aborted call `bs` of `(c, n)`, and every call that is not aborted is in the table of its caller, which
  is still connected;
* `owner_reply_delivered`: when the owner of the called object answers `bs` with result `r`, the turn of the broker
  puts exactly one message into a queue: `CallFunctionReply(n, r)` for `c` — the caller's serial, the owner's result
  and payload — and the call is gone from both tables;
* `foreign_reply_not_delivered`: a reply from any other connection puts nothing into any queue and the call stays;
* `abort_is_answered`: when `c` aborts its pending call `(c, n)` and is still served after the turn, exactly one
  `CallFunctionReply` with serial `n` was put into its queue in that turn, it says `Aborted`, and the call is no longer
  pending at `c` — whatever else the turn does (a callee whose task is gone is removed with all it owns).

*Every state, one handler*: `no_service`, `owner_reply_forwarded`, `unknown_reply_ignored`,
`foreign_reply_ignored`, `abort_answers_once`, `reply_after_abort_is_dropped`, `abort_twice_silent`.

*Every reachable state, the callee's side* (`Lemmas/Broker/{XCallee,CalView,Callee}.lean`: the invariant `Cal`
between `function_calls` and `Service::function_calls`, together with the registry invariant of C03):
* `pending_call_has_live_callee`: every call in the broker's table is held by the service entry it is for; that
  service is registered, its object exists and lists it, and the owner of the object is connected;
* `pending_entry_has_live_callee`: hence a call that is still pending at its caller has a live callee. Read the other
  way round: once the service has been destroyed, or its object, or the owner has disconnected (in any of the four
  ways), the call is no longer pending at the caller — and by `well_behaved_caller_exactly_once` (replies + pending =
  calls) exactly one reply has then been delivered for it (`ended_callee_means_answered` spells out the arithmetic);
* `service_holds_only_live_calls`: what a service entry holds is a call in the table for that very service, once.

Partial: that the synthesized reply says `InvalidService` (rather than being the owner's or `Aborted`) is tied by the
correspondence runs (all interleavings the harness generates, with serial reuse, also right after an abort).
-/
import Aldrin.Lemmas.Broker.Handlers
import Aldrin.Lemmas.Broker.Xref2
import Aldrin.Lemmas.Broker.CallBalance
import Aldrin.Lemmas.Broker.Callee
import Aldrin.Lemmas.Broker.SvcCalls

namespace Aldrin.Broker
open Generated


theorem no_service {s : St} {id serial svc f v p} {c : Conn}
    (hc : AL.find? id s.b.conns = some c) (hs : AL.find? svc s.b.svcUuids = none) :
    callFunctionImpl s id serial svc f v p = .ok (s.send id (.callFunctionReply serial .invalidService)) := by
  unfold callFunctionImpl; simp [hc, hs]

theorem unknown_reply_ignored {s : St} {id serial r} (hn : s.b.calls.get? serial = none) :
    callFunctionReply s id serial r = .ok (s, true) := reply_unknown_ignored hn

theorem foreign_reply_ignored {s : St} {id serial r} {call : Call} {o : Obj} {c : Conn}
    (hc : AL.find? id s.b.conns = some c) (hcall : s.b.calls.get? serial = some call)
    (ho : AL.find? call.calleeObj s.b.objs = some o) (hne : o.conn ≠ id) :
    callFunctionReply s id serial r = .ok (s, true) := by
  unfold callFunctionReply
  simp [hc, hcall, ho, hne, okH]

theorem owner_reply_forwarded {s : St} {id serial r} {call : Call} {o : Obj} {c caller : Conn} {sv : Svc} {x}
    (hc : AL.find? id s.b.conns = some c) (hcall : s.b.calls.get? serial = some call)
    (ho : AL.find? call.calleeObj s.b.objs = some o) (hown : o.conn = id)
    (hsv : AL.find? (call.calleeObj, call.calleeSvc) s.b.svcs = some sv)
    (hna : call.aborted = false)
    (hcaller : AL.find? call.callerConn s.b.conns = some caller) (halive : caller.alive = true)
    (hreg : AL.find? call.callerSerial caller.calls = some x) :
    ∃ s', callFunctionReply s id serial r = .ok (s', true) ∧
      s'.b.calls.get? serial = none ∧
      s'.out = s.out ++ [⟨call.callerConn, .callFunctionReply call.callerSerial r, some c.version⟩] :=
  let ⟨s', h, hcalls, hout, _⟩ := reply_owner_forwarded hc hcall ho hown hsv hna hcaller halive hreg
  ⟨s', h, hcalls, hout⟩

theorem reply_after_abort_is_dropped {s : St} {id serial r} {call : Call} {o : Obj} {c : Conn} {sv : Svc}
    (hc : AL.find? id s.b.conns = some c) (hcall : s.b.calls.get? serial = some call)
    (ho : AL.find? call.calleeObj s.b.objs = some o) (hown : o.conn = id)
    (hsv : AL.find? (call.calleeObj, call.calleeSvc) s.b.svcs = some sv) (ha : call.aborted = true) :
    ∃ s', callFunctionReply s id serial r = .ok (s', true) ∧ s'.out = s.out ∧ s'.b.calls.get? serial = none := by
  unfold callFunctionReply
  simp only [St.conn?_def, hc, hcall, ho, hown, ne_eq, not_true_eq_false, ↓reduceIte, St.setCalls_b_svcs, hsv, ha, okH]
  refine ⟨_, rfl, by simp, ?_⟩
  simp [SerialMap.get?, SerialMap.remove]

/-- `abort_call` for a callee that is not connected (`hnc`), so that the reply to the caller is all there is to send; with
the callee there (and from 1.16 on) the abort is forwarded to it first; `abort_is_answered` speaks of the whole turn -/
theorem abort_answers_once {s s' : St} {serial cid} {call : Call} {caller : Conn} {x}
    (hcall : s.b.calls.get? serial = some call) (hna : call.aborted = false)
    (hcaller : AL.find? call.callerConn s.b.conns = some caller) (hreg : AL.find? call.callerSerial caller.calls = some x)
    (hnc : AL.find? cid s.b.conns = none) (h : abortCall s serial cid = .ok s') :
    s'.b.calls.get? serial = some { call with aborted := true } ∧
    (caller.alive = true → s'.out = s.out ++ [⟨call.callerConn, .callFunctionReply call.callerSerial .aborted, none⟩]) := by
  unfold abortCall at h
  simp only [hcall, hna, Bool.false_eq_true, ↓reduceIte, St.conn?_def, St.setCalls_b_conns, hnc, hcaller, hreg,
    Option.isNone_some, Except.ok.injEq] at h
  subst h
  constructor
  · simp only [St.sendOrRemove_b_calls, St.setConn_b_calls, St.setCalls_b_calls]
    simp [SerialMap.get?, SerialMap.set]
  · intro ha
    rw [St.sendOrRemove_alive (c := { caller with calls := AL.erase call.callerSerial caller.calls }) _ _ (by simp) ha]
    simp

/-- an already aborted call is not answered again -/
theorem abort_twice_silent {s : St} {serial cid} {call : Call}
    (hcall : s.b.calls.get? serial = some call) (ha : call.aborted = true) : abortCall s serial cid = .ok s := by
  unfold abortCall; simp [hcall, ha]

/-! non-vacuity: call, abort by the caller, late reply by the owner (callee is 1.14: no abort forwarded) -/
example : (match run {} {} [.newConn 0 14, .newConn 1 20, .msg 0 (.createObject 1 5), .msg 0 (.createService 2 0 6 1),
      .msg 1 (.callFunction 9 1 0 [3, 7]), .msg 1 (.abortFunctionCall 9), .msg 0 (.callFunctionReply 0 (.ok [3, 8]))] with
    | .ok (b, _, outs) => (b.calls.elems.length, outs.drop 4) | .error _ => (99, [])) =
    (0, [[⟨0, .callFunction 0 1 0 [3, 7], some 20⟩], [⟨1, .callFunctionReply 9 .aborted, none⟩], []]) := by decide


/-! ### every history: the balance of calls and replies -/


/-- the connection is known to the broker and its task still takes messages -/
def Live (b : Broker) (c : ConnId) : Prop := ∃ conn, AL.find? c b.conns = some conn ∧ conn.alive = true

/-- 1 if the broker holds a pending call of connection `c` under the caller's serial `n`, else 0 -/
def pendingCall (b : Broker) (c n : Nat) : Nat :=
  match AL.find? c b.conns with
  | some conn => if (AL.find? n conn.calls).isSome then 1 else 0
  | none => 0

/-- how many `CallFunctionReply` messages with serial `n` were put into the queue of connection `c` -/
def callReplies (c n : Nat) (outs : List (List Out)) : Nat := reps c n outs.flatten

theorem live_iff_ck {b : Broker} {w : Work} {c : ConnId} : Live b c ↔ ∃ t, ck ⟨b, w, []⟩ c = some (t, true) := by
  simp only [Live, ck_eq_some]
  exact ⟨fun ⟨conn, h1, h2⟩ => ⟨_, conn, h1, rfl, h2⟩, fun ⟨_, conn, h1, _, h2⟩ => ⟨conn, h1, h2⟩⟩

theorem pendingCall_of_ck {b : Broker} {w : Work} {c n : Nat} {t : CallTbl} {a : Bool} (h : ck ⟨b, w, []⟩ c = some (t, a)) :
    pendingCall b c n = pendC t n := by
  obtain ⟨conn, hc, rfl, -⟩ := ck_eq_some.1 h
  simp [pendingCall, pendC, hc]

theorem pendingCall_le_one (b : Broker) (c n : Nat) : pendingCall b c n ≤ 1 := by
  unfold pendingCall; split
  · split <;> omega
  · omega

/-- **Balance of calls and replies, every history.** Start in any state of the broker and run any history in which
connection `c` does not arrive anew. If `c` is there at the end with its task running, it was so all along, and the
replies with serial `n` put into its queue, plus the call `(c, n)` still pending at the end, are exactly the call that
was pending at the start plus the calls `(c, n)` the broker took. -/
theorem call_replies_balance (es : List Event) (b : Broker) (w : Work) (b' : Broker) (w' : Work) (outs : List (List Out))
    (hr : run b w es = .ok (b', w', outs)) (c n : Nat) (hn : ∀ v, Event.newConn c v ∉ es) (hl : Live b' c) :
    Live b c ∧ callReplies c n outs + pendingCall b' c n = pendingCall b c n + taken c n b w es := by
  obtain ⟨t', ht⟩ := (live_iff_ck (w := w')).1 hl
  obtain ⟨t, e, q, -⟩ := run_bal (n := n) es b w b' w' outs hr hn t' ht
  exact ⟨(live_iff_ck (w := w)).2 ⟨t, e⟩, by rw [pendingCall_of_ck ht, pendingCall_of_ck e]; exact q⟩

/-- Never more replies than calls: whatever the owners of services, other connections and `c` itself do — replies from
connections that do not own the service, second replies, replies after an abort, aborts of unknown calls, destruction
of services and objects, disconnects — the number of replies with serial `n` that reach `c` is at most the number of
calls it sent with that serial (plus the one that was pending at the start). -/
theorem replies_never_exceed_calls (es : List Event) (b : Broker) (w : Work) (b' : Broker) (w' : Work) (outs : List (List Out))
    (hr : run b w es = .ok (b', w', outs)) (c n : Nat) (hn : ∀ v, Event.newConn c v ∉ es) (hl : Live b' c) :
    callReplies c n outs + pendingCall b' c n ≤ pendingCall b c n + callReqs c n es := by
  have := (call_replies_balance es b w b' w' outs hr c n hn hl).2
  have := taken_le c n es b w
  omega

/-- **Exactly one reply per call.** If `c` keeps to the protocol for serial `n` (it sends a call with serial `n` only
while no earlier call with that serial is pending; `wellBehaved`), then replies + the pending call = calls: every call
`(c, n)` but possibly the last has been answered exactly once, the last one is answered or still pending, and nothing
else with that serial was delivered. Serial reuse after a reply or an abort is covered: the statement counts. -/
theorem well_behaved_caller_exactly_once (es : List Event) (b : Broker) (w : Work) (b' : Broker) (w' : Work)
    (outs : List (List Out)) (hr : run b w es = .ok (b', w', outs)) (c n : Nat) (hn : ∀ v, Event.newConn c v ∉ es)
    (hl : Live b' c) (hwb : wellBehaved c n b w es = true) :
    callReplies c n outs + pendingCall b' c n = pendingCall b c n + callReqs c n es := by
  obtain ⟨t', ht⟩ := (live_iff_ck (w := w')).1 hl
  have h1 := (call_replies_balance es b w b' w' outs hr c n hn hl).2
  obtain ⟨-, -, -, h2⟩ := run_bal (n := n) es b w b' w' outs hr hn t' ht
  have h2 := h2 hwb
  omega

/-- a connection starts with no pending call: for a history that begins with the arrival of `c` -/
theorem fresh_connection_balance (v : Nat) (es : List Event) (b : Broker) (w : Work) (b' : Broker) (w' : Work) (outs : List (List Out))
    (hr : run b w (.newConn c v :: es) = .ok (b', w', outs)) (n : Nat) (hn : ∀ v, Event.newConn c v ∉ es) (hl : Live b' c) :
    callReplies c n outs + pendingCall b' c n = taken c n b w (.newConn c v :: es) ∧
    taken c n b w (.newConn c v :: es) ≤ callReqs c n es := by
  obtain ⟨b1, w1, out, outs', hstep, hrun, rfl⟩ := run_cons_ok hr
  obtain ⟨hl1, q⟩ := call_replies_balance es b1 w1 _ _ _ hrun c n hn hl
  obtain ⟨t1, e1⟩ := (live_iff_ck (w := w1)).1 hl1
  -- the turn that adds `c`
  have hfirst : reps c n out + pendingCall b1 c n = 0 := by
    obtain ⟨s1, h1, h2⟩ := step_ok hstep
    obtain ⟨-, rfl⟩ := handleEvent_newConn_ok h1
    obtain ⟨t0, e0, q0⟩ := processLoop_bal (c := c) (n := n) _ _ _ h2 t1 e1
    simp only [ck_stat, ck_setConn, ↓reduceIte, Option.some.injEq, Prod.mk.injEq] at e0
    rw [pendingCall_of_ck e1]
    rw [← e0.1] at q0
    simpa [pendC, AL.find?] using q0
  have ht : taken c n b w (.newConn c v :: es) = taken c n b1 w1 es := by simp [taken, takes, hstep]
  refine ⟨?_, ht ▸ taken_le c n es b1 w1⟩
  simp only [callReplies, List.flatten_cons, reps_append] at q ⊢
  omega


/-! non-vacuity: connection 1 calls with serial 9, aborts, calls again with serial 9 while the owner (1.20, so the abort is
forwarded) still holds the first call; the owner then answers the first call (dropped) and the second (delivered) -/
def reuseHist : List Event :=
  [.newConn 0 20, .newConn 1 20, .msg 0 (.createObject 1 5), .msg 0 (.createService 2 0 6 1),
   .msg 1 (.callFunction 9 1 0 [3, 7]), .msg 1 (.abortFunctionCall 9), .msg 1 (.callFunction 9 1 0 [3, 8]),
   .msg 0 (.callFunctionReply 0 (.ok [3, 1])), .msg 0 (.callFunctionReply 1 (.ok [3, 2]))]

example : (match run {} {} reuseHist with
    | .ok (b, _, outs) => (callReplies 1 9 outs, pendingCall b 1 9, callReqs 1 9 reuseHist, taken 1 9 {} {} reuseHist,
        (outs.flatten.filter (isRep 1 9)).map (·.msg))
    | .error _ => (99, 99, 99, 99, [])) =
    (2, 0, 2, 2, [.callFunctionReply 9 .aborted, .callFunctionReply 9 (.ok [3, 2])]) := by decide

example : wellBehaved 1 9 {} {} reuseHist = true := by decide

/-! ### every reachable state: the tables agree, the owner's reply reaches the caller -/


/-- **The caller's table and the broker's table agree, every reachable state.** An entry `n ↦ bs` in the table of
connection `c` is the pending call `bs` of `(c, n)`, not aborted … -/
theorem pending_entry_is_live_call {b : Broker} {w : Work} (h : Reachable b w) {c : ConnId} {conn : Conn} {n bs : Nat} {callee : ConnId}
    (hc : AL.find? c b.conns = some conn) (he : AL.find? n conn.calls = some (bs, callee)) :
    ∃ call, b.calls.get? bs = some call ∧ call.callerSerial = n ∧ call.callerConn = c ∧ call.aborted = false := by
  have hi := h.idle
  have hk : ck ⟨b, w, []⟩ c = some (conn.calls, conn.alive) := ck_of_find hc
  rcases hi.x.a c _ _ n bs callee hk he with h1 | ⟨_, r, hr⟩
  · exact h1
  · rw [hi.r] at hr; simp at hr

/-- … and a call that is not aborted is in the table of its caller, which is still there, under the caller's serial. -/
theorem live_call_is_pending_at_its_caller {b : Broker} {w : Work} (h : Reachable b w) {bs : Nat} {call : Call}
    (hg : b.calls.get? bs = some call) (hna : call.aborted = false) :
    ∃ conn callee, AL.find? call.callerConn b.conns = some conn ∧ AL.find? call.callerSerial conn.calls = some (bs, callee) :=
  h.idle.caller hg hna

/-- **The owner's reply reaches the caller, unchanged.** In a reachable state let connection `c` (task running) have
the pending call `n ↦ bs`. If the connection that owns the called object sends `CallFunctionReply(bs, r)`, the turn
of the broker puts exactly one message into a queue: `CallFunctionReply(n, r)` for `c` — the caller's serial, the
owner's result — and the call is gone from both tables. -/
theorem owner_reply_delivered {b b' : Broker} {w w' : Work} (h : Reachable b w) {c : ConnId} {conn : Conn} {n bs : Nat} {callee : ConnId}
    (hc : AL.find? c b.conns = some conn) (hal : conn.alive = true) (he : AL.find? n conn.calls = some (bs, callee))
    {id : ConnId} {sender : Conn} {r : CallResult} {call : Call} {obj : Obj} {out : List Out}
    (hid : AL.find? id b.conns = some sender) (hg : b.calls.get? bs = some call)
    (ho : AL.find? call.calleeObj b.objs = some obj) (hown : obj.conn = id)
    (hs : step b w (.msg id (.callFunctionReply bs r)) = .ok (b', w', out)) :
    out = [⟨c, .callFunctionReply n r, some sender.version⟩] ∧ pendingCall b' c n = 0 ∧ b'.calls.get? bs = none := by
  obtain ⟨call', hg', h1, h2, h3⟩ := pending_entry_is_live_call h hc he
  cases hg.symm.trans hg'
  obtain ⟨svc, _, _, _, hsv, -⟩ := callee_of_call (s := ⟨b, w, []⟩) h.cal h.reg.2 hg
  obtain ⟨s1, hcf, hget, hout, hw, hconn'⟩ := reply_owner_forwarded (s := ⟨b, w, []⟩) (r := r) hid hg ho hown hsv h3
    (by rw [h2]; exact hc) hal (by rw [h1]; exact he)
  obtain ⟨rfl, rfl, rfl⟩ := step_msg_quiet (m := .callFunctionReply bs r) h.idle.i hcf hw hs
  refine ⟨by simp [hout, h1, h2], ?_, by simpa using hget⟩
  rw [h2] at hconn'
  simp [pendingCall, hconn', h1, AL.find?_erase]

/-- **A reply from a connection that does not own the called object is not delivered**: nothing is put into any queue
and the call stays pending. -/
theorem foreign_reply_not_delivered {b b' : Broker} {w w' : Work} (h : Reachable b w) {bs : Nat}
    {id : ConnId} {sender : Conn} {r : CallResult} {call : Call} {obj : Obj} {out : List Out}
    (hid : AL.find? id b.conns = some sender) (hg : b.calls.get? bs = some call)
    (ho : AL.find? call.calleeObj b.objs = some obj) (hown : obj.conn ≠ id)
    (hs : step b w (.msg id (.callFunctionReply bs r)) = .ok (b', w', out)) :
    out = [] ∧ b'.calls.get? bs = some call ∧ b'.conns = b.conns := by
  obtain ⟨rfl, rfl, rfl⟩ := step_msg_quiet (m := .callFunctionReply bs r) h.idle.i (foreign_reply_ignored hid hg ho hown) rfl hs
  exact ⟨rfl, by simpa using hg, rfl⟩

/-! ### every reachable state: an abort is answered in the same turn -/

/-- what `abort_call` does to a live call whose caller is there with its task running -/
theorem abortCall_live_spec {sv} {s s' : St} (hx : XrefP sv s) {c : ConnId} {conn : Conn} {n bs : Nat} {callee cid : ConnId}
    (hc : AL.find? c s.b.conns = some conn) (hal : conn.alive = true) (he : AL.find? n conn.calls = some (bs, callee))
    (hR : ∀ r, (n, c, r) ∉ s.w.removeCalls) (h : abortCall s bs cid = .ok s') :
    repl c n s'.out = repl c n s.out ++ [⟨c, .callFunctionReply n .aborted, none⟩] ∧
    ck s' c = some (AL.erase n conn.calls, true) := by
  have hk : ck s c = some (conn.calls, conn.alive) := ck_of_find hc
  obtain ⟨call, hg, rfl, rfl, h3⟩ : ∃ call, s.b.calls.get? bs = some call ∧ call.callerSerial = n ∧ call.callerConn = c ∧ call.aborted = false := by
    rcases hx.a c _ _ n bs callee hk he with h1 | ⟨_, r, hr⟩
    · exact h1
    · exact absurd hr (hR r)
  -- the callee is told, which touches neither the caller's record nor its replies; then the reply reaches the caller
  rw [abortCall_eq] at h
  simp only [hg, h3, Bool.false_eq_true, ↓reduceIte] at h
  generalize hS : notifyCallee (s.setCalls (s.b.calls.set bs { call with aborted := true })) cid bs = S at h
  have hconns : S.b.conns = s.b.conns := by
    subst hS; rcases notifyCallee_cases _ cid bs with e | e <;> rw [e] <;> simp
  have hout : repl call.callerConn call.callerSerial S.out = repl call.callerConn call.callerSerial s.out := by
    subst hS; rcases notifyCallee_cases _ cid bs with e | e <;> rw [e]
    · rfl
    · rw [St.sendOrRemove_out]; split <;> simp [repl, isRep]
  rw [replyToCaller_alive (by rw [hconns]; exact hc) hal he] at h
  cases h
  exact ⟨by rw [St.setOut_out, repl_append, hout]; simp [repl, isRep], by simp [ck, St.setConn, AL.find?_insert, hal]⟩

/-- **An abort is answered in the same turn.** In a reachable state let connection `c` (version with
`AbortFunctionCall`) have the pending call `n ↦ bs`. If `c` aborts it and is still served after the turn, then exactly
one `CallFunctionReply` with serial `n` was put into its queue in that turn, it says `Aborted`, and the call is no
longer pending at `c` — whatever else the turn did (the callee may be gone, which removes it and everything it owns). -/
theorem abort_is_answered {b b' : Broker} {w w' : Work} (hre : Reachable b w) {c : ConnId} {conn : Conn} {n bs : Nat} {callee : ConnId}
    (hc : AL.find? c b.conns = some conn) (he : AL.find? n conn.calls = some (bs, callee))
    (hv : ¬ conn.version < gateAbortFunctionCall) {out : List Out}
    (hs : step b w (.msg c (.abortFunctionCall n)) = .ok (b', w', out)) (hl : Live b' c) :
    repl c n out = [⟨c, .callFunctionReply n .aborted, none⟩] ∧ pendingCall b' c n = 0 := by
  have hi := hre.idle
  -- the handler defers the abort, the loop takes it as its first item
  obtain ⟨r, k, hm, hlp⟩ := step_msg_ok hs
  obtain rfl : r = ((⟨b, w, []⟩ : St).setWAbortCalls [(bs, callee)], true) := by
    have : handleMessage ⟨b, w, []⟩ c (.abortFunctionCall n) = abortFunctionCall ⟨b, w, []⟩ c n := rfl
    simpa [this, abortFunctionCall, St.conn?, hc, hv, he, okH, hi.a] using hm.symm
  generalize hS : received _ c = S at hlp
  have hS0 : S.setWAbortCalls [] = (⟨b, w, []⟩ : St).stat (fun st => { st with messagesReceived := st.messagesReceived + 1 }) := by
    subst hS; simp [received, St.setWAbortCalls, St.stat, ← hi.a]
  obtain ⟨s2, hab, hl2⟩ := processLoop_item (St.pop_abortCalls (by rw [hS0]; exact hi.i) (by subst hS; rfl)) hlp
  replace hab : abortCall (S.setWAbortCalls []) bs callee = .ok s2 := hab
  -- `c` is served at the end, hence all along
  obtain ⟨t3, ht3⟩ := (live_iff_ck (w := w')).1 hl
  obtain ⟨t2, ht2, q⟩ := processLoop_bal (c := c) (n := n) _ _ _ hl2 t3 ht3
  have hal : conn.alive = true := by
    have := abortCall_alive hab c (ck_alive ht2)
    rw [hS0] at this
    simpa [aliveB, hc] using this
  obtain ⟨e1, e2⟩ := abortCall_live_spec (s := S.setWAbortCalls []) (by rw [hS0]; exact XrefP.of_eq (s := ⟨b, w, []⟩) rfl rfl rfl rfl hi.x)
    (by rw [hS0]; simpa using hc) hal he (by rw [hS0]; simp [hi.r]) hab
  rw [show repl c n (S.setWAbortCalls []).out = [] by rw [hS0]; rfl, List.nil_append] at e1
  rw [e2] at ht2
  simp only [Option.some.injEq, Prod.mk.injEq, and_true] at ht2
  subst ht2
  obtain ⟨l, hext⟩ := processLoop_repext (c := c) (n := n) _ _ _ hl2
  rw [e1] at hext
  simp only [reps_eq_length, hext, e1, List.length_append, List.length_cons, List.length_nil, pendC_erase_self] at q
  obtain rfl : l = [] := List.eq_nil_of_length_eq_zero (by omega)
  refine ⟨by simpa using hext, ?_⟩
  rw [pendingCall_of_ck ht3]; omega


/-! ### every reachable state: the callee's side -/

/-- **Every call in the table has a live callee.** The service entry it is for holds it, that service is registered
under its cookie, the object exists and lists the service, and the owner of the object is connected. -/
theorem pending_call_has_live_callee {b : Broker} {w : Work} (h : Reachable b w) {bs : Nat} {call : Call}
    (hg : b.calls.get? bs = some call) :
    ∃ sv info o owner, AL.find? (call.calleeObj, call.calleeSvc) b.svcs = some sv ∧ bs ∈ sv.calls ∧
      AL.find? sv.cookie b.svcUuids = some (⟨call.calleeObj, sv.objCookie⟩, call.calleeSvc, info) ∧
      AL.find? call.calleeObj b.objs = some o ∧ sv.cookie ∈ o.svcs ∧ AL.find? o.conn b.conns = some owner :=
  callee_of_call (s := ⟨b, w, []⟩) h.cal h.reg.2 hg

/-- **A call that is still pending at its caller has a live callee**: if connection `c` has the entry `n ↦ bs`, the
call `bs` is in the table, and its service, the service's object and the object's owner are all still there. So when
the service or its object has been destroyed, or the owner has disconnected, the entry is gone. -/
theorem pending_entry_has_live_callee {b : Broker} {w : Work} (h : Reachable b w) {c : ConnId} {conn : Conn} {n bs : Nat} {callee : ConnId}
    (hc : AL.find? c b.conns = some conn) (he : AL.find? n conn.calls = some (bs, callee)) :
    ∃ call sv o owner, b.calls.get? bs = some call ∧ call.callerSerial = n ∧ call.callerConn = c ∧ call.aborted = false ∧
      AL.find? (call.calleeObj, call.calleeSvc) b.svcs = some sv ∧ bs ∈ sv.calls ∧
      AL.find? call.calleeObj b.objs = some o ∧ AL.find? o.conn b.conns = some owner := by
  obtain ⟨call, hg, h1, h2, h3⟩ := pending_entry_is_live_call h hc he
  obtain ⟨sv, info, o, owner, q1, q2, _, q4, _, q6⟩ := pending_call_has_live_callee h hg
  exact ⟨call, sv, o, owner, hg, h1, h2, h3, q1, q2, q4, q6⟩

/-- what a service entry holds is a call in the table, for that service, and it holds it once -/
theorem service_holds_only_live_calls {b : Broker} {w : Work} (h : Reachable b w) {k : Uuid × Uuid} {sv : Svc}
    (hs : AL.find? k b.svcs = some sv) :
    sv.calls.Nodup ∧ ∀ bs, bs ∈ sv.calls → ∃ call, b.calls.get? bs = some call ∧ (call.calleeObj, call.calleeSvc) = k := by
  have hc := h.cal
  have hv : scv ⟨b, w, []⟩ k = some sv.calls := scv_find hs
  refine ⟨hc.j4 k _ hv, fun bs hm => ?_⟩
  have := hc.j2 k _ bs hv hm
  simp only [gk] at this
  split at this
  · rename_i call hcall; simp at this; exact ⟨call, hcall, by simp [this]⟩
  · simp at this

/-- **When the callee has ended, the call has been answered exactly once.** A history from any state that ends in a
reachable one; `c` is there at the end with its task running, did not arrive anew and kept to the protocol for serial
`n`. If whatever is registered at the end no longer contains a service with a connected owner for the call pending
under `(c, n)` — stated as: no entry `n` is left whose call has a live callee — then nothing is pending, and the
replies delivered with serial `n` are exactly the calls sent with it (plus the one pending at the start). -/
theorem ended_callee_means_answered (es : List Event) (b : Broker) (w : Work) (b' : Broker) (w' : Work)
    (outs : List (List Out)) (hr : run b w es = .ok (b', w', outs)) (hre : Reachable b' w') (c n : Nat)
    (hn : ∀ v, Event.newConn c v ∉ es) (hl : Live b' c) (hwb : wellBehaved c n b w es = true)
    (hgone : ∀ bs call, b'.calls.get? bs = some call → call.callerConn = c → call.callerSerial = n →
      AL.find? (call.calleeObj, call.calleeSvc) b'.svcs = none) :
    pendingCall b' c n = 0 ∧ callReplies c n outs = pendingCall b c n + callReqs c n es := by
  have hp : pendingCall b' c n = 0 := by
    -- an entry would have a live callee
    obtain ⟨conn, hc, -⟩ := hl
    cases he : AL.find? n conn.calls with
    | none => simp [pendingCall, hc, he]
    | some v =>
      obtain ⟨call, sv, o, owner, hg, h1, h2, _, q1, _⟩ := pending_entry_has_live_callee hre hc (bs := v.1) (callee := v.2) he
      rw [hgone v.1 call hg h2 h1] at q1; cases q1
  have := well_behaved_caller_exactly_once es b w b' w' outs hr c n hn hl hwb
  exact ⟨hp, by omega⟩

/-- **The calls pending at a service that goes are answered `InvalidService`.** `remove_service` (reached from
`DestroyService`, `DestroyObject` and the teardown of the owner's connection), from any state in which it succeeds: every
call in the service's set leaves the broker's call table, and for every one of them that has not been aborted exactly one
item `(caller's serial, caller, InvalidService)` is put in front of the deferred replies, in the order of the set; nothing
else is deferred as a reply. (That the set lists no call twice is not assumed: a second visit would not find the call.) -/
theorem destroyed_service_answers_invalid_service {s s' : St} {c : Cookie} {objId : ObjId} {svcUuid : Uuid} {info : SvcInfo} {svc : Svc}
    (hu : AL.find? c s.b.svcUuids = some (objId, svcUuid, info)) (hs : AL.find? (objId.uuid, svcUuid) s.b.svcs = some svc)
    (hr : removeService s c = .ok s') :
    s'.w.removeCalls = (invalidServiceItems s.b.calls svc.calls).reverse ++ s.w.removeCalls ∧
    (∀ k, s'.b.calls.get? k = if k ∈ svc.calls then none else s.b.calls.get? k) := by
  simp only [removeService_eq, hu, hs, bind_ok_iff] at hr
  obtain ⟨s1, h1, h2⟩ := hr
  cases h2
  obtain ⟨_, _, e1, e2⟩ := removeService_calls_spec _ _ _ h1
  -- the stages before and after the loop leave the call table and the deferred replies alone
  obtain ⟨a1, a2, _⟩ := (dropService_fp s c objId svcUuid).frame SameF.frame
  obtain ⟨b1, b2, _⟩ := (dropSubscribers_fp s1 c svc.subscribedConnIds).frame SameF.frame
  rw [a1, a2] at e1
  rw [a1] at e2
  exact ⟨by rw [b2, e1], fun k => by rw [b1, e2 k]⟩

/-- and the work loop turns such an item into the reply: `CallFunctionReply(serial, result)` to the caller if it is still
connected (and its own record of the call goes), nothing otherwise -/
theorem deferred_reply_is_sent {s : St} {serial : Nat} {cid : ConnId} {result : CallResult} {rest : List (Nat × ConnId × CallResult)}
    (h0 : s.w.removeConns = []) (h1 : s.w.unsubscribeEvent = []) (h2 : s.w.unsubscribeAll = []) (h3 : s.w.servicesDestroyed = [])
    (hq : s.w.removeCalls = (serial, cid, result) :: rest) :
    processOne s = some (match (s.setWRemoveCalls rest).conn? cid with
      | none => .ok (s.setWRemoveCalls rest)
      | some conn =>
        if (AL.find? serial conn.calls).isNone then .error (.debugAssert "remove_function_call: remove_call") else
        .ok (((s.setWRemoveCalls rest).setConn cid { conn with calls := AL.erase serial conn.calls }).sendOrRemove cid
          (.callFunctionReply serial result))) := by
  rw [processOne_of_pop (St.pop_removeCalls h0 h1 h2 h3 hq)]
  rfl

/-! non-vacuity: a call is pending, the owner disconnects, the caller is answered `InvalidService` in that turn and
nothing is left pending -/
example : (match run {} {} [.newConn 0 20, .newConn 1 20, .msg 0 (.createObject 1 5), .msg 0 (.createService 2 0 6 3),
      .msg 1 (.callFunction 9 1 0 [3, 7]), .connShutdown 0] with
    | .ok (b, _, outs) => (b.calls.elems.length, b.svcs.length, (b.conns.map (fun p => (p.1, p.2.calls.length))), outs.drop 5)
    | .error _ => (9, 9, [], [])) =
    (0, 0, [(1, 0)], [[⟨1, .callFunctionReply 9 .invalidService, none⟩]]) := by decide

end Aldrin.Broker
