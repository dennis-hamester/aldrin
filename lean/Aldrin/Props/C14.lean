/-
C14 — Byte-stream framing is independent of fragmentation and backpressure.

Statement (properties.jsonl): feeding the concatenation of serialized messages to the packetizer in
arbitrary pieces, through either of its input interfaces, yields exactly the original frames in
order, each only once it is complete, with no bytes lost or duplicated. The stream transport built
on it delivers every sent message once and in order for any pattern of short reads, short writes
and pending I/O, reports end-of-stream and zero-length writes as errors, and a flush returns only
after all earlier messages were written.

Quantifiers: all frame lists (each frame carrying its own length in its 4-byte prefix — which is
what `msg_roundtrip` of C08 guarantees for every serialized message), all operation sequences of
`extend_from_slice` / `spare_capacity_mut`+`bytes_written` / `next_message` with arbitrary sizes, all
scripts of read / write / flush results. What a theorem cannot carry here: waker registration of a
real reactor and real sockets (the I/O object is a script).
-/
import Aldrin.Lemmas.Transport
import Aldrin.Props.C08

namespace Aldrin

/-- Frames produced by the message serializer carry their length in their prefix (C08). -/
theorem serialized_frames_wellprefixed (r : Rec) (fr : Bytes) (h : encodeFrame r = .ok fr) (hw : r.WF) :
    WellPrefixed fr := by
  obtain ⟨fr', h1, h2, h3⟩ := msg_roundtrip r hw
  rw [h] at h1; cases h1
  have hs := msg_strict fr r h3
  exact ⟨by omega, hs.2.1⟩

/-- No frame early, none twice, none out of order: after ANY sequence of feed and drain operations
(either feed interface, any sizes, any interleaving), the frames handed out so far are exactly the
first `k` original frames, for some `k`; and the bytes still inside plus the bytes not yet fed are
exactly the remaining frames — nothing lost, nothing duplicated. -/
theorem packetizer_prefix (fs : List Bytes) (hw : ∀ f ∈ fs, WellPrefixed f) (ops : List PkOp) :
    ∃ k, k ≤ fs.length ∧ ((PkRun.mk {} (flat fs) [] false).run ops).out = fs.take k ∧
      ((PkRun.mk {} (flat fs) [] false).run ops).pk.buf ++ ((PkRun.mk {} (flat fs) [] false).run ops).unfed
        = flat (fs.drop k) := by
  obtain ⟨k, _, h⟩ := run_inv fs hw ops _ 0 (init_inv fs)
  exact ⟨k, h.1, h.2.1, h.2.2.1⟩

/-- Chunking independence: once all bytes have been fed — in whatever pieces, through whichever
interface, with whatever draining in between — draining yields exactly the original frames. -/
theorem packetizer_chunking (fs : List Bytes) (hw : ∀ f ∈ fs, WellPrefixed f) (ops : List PkOp)
    (hfed : ((PkRun.mk {} (flat fs) [] false).run ops).unfed = []) :
    (((PkRun.mk {} (flat fs) [] false).run ops).run (List.replicate fs.length .drain)).out = fs := by
  obtain ⟨k, _, hinv⟩ := run_inv fs hw ops _ 0 (init_inv fs)
  generalize (PkRun.mk {} (flat fs) [] false).run ops = r at hfed hinv
  obtain ⟨k', h1, h3⟩ := drains_progress fs hw fs.length r k hinv hfed
  have hk' : k' = fs.length := by have := h1.1; omega
  rw [h1.2.1, hk']; simp

/-- The slice offered for filling is never empty (see `Lemmas/Transport.lean`). -/
theorem spare_slice_nonempty (p : Pk) (hc : p.buf.length ≤ p.cap) : 0 < p.spareLen :=
  spare_nonempty p hc

/-- Sending: for any script of write results (short writes, pending, errors), the bytes accepted by
the I/O object followed by the bytes still buffered are exactly the frames sent so far, in order. -/
theorem transport_send_conserves (t : Tp) (frame : Bytes) (script : List IoStep) :
    ((t.sendStart frame).flush script).1.written ++ ((t.sendStart frame).flush script).1.wbuf
      = t.written ++ t.wbuf ++ frame := by
  rw [(flush_conserves _ _).1]; simp [Tp.sendStart, List.append_assoc]

/-- A flush reports success only after everything sent earlier has been written. -/
theorem flush_done (t : Tp) (script : List IoStep) (u : Unit) (h : (t.flush script).2.1 = .ready u) :
    (t.flush script).1.wbuf = [] ∧ (t.flush script).1.written = t.written ++ t.wbuf := by
  have hc := flush_conserves t script
  have hw := hc.2.2.2 u h
  refine ⟨hw, ?_⟩
  have := hc.1
  rw [hw] at this
  simpa using this

/-- A zero-length write with bytes pending is reported as an error. -/
theorem write_zero_is_error (t : Tp) (s : List IoStep) (h : t.wbuf ≠ []) :
    (t.flush (.ok 0 :: s)).2.1 = .err .writeZero := flush_write_zero t s h

/-- Receiving: whatever the script of read results (short reads, pending), each `receive_poll`
behaves as a packetizer run on the pending input — so the frames it returns over time are the
frames of the input stream, each once, in order (by `packetizer_prefix`). -/
theorem transport_recv (fs : List Bytes) (hw : ∀ f ∈ fs, WellPrefixed f) (t : Tp) (script : List IoStep) (k : Nat)
    (hinv : PkInvK fs (PkRun.mk t.pk t.inp (fs.take k) false) k) :
    ∃ k', k ≤ k' ∧ k' ≤ fs.length ∧
      (t.receive script).1.pk.buf ++ (t.receive script).1.inp = flat (fs.drop k') ∧
      (match (t.receive script).2.1 with
       | .ready f => fs.take k' = fs.take k ++ [f]
       | _ => k' = k) := by
  obtain ⟨ops, h1, h2, h3, _, _⟩ := receive_is_run t script (fs.take k) false
  obtain ⟨k', hk, hi⟩ := run_inv fs hw ops _ k hinv
  refine ⟨k', hk, hi.1, by rw [← h1, ← h2]; exact hi.2.2.1, ?_⟩
  have hout := hi.2.1
  rw [h3] at hout
  cases hr : (t.receive script).2.1 with
  | ready f => simp only [hr, resOut] at hout ⊢; exact hout.symm
  | pending | err _ =>
    simp only [hr, resOut] at hout ⊢
    have : (fs.take k).length = (fs.take k').length := by rw [hout]
    simp at this; have := hi.1; omega

/-- End of stream is an error: when nothing more can be delivered and no complete frame is
buffered, a read that returns no bytes ends `receive_poll` with `UnexpectedEof`. -/
theorem eof_is_error (t : Tp) (n : Nat) (s : List IoStep) (pk : Pk) (hn : t.pk.next = (pk, none))
    (hinp : t.inp = []) : (t.receive (.ok n :: s)).2.1 = .err .eof := by
  simp [Tp.receive, hn, hinp]

/-- Non-vacuity: two frames fed as 3 + 4 + 3 bytes with an early drain. -/
example : ((PkRun.mk {} (flat [[5, 0, 0, 0, 2], [5, 0, 0, 0, 2]]) [] false).run
    [.extend 3, .drain, .fill 4, .drain, .extend 3, .drain, .drain]).out = [[5, 0, 0, 0, 2], [5, 0, 0, 0, 2]] := by
  rfl

end Aldrin
