/-
C17 — Schema front end is total: parse, diagnose, format never panic.

Statement (properties.jsonl): for any source text, parsing the schema (with any set of resolvable or missing
imports), rendering every reported error and warning, and formatting it terminate without panicking, and
produce the same diagnostics when repeated. Code generation is only reachable for schemas without errors and
then terminates without panicking as well.

Absence of panics in pest, comrak, annotate-snippets and the glue around them is a statement about Rust code
paths; a theorem about a total Lean function cannot carry it. What the repository itself computes with
indices, and hands to code that slices the source with them, is the mapping of a markdown position inside a
doc comment back to a byte offset of the schema (`BrokenDocLink::linecol_to_index`, `sourcepos_to_span`).
That arithmetic is modelled with `usize` wrap-around as an explicit outcome (`Model/Schema/Span.lean`) and
proved, for ALL doc comments and positions:

* `doc_link_offset_never_wraps` — with a column of at least 1 the subtraction cannot wrap, and
  `wrap_needs_column_zero`: column 0 is the only way (the harness flags every column 0 it sees from comrak);
* `doc_link_offset_in_bounds` — an offset that is returned lies inside the doc string it was computed for and
  on a character boundary of it, so slicing the source there cannot panic;
* `doc_link_span_is_ordered` — if the link's start is not after its end in the comment, the start offset is
  not after the end offset in the source (for doc strings that follow each other in the source), so the span
  handed to the renderer is a valid range; `fallback_span_is_ordered` for the whole-comment fallback, and
  `sourcepos_span_is_a_range` for `sourcepos_to_span` as a whole (either of the two).

The grammar itself is covered by the PEG model of C18 (`Model/Schema/Parse.lean`): a total function whose
accept / reject decision and AST are compared with the real parser on every input of the runs below.

Partial: everything else (pest's generated parser, validation, rendering, formatting, code generation) is
exercised, not proved: `harness/src/bin/front.rs` runs the whole pipeline twice under `catch_unwind` on token
soups, mutations of every schema file of the repository and generated schemas with adversarial doc comments,
with resolvable and missing imports, and compares the two runs' diagnostics as multisets.
-/
import Aldrin.Lemmas.Schema.SpanLemmas
import Aldrin.Model.Schema.Parse

namespace Aldrin.Schema.Span

theorem wrap_needs_column_zero (docs : List DocLine) (line col : Nat) (isEnd : Bool)
    (h : linecolToIndex docs line col isEnd = .underflow) : col = 0 := by
  obtain ⟨j, d, k, part, -, -, -, hr⟩ := linecolFrom_spec line col isEnd docs 0 _ h nofun
  exact Nat.eq_zero_of_add_eq_zero_left (atPart_spec hr)

theorem doc_link_offset_never_wraps (docs : List DocLine) (line col : Nat) (isEnd : Bool) (hc : 1 ≤ col) :
    linecolToIndex docs line col isEnd ≠ .underflow :=
  fun h => absurd (wrap_needs_column_zero docs line col isEnd h) (Nat.ne_of_gt hc)

theorem doc_link_offset_in_bounds (docs : List DocLine) (line col : Nat) (isEnd : Bool) (i : Nat)
    (h : linecolToIndex docs line col isEnd = .some i) :
    ∃ d ∈ docs, d.start ≤ i ∧ i ≤ d.start + d.value.length ∧ isCharBoundary d.value (i - d.start) = true := by
  obtain ⟨j, d, k, part, hd, -, -, hr⟩ := linecolFrom_spec line col isEnd docs 0 _ h nofun
  exact ⟨d, List.mem_of_getElem? hd, (atPart_spec hr).2.2⟩

theorem doc_link_span_is_ordered (docs : List DocLine) (ho : Ordered docs) (l1 c1 l2 c2 s t : Nat) (hc1 : 1 ≤ c1)
    (hle : l1 < l2 ∨ (l1 = l2 ∧ c1 ≤ c2))
    (hs : linecolToIndex docs l1 c1 false = .some s) (ht : linecolToIndex docs l2 c2 true = .some t) : s ≤ t :=
  span_ordered docs ho hle hs ht

theorem fallback_span_is_ordered (docs : List DocLine) (ho : Ordered docs) (d1 d2 : DocLine)
    (h1 : docs.head? = some d1) (h2 : docs.getLast? = some d2) : d1.start ≤ d2.start + d2.value.length := by
  rw [List.head?_eq_getElem?] at h1
  rw [List.getLast?_eq_getElem?] at h2
  obtain ⟨h0, rfl⟩ := List.getElem?_eq_some_iff.mp h1
  obtain ⟨hl, rfl⟩ := List.getElem?_eq_some_iff.mp h2
  rcases Nat.eq_zero_or_pos (docs.length - 1) with hz | hpos
  · simp only [hz]
    exact Nat.le_add_right _ _
  · exact Nat.le_trans (Nat.le_add_right _ _)
      (Nat.le_trans (ho 0 (docs.length - 1) h0 hl hpos) (Nat.le_add_right _ _))

/-- every span `sourcepos_to_span` returns is a valid range, under the two assumptions about its inputs: `ho` (the
parser's spans of the doc strings follow each other) and `hle` (comrak's start is not after its end). `hne`: the
fallback unwraps `doc.first()` / `doc.last()`, the model's `getD 0` for an empty comment is not the code's behaviour -/
theorem sourcepos_span_is_a_range (docs : List DocLine) (ho : Ordered docs) (hne : docs ≠ []) (l1 c1 l2 c2 : Nat) (hc1 : 1 ≤ c1)
    (hle : l1 < l2 ∨ (l1 = l2 ∧ c1 ≤ c2)) (s t : Nat) (h : sourceposToSpan docs l1 c1 l2 c2 = some (s, t)) : s ≤ t := by
  have hfb : (docs.head?.map (·.start)).getD 0 ≤ (docs.getLast?.map (fun d => d.start + d.value.length)).getD 0 := by
    rw [List.head?_eq_some_head hne, List.getLast?_eq_some_getLast hne]
    exact fallback_span_is_ordered docs ho _ _ (List.head?_eq_some_head hne) (List.getLast?_eq_some_getLast hne)
  unfold sourceposToSpan at h
  split at h
  · cases h
  · rename_i s' hs'
    split at h
    · cases h
    · rename_i t' ht'
      cases h
      exact span_ordered docs ho hle hs' ht'
    · cases h; exact hfb
  · cases h; exact hfb

/-! ### non-vacuity: a two-line comment with a carriage return and a two-byte character -/

def exDocs : List DocLine := [⟨10, [91, 97, 93, 13, 98]⟩, ⟨20, [195, 164, 91, 120, 93]⟩]

example : Ordered exDocs := by
  intro i j hi hj hij
  obtain ⟨rfl, rfl⟩ : i = 0 ∧ j = 1 := by have : j < 2 := hj; omega
  simp [exDocs]
example : linecolToIndex exDocs 1 1 false = .some 10 ∧ linecolToIndex exDocs 1 3 true = .some 13 ∧
    linecolToIndex exDocs 3 3 false = .some 22 ∧ linecolToIndex exDocs 3 2 false = .none ∧
    linecolToIndex exDocs 1 0 false = .underflow ∧ linecolToIndex exDocs 2 0 false = .some 13 := by decide
example : sourceposToSpan exDocs 1 1 3 5 = some (10, 25) := by decide

open Aldrin.Schema in
/-- the grammar model decides every text: it is a function, and a finite amount of fuel is all it uses -/
theorem parse_is_total (src : Str) : parseSchema src = none ∨ ∃ s, parseSchema src = some s := by
  cases parseSchema src <;> simp

end Aldrin.Schema.Span
