/-
C19 — Client-side discovery and lifetime views converge to the bus state.

Statement (properties.jsonl): once bus activity stops and pending notifications are consumed, a discoverer
reports for each of its entries exactly the objects that currently exist, match the entry and carry all
services the entry requires, with their current ids, and it emitted a created/destroyed event for each
transition in order. A bound lifetime resolves iff its scope has ended or never existed, and never while
the scope is alive; waiting for or finding an object returns one that existed at some point during the wait.

Model (M7, `Model/Discoverer.lean`): the three entry state machines of `aldrin/src/discoverer/` (any object,
specific object with services, bare object) as folds over bus events, with every `debug_assert!` of that
code as an explicit failure. The bus itself is specified as the fold of its events (`Bus`), and a history
is admissible (`okHist`) when it creates what does not exist, destroys what exists and keeps services
inside their object's lifetime — which is what the broker produces (C03, C10).

Proved here, for ALL admissible histories of any length:
* none of the entries' `debug_assert!`s can fail and after the history every entry is exactly the view of
  the final bus state it is meant to be (`entry_converges`, from the per-event lemmas for the three kinds);
* what that view is: a bare entry reports its object iff it exists, with the current cookie
  (`bare_entry_view`); an object-with-services entry reports it iff every required service is live, with
  the object's current cookie and the services' current cookies (`services_entry_view`); an any-object entry
  reports exactly the existing objects that have every required service, again with current cookies
  (`any_entry_view`);
* every event an entry emits is the transition of what it reports for one object — Created when the object
  enters, Destroyed (with the cookie it had) when it leaves, nothing otherwise — and no other object's
  report changes in that step (`events_are_transitions`).
* lifetimes (`Model/Lifetime.lean`: the loop of `Lifetime::poll_ended` as a fold over the events of its listener,
  the history of the scope's UUID on the bus as creations with fresh cookies and destructions): for EVERY history
  and every point of it at which the lifetime is bound — to the living id, an id of the past, or one that never
  existed — once the events so far are handled the lifetime has ended iff its scope does not live
  (`lifetime_ended_iff_scope_gone`; since it holds for every prefix, it never ends while the scope lives).
Partial: `Handle::find_object` / `wait_for_object` are one-shot uses of a discoverer and are checked by an oracle on the
real code only; that the bus listener delivers exactly the admissible history (filters, current enumeration on
(re)start, stop draining) is tied by the correspondence runs against a real broker and client, not proved.
-/
import Aldrin.Lemmas.Discoverer
import Aldrin.Lemmas.Lifetime

namespace Aldrin.Disc
open Aldrin.Broker

theorem events_are_transitions {en : Entry} {b : Bus} {e : BusEv} (hr : Rel en b) (hi : b.Inv) (ho : b.okEv e) :
    ∃ en' dev, en.handle e = .ok (en', dev) ∧ Rel en' (b.apply e) ∧ en'.key = en.key ∧
      (∃ ou, dev = transition en.key ou (en.reports ou) (en'.reports ou) ∧ ∀ x, x ≠ ou → en'.reports x = en.reports x) := by
  cases en with
  | any k svcs created =>
    obtain ⟨svcs', created', dev, h1, h2, h3, h4⟩ := any_step (k := k) hr hi ho
    exact ⟨_, dev, h1, h2, rfl, evObj e, h3, h4⟩
  | withSvcs k o cookie svcs =>
    obtain ⟨cookie', svcs', dev, h1, h2, h3⟩ := with_step (k := k) hr hi ho
    refine ⟨_, dev, h1, h2, rfl, o, ?_, ?_⟩
    · simp only [Entry.reports, Entry.key, ↓reduceIte]; exact h3
    · intro x hx; simp [Entry.reports, hx]
  | bare k o cookie =>
    obtain ⟨cookie', dev, h1, h2, h3⟩ := bare_step (k := k) hr ho
    refine ⟨_, dev, h1, h2, rfl, o, ?_, ?_⟩
    · simp only [Entry.reports, Entry.key, ↓reduceIte]; exact h3
    · intro x hx; simp [Entry.reports, hx]

/-- over every history the broker can produce: no `debug_assert!` of the entry code fails, and the entry
ends up as the view of the final bus state -/
theorem entry_converges (es : List BusEv) (en : Entry) (b : Bus) (hr : Rel en b) (hi : b.Inv) (ho : okHist b es) :
    ∃ en' devs, en.run es = .ok (en', devs) ∧ Rel en' (b.run es) ∧ (b.run es).Inv := by
  induction es generalizing en b with
  | nil => exact ⟨en, [], rfl, hr, hi⟩
  | cons e es ih =>
    obtain ⟨en1, dev, h1, h2, _, _⟩ := events_are_transitions hr hi ho.1
    obtain ⟨en2, devs, h3, h4, h5⟩ := ih en1 (b.apply e) h2 (Bus.inv_apply hi ho.1) ho.2
    refine ⟨en2, (match dev with | some d => [d] | none => []) ++ devs, ?_, h4, h5⟩
    simp only [Entry.run, h1, h3]
    cases dev <;> rfl

/-- a freshly built (or reset) discoverer entry is the view of the empty bus, so `entry_converges` applies to
every history from the start -/
theorem new_entries_related (k : Nat) (o : Uuid) (services : List Uuid) (hn : services.Nodup) :
    Rel (Entry.mkAny k services) {} ∧ Rel (Entry.mkSpecific k o services) {} := by
  refine ⟨RelAny.at.mpr ⟨nodupKeys_map_const _ hn, fun ou => At.init _ rfl ou⟩, ?_⟩
  unfold Entry.mkSpecific
  split
  · exact (rfl : none = AL.find? o [])
  · exact RelWith.at.mpr ⟨nodupKeys_map_const _ hn,
      fun h => ‹¬_› (by rw [List.map_eq_nil_iff.mp h]; rfl), At.init _ rfl _⟩

theorem bare_entry_view {k : Nat} {o : Uuid} {cookie : Option Cookie} {b : Bus} (h : Rel (.bare k o cookie) b) (ou : Uuid) :
    (Entry.bare k o cookie).reports ou = if ou = o then AL.find? o b.objs else none := by
  simp only [Entry.reports]; split
  · exact h
  · rfl

theorem services_entry_view {k : Nat} {o : Uuid} {cookie : Option Cookie} {svcs : List (Uuid × Option Cookie)} {b : Bus}
    (h : Rel (.withSvcs k o cookie svcs) b) :
    (cookie = if svcs.all (fun p => (AL.find? (o, p.1) b.svcs).isSome) then AL.find? o b.objs else none) ∧
    ∀ s c, AL.find? s svcs = some c → c = (AL.find? (o, s) b.svcs).map (·.2) :=
  have ⟨_, _, ha⟩ := RelWith.at.mp h; ⟨ha.rep, ha.each⟩

theorem any_entry_view {k : Nat} {svcs : List (Uuid × List (Uuid × Cookie))} {created : List (Uuid × Cookie)} {b : Bus}
    (h : Rel (.any k svcs created) b) (ou : Uuid) :
    (Entry.any k svcs created).reports ou = (if hasAll svcs b ou then AL.find? ou b.objs else none) ∧
    ∀ s m, AL.find? s svcs = some m → AL.find? ou m = (AL.find? (ou, s) b.svcs).map (·.2) :=
  ⟨h.created ou, fun s m hs => h.each s m hs ou⟩

/-- A bound lifetime resolves iff its scope has ended or never existed: `pre` is what happened to the scope's UUID
before the lifetime was bound, `post` what has happened since; `t` is the cookie the lifetime is bound to. -/
theorem lifetime_ended_iff_scope_gone (t : Nat) (pre post : List Lifetime.BOp) (b1 b2 : Lifetime.Bus)
    (h1 : ({} : Lifetime.Bus).run pre = some b1) (h2 : b1.run post = some b2) (ht : t ∈ b1.used ∨ t ∉ b2.used) :
    (Lifetime.run t {} (Lifetime.currentEvents b1 ++ Lifetime.eventsFrom b1 post)).ended = true ↔ b2.alive ≠ some t :=
  Lifetime.ended_iff_scope_gone t pre post b1 b2 h1 h2 ht

/-! non-vacuity: a scope that lives when the lifetime is bound and ends later; one of the past; one re-created -/
example : (({} : Lifetime.Bus).run [.create 1]).bind (fun b1 => (b1.run [.destroy, .create 2]).map (fun b2 =>
    ((Lifetime.run 1 {} (Lifetime.currentEvents b1 ++ Lifetime.eventsFrom b1 [.destroy, .create 2])).ended, b2.alive))) =
    some (true, some 2) := by decide
example : (({} : Lifetime.Bus).run [.create 1]).map (fun b1 =>
    (Lifetime.run 1 {} (Lifetime.currentEvents b1 ++ Lifetime.eventsFrom b1 [])).ended) = some false := by decide
example : (({} : Lifetime.Bus).run [.create 1, .destroy, .create 2]).map (fun b1 =>
    (Lifetime.run 1 {} (Lifetime.currentEvents b1 ++ Lifetime.eventsFrom b1 [])).ended) = some true := by decide

/-! non-vacuity: object 1 gets services 5 and 6, is re-created under a new cookie with only service 5 -/
example : (match (Entry.mkAny 0 [5, 6]).run [.objCreated ⟨1, 10⟩, .svcCreated ⟨⟨1, 10⟩, 5, 11⟩, .svcCreated ⟨⟨1, 10⟩, 6, 12⟩,
      .svcDestroyed ⟨⟨1, 10⟩, 5, 11⟩, .svcDestroyed ⟨⟨1, 10⟩, 6, 12⟩, .objDestroyed ⟨1, 10⟩,
      .objCreated ⟨1, 20⟩, .svcCreated ⟨⟨1, 20⟩, 5, 21⟩] with
    | .ok (en, devs) => (en.found, devs) | .error _ => ([], [])) =
    ([], [⟨0, .created, ⟨1, 10⟩⟩, ⟨0, .destroyed, ⟨1, 10⟩⟩]) := by decide

end Aldrin.Disc
