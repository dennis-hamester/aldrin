/-
C07 — Decoding untrusted bytes is total; skipping agrees with decoding.

Statement (properties.jsonl): for arbitrary bytes, decoding a value, measuring or skipping it,
splitting it off as an opaque value and reading its kind all return a result or an error (no
panic, no unbounded allocation); whenever full decoding succeeds, skipping succeeds and reports
exactly the number of bytes decoding consumed; skipping accepts exactly the inputs decoding accepts
except that it does not validate UTF-8.

The theorems quantify over *all* byte strings. The skip widths and modes of
`Deserializer::skip` and `KeyTagImpl::skip` enter through the generated tables
(`Generated.skipU16 … keyI64Skip`), so these theorems are re-checked against what the source says
on every run. What a theorem cannot carry: that the Rust code does not panic or read out of
bounds — that is observed by the harness (catch_unwind), not proved.
-/
import Aldrin.Lemmas.SkipDec
import Aldrin.Lemmas.Size

namespace Aldrin
open Generated

theorem skip_iff_decode_no_utf8 (f : Nat) (bs : Bytes) (d : Nat) (rest : Bytes) :
    skip f bs d = .ok rest ↔ ∃ v, dec .lax f bs d = .ok (v, rest) := by
  rw [← norm_eq_ok, skip_dec, norm_eq_ok, restOf_eq_ok]

/-- Whenever decoding succeeds, skipping succeeds and stops at exactly the same place. -/
theorem skip_of_decode (f : Nat) (bs : Bytes) (d : Nat) (v : Value) (rest : Bytes)
    (h : dec .std f bs d = .ok (v, rest)) : skip f bs d = .ok rest :=
  (skip_iff_decode_no_utf8 f bs d rest).mpr ⟨v, dec_std_lax h⟩

/-- Skipping accepts exactly what decoding-without-UTF-8-validation accepts. -/
theorem decode_of_skip (f : Nat) (bs : Bytes) (d : Nat) (rest : Bytes)
    (h : skip f bs d = .ok rest) : ∃ v, dec .lax f bs d = .ok (v, rest) :=
  (skip_iff_decode_no_utf8 f bs d rest).mp h

/-- Skipping and decoding fail with the nesting error on exactly the same inputs. -/
theorem skip_tooDeep_iff (f : Nat) (bs : Bytes) (d : Nat) :
    skip f bs d = .error .tooDeep ↔ dec .lax f bs d = .error .tooDeep := by
  rw [← norm_eq_tooDeep, skip_dec, norm_eq_tooDeep, restOf_eq_err]

/-- `Deserializer::len` / `split_off_serialized_value` on a value that decodes completely: the
measured length is the whole input, so the opaque copy is the input and re-decodes to the same
value. -/
theorem len_eq (bs : Bytes) (v : Value) (h : decodeTop .std bs = .ok v) : lenTop bs = .ok bs.length := by
  simp only [lenTop, skip_of_decode _ _ _ _ _ (decodeTop_eq_ok.mp h), List.length_nil, Nat.sub_zero]

/-- Totality: with the standard budget, none of the walkers stops because the budget ran out,
on any input (the recursion of decode and skip is bounded by the input length). -/
theorem decode_total (cfg : DecCfg) (bs : Bytes) (d : Nat) : dec cfg (fuelFor bs) bs d ≠ .error .fuel :=
  dec_total cfg bs d

theorem skip_total (bs : Bytes) (d : Nat) : skip (fuelFor bs) bs d ≠ .error .fuel := by
  rw [Ne, ← norm_eq_fuel, skip_dec, norm_eq_fuel, restOf_eq_err]
  exact dec_total .lax bs d

theorem kind_total (bs : Bytes) : kindTop bs ≠ .error .fuel := by
  unfold kindTop
  split
  · simp
  · split
    · simp
    · split <;> simp

/-- No amplification: a decoded value (node count + payload bytes) is never larger than the bytes
it was decoded from — no count read from the wire is trusted before the elements are read. -/
theorem decode_size (cfg : DecCfg) (f : Nat) (bs : Bytes) (d : Nat) (v : Value) (rest : Bytes)
    (h : dec cfg f bs d = .ok (v, rest)) : v.size + rest.length ≤ bs.length :=
  dec_size h

/-- Every successful decode or skip consumes at least one byte. -/
theorem decode_consumes (cfg : DecCfg) (f : Nat) (bs : Bytes) (d : Nat) (v : Value) (rest : Bytes)
    (h : dec cfg f bs d = .ok (v, rest)) : rest.length < bs.length := dec_shrink h

/-- The key-skip table is what the decoder needs: obligations on the generated constants. -/
theorem key_skip_table :
    keyU8Skip = (.fixed, 1) ∧ keyI8Skip = (.fixed, 1) ∧ keyU16Skip = (.varint, 2) ∧ keyI16Skip = (.varint, 2) ∧
    keyU32Skip = (.varint, 4) ∧ keyI32Skip = (.varint, 4) ∧ keyU64Skip = (.varint, 8) ∧ keyI64Skip = (.varint, 8) ∧
    keyStringSkip = (.lenprefixed, 4) ∧ keyUuidSkip = (.fixed, 16) := by decide

/-- Non-vacuity: a set with a 4-byte `u32` key (the shape on which the repaired defect showed). -/
example : dec .std 20 [59, 1, 255, 199, 181, 7, 96, 0] 0 = .ok (.set (.int .u32) [.int 1611118023], [])
    ∧ skip 20 [59, 1, 255, 199, 181, 7, 96, 0] 0 = .ok [] := by constructor <;> rfl

end Aldrin
