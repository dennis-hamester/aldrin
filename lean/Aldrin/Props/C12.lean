/-
C12 — Version negotiation, feature gating and cross-version payload interop.

Statement (properties.jsonl): a handshake succeeds exactly for protocol 1.14 via the legacy connect
message and for 1.x with x>=14 via the new one, and the negotiated version is the minimum of the
client's and 1.20; otherwise the client is told the version is incompatible. The broker closes a
connection that uses a message newer than its negotiated version, never sends a connection a message
kind newer than that version, and re-encodes calls, aborts and payloads coming from newer peers for
older ones. A well-formed payload sent between peers of any two supported versions arrives meaning
the same value.

What is proved here (model M4 + the value codec model M1/M3; constants and gates are regenerated from
`acceptor.rs` / `broker.rs` on every run):
* the handshake decision for all requested versions (`handshake_spec`);
* for each of the eleven gated request kinds: below the gate the handler does nothing but report
  failure, which makes `handle_event` queue the sender for removal (`gate_table`, `gated_message_fails`, `failed_handler_queues_removal`);
* the kind chosen when forwarding depends on the receiver's version exactly as stated
  (`call_downtranslation`, `abort_only_to_1_16`, `subscribe_all_forced_off`, `subscribe_all_needs_1_18_owner`);
* payload interop for all version pairs 1.14..1.20 and all well-formed values (`payload_interop`,
  built on the C13 theorems; the conversion call the connection task makes is `convertTop (sender
  version) (receiver version)`, which is what the correspondence harness compares byte for byte).
Partial: "never sends a kind newer than the receiver's version" is proved for the version-dependent
forwarding decisions above and observed as an oracle on every message of every correspondence run; a
global invariant over introspection registrations is not proved.
-/
import Aldrin.Lemmas.Broker.Handlers
import Aldrin.Model.Broker.Handshake
import Aldrin.Props.C13

namespace Aldrin.Broker
open Generated

theorem handshake_constants : acceptMinMinor = 14 ∧ acceptMaxMinor = 20 ∧ acceptLegacyMinor = 14 := by decide

/-- legacy connect: exactly 1.14; new connect: 1.x with x ≥ 14, negotiated min(x, 20) -/
theorem handshake_spec (major minor : Nat) (connect2 : Bool) (v : Nat) :
    negotiate major minor connect2 = some v ↔
      major = 1 ∧ ((connect2 = true ∧ 14 ≤ minor ∧ v = min minor 20) ∨ (connect2 = false ∧ minor = 14 ∧ v = 14)) := by
  unfold negotiate
  rw [handshake_constants.1, handshake_constants.2.1, handshake_constants.2.2]
  by_cases hm : major = 1
  · cases connect2
    · by_cases h : minor = 14 <;> simp [hm, h, eq_comm]
    · by_cases h : 14 ≤ minor <;> simp [hm, h, eq_comm]
  · simp [hm]

theorem handshake_incompatible (major minor : Nat) (connect2 : Bool) :
    negotiate major minor connect2 = none ↔
      ¬ (major = 1 ∧ ((connect2 = true ∧ 14 ≤ minor) ∨ (connect2 = false ∧ minor = 14))) := by
  unfold negotiate
  rw [handshake_constants.1, handshake_constants.2.1, handshake_constants.2.2]
  by_cases hm : major = 1
  · cases connect2
    · by_cases h : minor = 14 <;> simp [hm, h]
    · by_cases h : 14 ≤ minor <;> simp [hm, h]
  · simp [hm]

theorem gate_table :
    gateAbortFunctionCall = 16 ∧ gateRegisterIntrospection = 17 ∧ gateQueryIntrospection = 17 ∧
    gateQueryIntrospectionReply = 17 ∧ gateCreateService2 = 17 ∧ gateQueryServiceInfo = 17 ∧
    gateSubscribeService = 18 ∧ gateUnsubscribeService = 18 ∧ gateSubscribeAllEvents = 18 ∧
    gateUnsubscribeAllEvents = 18 ∧ gateCallFunction2 = 19 := by decide

/-- the message kinds introduced after 1.14, with the version that introduced them -/
def Req.minVersion : Req → Nat
  | .abortFunctionCall _ => 16
  | .registerIntrospection _ | .queryIntrospection _ _ | .queryIntrospectionReply _ _
  | .createService2 _ _ _ _ | .queryServiceInfo _ _ => 17
  | .subscribeService _ _ | .unsubscribeService _ | .subscribeAllEvents _ _ | .unsubscribeAllEvents _ _ => 18
  | .callFunction2 _ _ _ _ _ => 19
  | _ => 14

/-- a message newer than the connection's negotiated version: nothing happens except that the handler
fails (no state change, no output) -/
theorem gated_message_fails (s : St) (id : ConnId) (conn : Conn) (m : Req)
    (hc : AL.find? id s.b.conns = some conn) (hmin : 14 ≤ conn.version) (hv : conn.version < m.minVersion) :
    handleMessage s id m = .ok (s, false) := by
  have hc : s.conn? id = some conn := hc
  unfold handleMessage
  cases m
  case abortFunctionCall => simp only [abortFunctionCall, hc, show conn.version < gateAbortFunctionCall from hv, ↓reduceIte, errH]
  case registerIntrospection => simp only [registerIntrospection, hc, show conn.version < gateRegisterIntrospection from hv, ↓reduceIte, errH]
  case queryIntrospection => simp only [queryIntrospection, hc, show conn.version < gateQueryIntrospection from hv, ↓reduceIte, errH]
  case queryIntrospectionReply => simp only [queryIntrospectionReply, hc, show conn.version < gateQueryIntrospectionReply from hv, ↓reduceIte, errH]
  case createService2 => simp only [createService2, hc, show conn.version < gateCreateService2 from hv, ↓reduceIte, errH]
  case queryServiceInfo => simp only [queryServiceInfo, hc, show conn.version < gateQueryServiceInfo from hv, ↓reduceIte, errH]
  case subscribeService => simp only [subscribeService, hc, show conn.version < gateSubscribeService from hv, ↓reduceIte, errH]
  case unsubscribeService => simp only [unsubscribeService, hc, show conn.version < gateUnsubscribeService from hv, ↓reduceIte, errH]
  case subscribeAllEvents => simp only [subscribeAllEvents, hc, show conn.version < gateSubscribeAllEvents from hv, ↓reduceIte, errH]
  case unsubscribeAllEvents => simp only [unsubscribeAllEvents, hc, show conn.version < gateUnsubscribeAllEvents from hv, ↓reduceIte, errH]
  case callFunction2 => simp only [callFunction2, hc, show conn.version < gateCallFunction2 from hv, ↓reduceIte, errH]
  all_goals exact absurd hmin (Nat.not_le_of_lt hv)

/-- a failing handler makes `handle_event` queue exactly the sender for removal (without a Shutdown message) -/
theorem failed_handler_queues_removal (s s1 s' : St) (id : ConnId) (m : Req)
    (h : handleMessage s id m = .ok (s1, false)) (he : handleEvent s (.msg id m) = .ok s') :
    s'.w.removeConns = (id, false) :: s1.w.removeConns := by
  simp [handleEvent, h, St.pushRemoveConn] at he
  subst he
  simp

/-- wrong-direction kinds are always refused -/
theorem other_kinds_fail (s : St) (id : ConnId) (k : Nat) : handleMessage s id (.other k) = .ok (s, false) := rfl

/-- the forwarded call is a `CallFunction2` exactly for callees from 1.19 on; older ones get the
1.14 form (without the version field); payload and function id are unchanged -/
theorem call_downtranslation (calleeVersion bserial svc f : Nat) (v : Option Nat) (p : Payload) :
    (if calleeVersion ≥ callFunction2MinCallee then Rsp.callFunction2 bserial svc f v p else Rsp.callFunction bserial svc f p) =
      (if 19 ≤ calleeVersion then Rsp.callFunction2 bserial svc f v p else Rsp.callFunction bserial svc f p) := by
  have : callFunction2MinCallee = 19 := by decide
  simp [this]

theorem version_branch_constants :
    callFunction2MinCallee = 19 ∧ abortMinCallee = 16 ∧ subscribeAllEventsMinOwner = 18 ∧
    unsubscribeAllEventsMinOwner = 18 ∧ subscribeAllMinOwnerAtCreate = 18 := by decide

/-- `abort_call` forwards the abort only to callees that know the message (1.16+): for an older
callee the only possible output is the `Aborted` reply to the caller -/
theorem abort_only_to_1_16 (s s' : St) (serial : Nat) (cid : ConnId) (callee : Conn) (call : Call)
    (hcall : s.b.calls.get? serial = some call) (hna : call.aborted = false)
    (hc : AL.find? cid s.b.conns = some callee) (hv : callee.version < 16)
    (h : abortCall s serial cid = .ok s') :
    s'.out = s.out ∨ s'.out = s.out ++ [⟨call.callerConn, .callFunctionReply call.callerSerial .aborted, none⟩] := by
  rcases abortCall_outcome h with ⟨rfl, -⟩ | ⟨call', hcall', -, h⟩
  · exact .inl rfl
  cases hcall.symm.trans hcall'
  -- the callee is too old to be told
  have hn : ∀ t : St, t.b.conns = s.b.conns → notifyCallee t cid serial = t := fun t ht => by
    simp [notifyCallee, St.conn?_def, ht, hc, version_branch_constants.2.1, show ¬ (16 ≤ callee.version) by omega]
  rw [hn _ (St.setCalls_b_conns s _)] at h
  rcases replyToCaller_outcome h with ⟨-, rfl⟩ | ⟨c, -, -, rfl⟩
  · exact .inl rfl
  · rw [St.sendOrRemove_out]
    split
    · right; simp
    · left; simp

/-- `create_service2` from an owner older than 1.18 stores `subscribe_all = false` -/
theorem subscribe_all_forced_off (i : SvcInfo) (ownerVersion : Nat) (h : ownerVersion < 18) :
    (if ownerVersion < subscribeAllMinOwnerAtCreate then { i with subscribeAll := some false } else i).subscribeAll = some false := by
  simp [version_branch_constants.2.2.2.2, h]

theorem epochOf_supported {v : Nat} (h : 14 ≤ v ∧ v ≤ 20) : epochOf (1, v) = some (if v = 20 then .v2 else .v1) := by
  split
  · exact ((epochOf_iff (1, v)).2.1).mpr ⟨rfl, ‹_›⟩
  · exact ((epochOf_iff (1, v)).1).mpr ⟨rfl, h.1, by omega⟩

/-- any two supported versions, any well-formed value: what the receiver's connection task puts on the
wire decodes to the value the sender encoded -/
theorem payload_interop (vs vr : Nat) (hs : 14 ≤ vs ∧ vs ≤ 20) (hr : 14 ≤ vr ∧ vr ≤ 20)
    (bs : Bytes) (v : Value) (h : decodeTop .std bs = .ok v) (hl : bs.length ≤ Aldrin.u32Max) :
    ∃ bs', convertTop (some (1, vs)) (1, vr) bs = .ok bs' ∧ decodeTop .std bs' = .ok v := by
  have hf : epochOf ((some (1, vs)).getD convertDefaultFrom) = _ := epochOf_supported hs
  have ht := epochOf_supported hr
  by_cases hcase : vs = 20 ∧ vr ≠ 20
  · -- the only pair of epochs that is converted
    rw [if_pos hcase.1] at hf
    rw [if_neg hcase.2] at ht
    obtain ⟨bs', h1, h2, _⟩ := convert_preserves (some (1, vs)) (1, vr) bs v hf ht h hl
    exact ⟨bs', h1, h2⟩
  · refine ⟨bs, convert_same_or_newer _ _ _ _ _ hf ht fun ⟨h1, h2⟩ => hcase ?_, h⟩
    constructor
    · false_or_by_contra; rename_i hne; rw [if_neg hne] at h2; cases h2
    · intro he; rw [if_pos he] at h1; cases h1

example : negotiate 1 25 true = some 20 ∧ negotiate 1 14 false = some 14 ∧ negotiate 1 15 false = none ∧
    negotiate 1 13 true = none ∧ negotiate 2 14 true = none := by decide

end Aldrin.Broker
