/-
C03 — Object/service registry: uniqueness, ownership, cascading destruction.

Statement (properties.jsonl): at any time at most one live object exists per object UUID and at most one
live service per (object, service UUID); creation is answered ok with a cookie never used before, or
duplicate/invalid-object/foreign-object exactly when the bus state says so. Only the owning connection
can add services to or destroy an object or service; destroying an object destroys all its services,
and a disconnect destroys everything the connection owned. Queries about a service succeed exactly
while it is live.

What is proved here (model M4): `registry_unique_and_fresh_all_histories` — an inductive invariant over all
event histories (unique keys in all four registry maps, equal sizes of the cookie and uuid views, the next
cookie unused anywhere). The registry maps are keyed by uuid resp. (object uuid, service uuid),
so "at most one live entity per key" holds by construction in model and code alike; the content is in
the handlers' decisions, proved for every broker state:
* `create_object`: duplicate iff the uuid is live, else registered for the sender under a cookie taken
  from a counter that is advanced (`create_object_*`);
* `destroy_object`, `create_service`: invalid / foreign / duplicate / ok exactly by registry state and
  ownership (`destroy_object_*`, `create_service_*`);
* version queries succeed exactly while the cookie is live (`query_version_live`), calls to a dead
  cookie are answered `InvalidService` (C02 `no_service`).
For ALL histories the registry cross-reference invariant holds between two events
(`registry_cross_references_all_histories`, from `Lemmas/Broker/{XReg,RegView,Reg}.lean`: the cookie map
and the uuid map of objects name each other, the owner of every object is a connection that is still there and
lists it, what a connection lists is an object it owns, the cookie map and the uuid map of services name each
other, every service hangs off a live object that lists it, what an object lists is one of its services). Its
consequences, each for every history: `owner_is_connected_and_lists_object`, `service_hangs_off_live_object`,
`listed_service_is_registered`, `connection_lists_only_own_objects`; cascading destruction:
`services_of_a_dead_object_are_dead` (whenever an object cookie is not registered, no registered service refers to
it), `destroy_object_unregisters` / `destroy_service_unregisters` (after an accepted destroy request the cookie is
not registered, and the invariant holds again, so all services of the object are gone with it);
`objects_of_a_gone_connection_are_gone` (no object is owned by a connection that is not there — whatever way it
went: shutdown message, transport error, forced by the handle, broker shutdown).
Still tied by the correspondence runs only: the *messages* the cascade sends (`ServiceDestroyed`, bus events).
-/
import Aldrin.Lemmas.Broker.Gauge5
import Aldrin.Lemmas.Broker.Reg
import Aldrin.Lemmas.Broker.SvcBus

namespace Aldrin.Broker

/-- for ALL histories: at most one live object per uuid and at most one live service per (object uuid,
service uuid), cookies index them uniquely, the two views of each registry have the same size, and the
cookie the next creation will hand out is not in use in any cookie-indexed map -/
theorem registry_unique_and_fresh_all_histories (es : List Event) (b : Broker) (w : Work) (outs : List (List Out))
    (h : run {} {} es = .ok (b, w, outs)) :
    AL.NodupKeys b.objs ∧ AL.NodupKeys b.objUuids ∧ AL.NodupKeys b.svcs ∧ AL.NodupKeys b.svcUuids ∧
    b.objUuids.length = b.objs.length ∧ b.svcUuids.length = b.svcs.length ∧
    AL.find? b.nextCookie b.objUuids = none ∧ AL.find? b.nextCookie b.svcUuids = none ∧
    AL.find? b.nextCookie b.channels = none ∧ AL.find? b.nextCookie b.listeners = none := by
  obtain ⟨_, g2, g3, g4, g5⟩ := run_G5 es _ _ _ _ _ G5_init h
  obtain ⟨c1, c2⟩ := run_G2 es _ _ _ _ _ G2_init h
  refine ⟨g3.nodup, g2.nodup, g5.nodup, g4.nodup, ?_, ?_, KeysBelow_fresh g2.below, KeysBelow_fresh g4.below,
    KeysBelow_fresh c1.below, KeysBelow_fresh c2.below⟩
  · have a := g2.size; have b' := g3.size; simp at a b'; omega
  · have a := g4.size; have b' := g5.size; simp at a b'; omega

theorem create_object_duplicate {s : St} {id serial uuid} {c : Conn} {o : Obj}
    (hc : AL.find? id s.b.conns = some c) (ho : AL.find? uuid s.b.objs = some o) :
    ∃ s' ok, createObject s id serial uuid = .ok (s', ok) ∧ s'.b.objs = s.b.objs ∧ s'.b.objUuids = s.b.objUuids ∧
      s'.b.nextCookie = s.b.nextCookie ∧
      (c.alive = true → s'.out = s.out ++ [⟨id, .createObjectReply serial .duplicate, none⟩]) := by
  unfold createObject
  simp only [St.conn?_def, hc, ho, Option.isSome_some, ↓reduceIte]
  refine ⟨_, _, rfl, by simp, by simp, by simp, ?_⟩
  intro ha
  rw [St.send_alive _ _ hc ha]
  rfl

theorem create_object_ok {s : St} {id serial uuid} {c : Conn}
    (hc : AL.find? id s.b.conns = some c) (ha : c.alive = true) (ho : AL.find? uuid s.b.objs = none) :
    ∃ s', createObject s id serial uuid = .ok (s', true) ∧
      AL.find? uuid s'.b.objs = some ⟨id, s.b.nextCookie, []⟩ ∧
      AL.find? s.b.nextCookie s'.b.objUuids = some uuid ∧
      s'.b.nextCookie = s.b.nextCookie + 1 ∧
      s'.out = s.out ++ [⟨id, .createObjectReply serial (.ok s.b.nextCookie), none⟩] ∧
      s'.w.createObject = ⟨uuid, s.b.nextCookie⟩ :: s.w.createObject := by
  unfold createObject
  simp only [St.conn?_def, hc, ho, Option.isSome_none, Bool.false_eq_true, ↓reduceIte]
  rw [St.send_alive _ _ (by simpa using hc) ha]
  refine ⟨_, rfl, ?_, ?_, ?_, ?_, ?_⟩ <;> simp

theorem destroy_object_invalid {s : St} {id serial cookie} {c : Conn}
    (hc : AL.find? id s.b.conns = some c) (ho : AL.find? cookie s.b.objUuids = none) :
    destroyObject s id serial cookie = .ok (s.send id (.destroyObjectReply serial .invalidObject)) := by
  unfold destroyObject; simp [hc, ho]

theorem destroy_object_foreign {s : St} {id serial cookie uuid} {c : Conn} {o : Obj}
    (hc : AL.find? id s.b.conns = some c) (hu : AL.find? cookie s.b.objUuids = some uuid)
    (ho : AL.find? uuid s.b.objs = some o) (hne : o.conn ≠ id) :
    destroyObject s id serial cookie = .ok (s.send id (.destroyObjectReply serial .foreignObject)) := by
  unfold destroyObject; simp [hc, hu, ho, hne]

theorem create_service_invalid_object {s : St} {id serial oc uuid v} {c : Conn}
    (hc : AL.find? id s.b.conns = some c) (ho : AL.find? oc s.b.objUuids = none) :
    createService s id serial oc uuid v = .ok (s.send id (.createServiceReply serial .invalidObject)) := by
  unfold createService createServiceImpl; simp [hc, ho]

theorem create_service_duplicate {s : St} {id serial oc uuid v ou} {c : Conn} {sv : Svc}
    (hc : AL.find? id s.b.conns = some c) (ho : AL.find? oc s.b.objUuids = some ou)
    (hs : AL.find? (ou, uuid) s.b.svcs = some sv) :
    createService s id serial oc uuid v = .ok (s.send id (.createServiceReply serial .duplicate)) := by
  unfold createService createServiceImpl; simp [hc, ho, hs]

theorem create_service_foreign {s : St} {id serial oc uuid v ou} {c : Conn} {o : Obj}
    (hc : AL.find? id s.b.conns = some c) (ho : AL.find? oc s.b.objUuids = some ou)
    (hs : AL.find? (ou, uuid) s.b.svcs = none) (hobj : AL.find? ou s.b.objs = some o) (hne : o.conn ≠ id) :
    createService s id serial oc uuid v = .ok (s.send id (.createServiceReply serial .foreignObject)) := by
  unfold createService createServiceImpl; simp [hc, ho, hs, hobj, hne]

theorem create_service_ok {s : St} {id serial oc uuid v ou} {c : Conn} {o : Obj}
    (hc : AL.find? id s.b.conns = some c) (ha : c.alive = true) (ho : AL.find? oc s.b.objUuids = some ou)
    (hs : AL.find? (ou, uuid) s.b.svcs = none) (hobj : AL.find? ou s.b.objs = some o) (hown : o.conn = id) :
    ∃ s', createService s id serial oc uuid v = .ok (s', true) ∧
      AL.find? s.b.nextCookie s'.b.svcUuids = some (⟨ou, oc⟩, uuid, { version := v }) ∧
      AL.find? (ou, uuid) s'.b.svcs = some { cookie := s.b.nextCookie, objCookie := oc } ∧
      s'.b.nextCookie = s.b.nextCookie + 1 ∧
      s'.out = s.out ++ [⟨id, .createServiceReply serial (.ok s.b.nextCookie), none⟩] := by
  unfold createService createServiceImpl
  simp only [St.conn?_def, hc, ho, hs, hobj, hown, Option.isSome_none, Bool.false_eq_true, ↓reduceIte, ne_eq,
    not_true_eq_false]
  rw [St.send_alive _ _ (by simpa using hc) ha]
  refine ⟨_, rfl, ?_, ?_, ?_, ?_⟩ <;> simp

theorem query_version_live {s : St} {id serial svc} {c : Conn} (hc : AL.find? id s.b.conns = some c) :
    queryServiceVersion s id serial svc =
      .ok (s.send id (.queryServiceVersionReply serial ((AL.find? svc s.b.svcUuids).map (·.2.2.version)))) := by
  unfold queryServiceVersion; simp [hc]

/-! ### the cross-reference invariant of the registry, for every history -/

/-- for ALL histories: between two events the registry's maps, the per-object service sets and the per-connection
object sets agree with each other -/
theorem registry_cross_references_all_histories (es : List Event) (b : Broker) (w : Work) (outs : List (List Out))
    (h : run {} {} es = .ok (b, w, outs)) : RegistryConsistent b :=
  RegistryConsistent.of_reg (run_reg es _ _ _ _ _ G5_init Reg.init h)

/-- the owner of every object is connected and lists the object -/
theorem owner_is_connected_and_lists_object (es : List Event) (b : Broker) (w : Work) (outs : List (List Out))
    (h : run {} {} es = .ok (b, w, outs)) {u : Uuid} {o : Obj} (ho : AL.find? u b.objs = some o) :
    ∃ conn, AL.find? o.conn b.conns = some conn ∧ o.cookie ∈ conn.objects :=
  (registry_cross_references_all_histories es b w outs h).owner_lists_object u o ho

/-- a connection lists only objects it owns: what a disconnect destroys is the connection's own -/
theorem connection_lists_only_own_objects (es : List Event) (b : Broker) (w : Work) (outs : List (List Out))
    (h : run {} {} es = .ok (b, w, outs)) {id : ConnId} {conn : Conn} {c : Cookie} (hc : AL.find? id b.conns = some conn)
    (hm : c ∈ conn.objects) : ∃ u o, AL.find? c b.objUuids = some u ∧ AL.find? u b.objs = some o ∧ o.conn = id :=
  (registry_cross_references_all_histories es b w outs h).listed_object_is_owned id conn c hc hm

/-- every registered service hangs off a live object which lists it -/
theorem service_hangs_off_live_object (es : List Event) (b : Broker) (w : Work) (outs : List (List Out))
    (h : run {} {} es = .ok (b, w, outs)) {sc : Cookie} {oid : ObjId} {svu : Uuid} {info : SvcInfo}
    (hs : AL.find? sc b.svcUuids = some (oid, svu, info)) :
    AL.find? oid.cookie b.objUuids = some oid.uuid ∧ ∃ o, AL.find? oid.uuid b.objs = some o ∧ sc ∈ o.svcs :=
  (registry_cross_references_all_histories es b w outs h).service_has_live_object sc oid svu info hs

theorem listed_service_is_registered (es : List Event) (b : Broker) (w : Work) (outs : List (List Out))
    (h : run {} {} es = .ok (b, w, outs)) {u : Uuid} {o : Obj} {sc : Cookie} (ho : AL.find? u b.objs = some o) (hm : sc ∈ o.svcs) :
    ∃ svu info, AL.find? sc b.svcUuids = some (⟨u, o.cookie⟩, svu, info) :=
  (registry_cross_references_all_histories es b w outs h).listed_service_is_of_object u o sc ho hm

/-- cascading destruction: whenever an object cookie is not (or no longer) registered, no registered service refers
to it -/
theorem services_of_a_dead_object_are_dead (es : List Event) (b : Broker) (w : Work) (outs : List (List Out))
    (h : run {} {} es = .ok (b, w, outs)) {c : Cookie} (hc : AL.find? c b.objUuids = none)
    {sc : Cookie} {oid : ObjId} {svu : Uuid} {info : SvcInfo} (hs : AL.find? sc b.svcUuids = some (oid, svu, info)) :
    oid.cookie ≠ c := by
  intro he
  have := (service_hangs_off_live_object es b w outs h hs).1
  rw [he, hc] at this; simp at this

/-- a disconnect destroys everything the connection owned: no object is owned by a connection that is not there -/
theorem objects_of_a_gone_connection_are_gone (es : List Event) (b : Broker) (w : Work) (outs : List (List Out))
    (h : run {} {} es = .ok (b, w, outs)) {id : ConnId} (hgone : AL.find? id b.conns = none) {u : Uuid} {o : Obj}
    (ho : AL.find? u b.objs = some o) : o.conn ≠ id := by
  intro he
  obtain ⟨conn, hc, _⟩ := owner_is_connected_and_lists_object es b w outs h ho
  rw [he, hgone] at hc; simp at hc

/-- an accepted `DestroyObject` (owner, reply delivered) unregisters the object's cookie and leaves the registry
consistent — so, by `services_of_a_dead_object_are_dead`, without any service of that object -/
theorem destroy_object_unregisters {s s' : St} {id serial c u} {conn : Conn} {o : Obj} (h : Reg none none s)
    (hc : AL.find? id s.b.conns = some conn) (ha : conn.alive = true) (hu : AL.find? c s.b.objUuids = some u)
    (ho : AL.find? u s.b.objs = some o) (hown : o.conn = id) (hr : destroyObject s id serial c = .ok (s', true)) :
    AL.find? c s'.b.objUuids = none ∧ Reg none none s' ∧
      ∀ sc oid svu info, AL.find? sc s'.b.svcUuids = some (oid, svu, info) → oid.cookie ≠ c := by
  -- the request is accepted: the reply goes out, then `remove_object`
  simp only [destroyObject, St.conn?_def, hc, hu, ho, hown, ne_eq, not_true_eq_false, ↓reduceIte, St.send_snd,
    aliveB_of_find hc, ha, Bool.not_true, Bool.false_eq_true] at hr
  split at hr
  · cases hr
  next h1 =>
  cases hr
  obtain ⟨hreg, hnone⟩ := removeObject_reg (pc := none) (Reg.of_same h (SameReg.frame.send _ _ _ _)) h1
  refine ⟨hnone, hreg, fun sc oid svu info hs he => ?_⟩
  obtain ⟨ha', -⟩ := (RegistryConsistent.of_reg (b := s'.b) (w := s'.w) (out := s'.out) hreg).service_has_live_object sc oid svu info hs
  rw [he, hnone] at ha'; cases ha'

/-- an accepted `DestroyService` unregisters the service's cookie and leaves the registry consistent -/
theorem destroy_service_unregisters {s s' : St} {id serial c} {conn : Conn} {oid : ObjId} {svu : Uuid} {info : SvcInfo} {o : Obj}
    (h : Reg none none s) (hc : AL.find? id s.b.conns = some conn) (ha : conn.alive = true)
    (hu : AL.find? c s.b.svcUuids = some (oid, svu, info)) (ho : AL.find? oid.uuid s.b.objs = some o) (hown : o.conn = id)
    (hr : destroyService s id serial c = .ok (s', true)) :
    AL.find? c s'.b.svcUuids = none ∧ Reg none none s' := by
  simp only [destroyService, St.conn?_def, hc, hu, ho, hown, ne_eq, not_true_eq_false, ↓reduceIte, St.send_snd,
    aliveB_of_find hc, ha, Bool.not_true, Bool.false_eq_true] at hr
  split at hr
  · cases hr
  next h1 =>
  cases hr
  obtain ⟨hreg, hnone, -⟩ := removeService_reg (pc := none) (ps := none) (Reg.of_same h (SameReg.frame.send _ _ _ _)) h1
  exact ⟨hnone, hreg⟩

/-! ### the bus events of the cascade -/

/-- **`remove_service` announces the service.** From any state in which it succeeds: if the cookie is registered, one
`ServiceDestroyed` with the service's full id is deferred for the bus listeners and exactly that cookie is unregistered;
if it is not, nothing changes. No `ObjectDestroyed` is deferred. -/
theorem destroyed_service_is_announced {s s' : St} {c : Cookie} (hr : removeService s c = .ok s') :
    (∀ c', AL.find? c' s'.b.svcUuids = if c = c' then none else AL.find? c' s.b.svcUuids) ∧
    s'.w.destroyService = (svcItem s.b.svcUuids c).toList ++ s.w.destroyService ∧
    s'.w.destroyObject = s.w.destroyObject :=
  removeService_bus hr

/-- **`remove_object` announces the object and every service it lists** (the object's list names no service twice): one
`ObjectDestroyed` with the object's id, one `ServiceDestroyed` per listed service that is registered, in the order of the
list, and all of these cookies are unregistered. -/
theorem destroyed_object_cascade_is_announced {s s' : St} {c : Cookie} {objUuid : Uuid} {obj : Obj}
    (hu : AL.find? c s.b.objUuids = some objUuid) (ho : AL.find? objUuid s.b.objs = some obj) (hnd : obj.svcs.Nodup)
    (hr : removeObject s c = .ok s') :
    (∀ c', AL.find? c' s'.b.svcUuids = if c' ∈ obj.svcs then none else AL.find? c' s.b.svcUuids) ∧
    s'.w.destroyService = (obj.svcs.filterMap (svcItem s.b.svcUuids)).reverse ++ s.w.destroyService ∧
    s'.w.destroyObject = ⟨objUuid, c⟩ :: s.w.destroyObject := by
  simp only [removeObject_eq, hu, ho, bind_ok_iff] at hr
  obtain ⟨s1, h1, h2⟩ := hr
  cases h2
  simpa [dropObject] using removeObject_svcs_bus _ _ _ hnd h1

/-- in a consistent registry every service an object lists is registered under that object: none of the listed services
is skipped by the cascade -/
theorem listed_services_are_announced {b : Broker} (hrc : RegistryConsistent b) {u : Uuid} {o : Obj} (ho : AL.find? u b.objs = some o)
    {sc : Cookie} (hm : sc ∈ o.svcs) : ∃ sid, svcItem b.svcUuids sc = some sid ∧ sid.cookie = sc := by
  obtain ⟨svu, info, hs⟩ := hrc.listed_service_is_of_object u o sc ho hm
  exact ⟨_, by simp only [svcItem, hs]; rfl, rfl⟩

/-- the work loop turns the deferred items into bus events, services before objects: with nothing of higher priority
deferred, the first `destroy_service` item is emitted as `ServiceDestroyed`; with no such item left, the first
`destroy_object` item as `ObjectDestroyed` -/
theorem deferred_destructions_are_emitted {s : St} (h0 : s.w.removeConns = []) (h1 : s.w.unsubscribeEvent = []) (h2 : s.w.unsubscribeAll = [])
    (h3 : s.w.servicesDestroyed = []) (h4 : s.w.removeCalls = []) (h5 : s.w.createObject = []) (h6 : s.w.createService = []) :
    (∀ sv rest, s.w.destroyService = sv :: rest →
      processOne s = some (.ok (emitBusEvent (s.setWDestroyService rest) (.svcDestroyed sv)))) ∧
    (∀ o rest, s.w.destroyService = [] → s.w.destroyObject = o :: rest →
      processOne s = some (.ok (emitBusEvent (s.setWDestroyObject rest) (.objDestroyed o)))) := by
  exact ⟨fun sv rest hq => processOne_of_pop (St.pop_destroyService h0 h1 h2 h3 h4 h5 h6 hq),
    fun o rest hq1 hq => processOne_of_pop (St.pop_destroyObject h0 h1 h2 h3 h4 h5 h6 hq1 hq)⟩

/-! non-vacuity of the invariant's clauses: a state with two connections, an object with a service, and a second object -/
example : (match run {} {} [.newConn 0 20, .newConn 1 20, .msg 0 (.createObject 1 5), .msg 0 (.createService 2 0 6 3),
      .msg 1 (.createObject 3 7)] with
    | .ok (b, _, _) => (b.objUuids, b.objs.map (fun p => (p.1, p.2.conn, p.2.cookie, p.2.svcs)))
    | .error _ => ([], [])) = ([(0, 5), (2, 7)], [(5, 0, 0, [1]), (7, 1, 2, [])]) := by decide
example : (match run {} {} [.newConn 0 20, .newConn 1 20, .msg 0 (.createObject 1 5), .msg 0 (.createService 2 0 6 3),
      .msg 1 (.createObject 3 7)] with
    | .ok (b, _, _) => (b.svcUuids.map (fun p => (p.1, p.2.1.uuid, p.2.1.cookie, p.2.2.1)), b.conns.map (fun p => (p.1, p.2.objects)))
    | .error _ => ([], [])) = ([(1, 5, 0, 6)], [(0, [0]), (1, [2])]) := by decide

/-! non-vacuity: re-creation after destruction gives a new cookie; a foreign destroy is refused; destroying
the object destroys its service (the later query says so) -/
example : (match run {} {} [.newConn 0 20, .newConn 1 20, .msg 0 (.createObject 1 5), .msg 0 (.createService 2 0 6 3),
      .msg 1 (.destroyObject 3 0), .msg 0 (.destroyObject 4 0), .msg 1 (.queryServiceVersion 5 1),
      .msg 1 (.createObject 6 5)] with
    | .ok (_, _, outs) => outs.drop 4 | .error _ => []) =
    [[⟨1, .destroyObjectReply 3 .foreignObject, none⟩], [⟨0, .destroyObjectReply 4 .ok, none⟩],
     [⟨1, .queryServiceVersionReply 5 none, none⟩], [⟨1, .createObjectReply 6 (.ok 2), none⟩]] := by decide

end Aldrin.Broker
