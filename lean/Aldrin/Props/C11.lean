/-
C11 — Broker survives arbitrary message sequences and keeps serving others.

Statement (properties.jsonl): whatever sequence of well-formed protocol messages a connection sends —
wrong direction, stale or foreign cookies and serials, duplicates, out-of-state requests — the broker
does not panic or hang; it answers, ignores, or closes that connection. Afterwards a well-behaved
connection is still served correctly, and objects, calls and channels of other connections are affected
only in the ways the protocol defines for a peer that disconnects.

What is proved here (model M4, where every `expect("inconsistent state")`, `unreachable!()` and
`debug_assert!` of the broker is an explicit `Panic` result):
* wrong-direction kinds and kinds newer than the negotiated version only make the handler fail, which
  closes the sender and nothing else (`wrong_direction_closes_sender`, C12 `gated_message_fails`);
* for ALL histories every stored channel and bus listener satisfies its invariant (C05, C10), and under
  those invariants the panic sites of `channel.rs` (5 `unreachable!()` arms, 3 `debug_assert!`s) and of
  `bus_listener.rs` (2 `unreachable!()` arms) are not reachable from the operations the handlers apply
  to stored entries (`channel_ops_do_not_panic`, `listener_enumeration_does_not_panic`);
* requests naming unknown cookies / serials are answered or ignored without touching other state
  (`unknown_*`).
* the three `debug_assert!`s of `ConnectionState::remove_call` (`call_function_reply`, `abort_call`, the deferred
  `remove_function_call` items) hold in every turn of `Broker::run`, by the cross-reference invariant of the call
  tables proved for C02 (`remove_call_asserts_hold`; reachable states with fewer than 2³² pending calls);
* **of the 35 lookup sites of the model (the 38 `expect("inconsistent state")` calls of `broker.rs`; the two service handlers and some removal paths share a site) only the four of the introspection code can be reached**
  (`inconsistent_state_only_in_introspection`: one whole turn of `Broker::run` — the handler of any event and every step
  of the deferred work — from any reachable state; `Lemmas/Broker/Lookups.lean`, from the registry invariant of C03,
  the callee-side invariant of C02 and the ownership invariant of C05); `request_does_not_panic` (no panic of any kind —
  lookup, `unreachable!()`, `debug_assert!` — in the handler of the 31 request kinds that are not about introspection; with
  the channel and listener invariants of C05 / C10 and the caller-side invariant of C02), `remove_service_and_object_cannot_fail`,
  `shutdown_connection_lookups_hold`;
* the work loop stops after finitely many items from every state (`work_loop_terminates`, a lexicographic measure;
  `Lemmas/Broker/Terminate.lean`), so the outcome of a turn does not depend on the model's budget once that is large
  enough (`work_loop_outcome_is_independent_of_the_budget`): "does not hang";
* **`turn_panics_only_in_introspection`**: one whole turn from any reachable state, for any event, ends in a panic of any
  kind only inside the introspection code, or on a connection id that is already in use, or by running out of the
  model's budget (`Lemmas/Broker/NoPanic.lean`; adds that a connection lists a channel end once — `Nodup.lean` — and that
  closing one end of a channel leaves the other as it was, so that the teardown of a connection only closes ends that
  are still claimed); `teardown_panics_only_in_introspection`; `set_wrapper_asserts_hold` (the `debug_assert!`s inside the
  set wrappers of `conn_state.rs`, `object.rs`, `service.rs`, which the model does not have as panic sites: what is
  inserted is new, what is removed is there);
Partial: the four lookups and four `debug_assert!`s of the introspection code (their invariant — serials ↔ queried
entries, pending queries of live connections — is not proved), and that the concrete budget `loopFuel` of the model's
`step` suffices (it is generous; the correspondence runs would show a `fuel` result) are not theorems; that a
connection id is new is an assumption about the acceptor. It is covered by the correspondence runs of the "abuse" profile (the model reports the
panic site by name, the harness catches panics around every poll and checks that every live connection
is still answered at the end of each scenario).
-/
import Aldrin.Lemmas.Broker.Gauge
import Aldrin.Lemmas.Broker.Handlers
import Aldrin.Lemmas.Broker.CallAsserts
import Aldrin.Lemmas.Broker.Lookups
import Aldrin.Lemmas.Broker.Terminate
import Aldrin.Lemmas.Broker.NoPanic
import Aldrin.Lemmas.ConnId.Inv
import Aldrin.Lemmas.Broker.ConnIdBroker

namespace Aldrin.Broker

theorem wrong_direction_closes_sender (s s' : St) (id : ConnId) (k : Nat)
    (h : handleEvent s (.msg id (.other k)) = .ok s') :
    s'.w.removeConns = (id, false) :: s.w.removeConns ∧ s'.b.conns = s.b.conns ∧ s'.out = s.out := by
  have hm : handleMessage s id (.other k) = .ok (s, false) := rfl
  simp only [handleEvent, hm, Bool.false_eq_true, ↓reduceIte, Except.ok.injEq] at h
  subst h
  exact ⟨rfl, rfl, rfl⟩

/-- every operation a handler applies to a stored channel is panic-free (the `close` case needs the end
not to be closed already, which `check_close` / the claimed-state checks of the callers establish) -/
theorem channel_ops_do_not_panic (es : List Event) (b : Broker) (w : Work) (outs : List (List Out))
    (h : run {} {} es = .ok (b, w, outs)) (ck : Cookie) (ch : Chan) (hc : AL.find? ck b.channels = some ch)
    (conn : ConnId) (cap : Nat) :
    (∃ r, ch.sendItem conn = .ok r) ∧ (∃ r, ch.addCapacity conn cap = .ok r) ∧
    (∃ r, ch.claimSender conn = .ok r) ∧ (∃ r, ch.claimReceiver conn cap = .ok r) ∧
    (∀ e, ch.endState e ≠ .closed → ∃ r, ch.close e = .ok r) := by
  have hok : ch.OK := AllV_find (run_CLInv es _ _ _ _ _ CLInv_init h).1 hc
  exact ⟨(sendItem_ok hok).ok, (addCapacity_ok hok).ok, (claimSender_ok hok).ok, (claimReceiver_ok hok).ok,
    fun e he => (close_ok hok he).ok⟩

theorem listener_enumeration_does_not_panic (es : List Event) (b : Broker) (w : Work) (outs : List (List Out))
    (h : run {} {} es = .ok (b, w, outs)) (ck : Cookie) (l : Listener) (hl : AL.find? ck b.listeners = some l)
    (sc : Option Scope) :
    (∃ r, ({ l with scope := sc } : Listener).specificObjects = .ok r) ∧
    (∃ r, ({ l with scope := sc } : Listener).specificServices? = .ok r) := by
  have hok : l.OK := AllV_find (P := Listener.OK) (run_CLInv es _ _ _ _ _ CLInv_init h).2 hl
  have hok' : ({ l with scope := sc } : Listener).OK := Listener.setScope_ok sc hok
  exact ⟨⟨_, Listener.specificObjects_ok hok'⟩, ⟨_, Listener.specificServices?_ok hok'⟩⟩

theorem unknown_call_reply_ignored {s : St} {id serial r} (hn : s.b.calls.get? serial = none) :
    callFunctionReply s id serial r = .ok (s, true) := reply_unknown_ignored hn

theorem unknown_channel_item_ignored {s : St} {id c p} (hn : AL.find? c s.b.channels = none) :
    sendItem s id c p = .ok (s, true) := by
  unfold sendItem
  cases hc : s.conn? id <;> simp [hn, okH]

theorem unknown_listener_filter_ignored {s : St} {id c} {f : Listener → Listener} (hn : AL.find? c s.b.listeners = none) :
    updListener s id c f = .ok (s, true) := by
  unfold updListener; simp [hn, okH]

theorem foreign_listener_untouched {s : St} {id c} {f : Listener → Listener} {l : Listener}
    (hl : AL.find? c s.b.listeners = some l) (hne : l.conn ≠ id) :
    updListener s id c f = .ok (s, true) := by
  unfold updListener; simp [hl, hne, okH]

/-- **The three `debug_assert!`s of `ConnectionState::remove_call` hold in every turn of `Broker::run`** (every
reachable state with fewer than 2³² pending calls, every event, every step of the work loop): in `call_function_reply`
(the handler runs on the state between two events), in `abort_call` and for the deferred `remove_function_call` items
(both run on states inside the work loop). -/
theorem remove_call_asserts_hold :
    (∀ {b : Broker} {w : Work}, Reachable b w → ∀ id serial r,
        callFunctionReply ⟨b, w, []⟩ id serial r ≠ .error (.debugAssert "remove_call")) ∧
    (∀ {s : St}, InTurn s → ∀ bs cid rest,
        abortCall (s.setWAbortCalls rest) bs cid ≠ .error (.debugAssert "abort_call: remove_call")) ∧
    (∀ {s : St}, InTurn s → ∀ serial cid result rest conn, s.w.removeCalls = (serial, cid, result) :: rest →
        AL.find? cid s.b.conns = some conn → AL.find? serial conn.calls ≠ none) :=
  ⟨fun hr id serial r => reply_remove_call_assert_holds hr.idle.x id serial r,
   fun hs bs cid rest => abort_remove_call_assert_holds hs.xref bs cid rest,
   fun hs serial cid result rest conn hq hc => loop_remove_call_assert_holds hs.xref hq hc⟩



/-- **One turn of `Broker::run`, from any reachable state (fewer than 2³² pending calls), for any event — any message
of any connection, connects, disconnects of all four kinds, shutdown —, including every step of the deferred work:** if
the turn stops at an `expect("inconsistent state")`, it is one of the four lookups of the introspection code. All other
such sites of `broker.rs` (objects, services, owners, calls, subscriptions, channels) are unreachable. -/
theorem inconsistent_state_only_in_introspection {b : Broker} {w : Work} (h : Reachable b w) (hroom : b.calls.elems.length ≤ u32Max)
    {e : Event} {site : String} (he : step b w e = .error (.inconsistent site)) :
    site ∈ ["query introspection: conn", "introspection pending: conn", "remove_introspection_conn: serial", "query_replied: entry"] :=
  step_sites h hroom he

/-- **No request other than the three about introspection makes the broker panic in any way** — no failed lookup, no
`unreachable!()`, no `debug_assert!` — in any reachable state: 31 of the 34 request kinds, sent by anybody, with any
cookies and serials. (For the deferred work that follows the request see `inconsistent_state_only_in_introspection`.) -/
theorem request_does_not_panic {b : Broker} {w : Work} (h : Reachable b w) (id : ConnId) (m : Req) (p : Panic)
    (hm : ∀ tys, m ≠ .registerIntrospection tys) (hq : ∀ serial ty, m ≠ .queryIntrospection serial ty)
    (hr : ∀ serial r, m ≠ .queryIntrospectionReply serial r) :
    handleMessage ⟨b, w, []⟩ id m ≠ .error p :=
  handleMessage_np h id m p hm hq hr

/-- **`remove_service` and `remove_object` cannot fail at all** in a reachable state, for any cookie: the service entry,
every call the entry holds, the object and each of its services are found. -/
theorem remove_service_and_object_cannot_fail {b : Broker} {w : Work} (h : Reachable b w) (c : Cookie) :
    (∃ s', removeService ⟨b, w, []⟩ c = .ok s') ∧ (∃ s', removeObject ⟨b, w, []⟩ c = .ok s') :=
  ⟨removeService_ok h.cal h.reg.2 c, removeObject_ok h.cal h.reg.2 c⟩

/-- the removal of a connection, in a reachable state: only the introspection lookups can fail -/
theorem shutdown_connection_lookups_hold {b : Broker} {w : Work} (h : Reachable b w) (id : ConnId) (send : Bool) (site : String)
    (he : shutdownConnection ⟨b, w, []⟩ id send = .error (.inconsistent site)) : site ∈ introspectionSites :=
  shutdownConnection_sites h.lkinv he

/-- **The broker does not panic.** One whole turn of `Broker::run` from any reachable state (fewer than 2³² pending
calls), for any event — any message of any connection, connects, the four kinds of disconnect, shutdown —, including
every step of the deferred work and the teardown of connections: if the turn ends in a panic of the model — a failed
`expect`, an `unreachable!()`, a `debug_assert!` — then it is one raised by the introspection code (the handler of one of
the three introspection requests, or `remove_introspection_conn`), or the id of a new connection was already in use
(the acceptor never hands out an id twice), or the model's budget for the work loop ran out (see
`work_loop_terminates`). -/
theorem turn_panics_only_in_introspection {b : Broker} {w : Work} (h : Reachable b w) (hroom : b.calls.elems.length ≤ u32Max)
    {e : Event} {p : Panic} (he : step b w e = .error p) :
    p = .fuel ∨ p = .debugAssert "NewConnection: duplicate id" ∨ (∃ t cid, removeIntrospectionConn t cid = .error p) ∨
      (∃ id m, m.isIntrospection = true ∧ handleMessage ⟨b, w, []⟩ id m = .error p) :=
  step_panics h hroom he

/-- the teardown of a connection, from any reachable state: it can only panic inside `remove_introspection_conn` -/
theorem teardown_panics_only_in_introspection {b : Broker} {w : Work} (h : Reachable b w) (id : ConnId) (send : Bool) (p : Panic)
    (he : shutdownConnection ⟨b, w, []⟩ id send = .error p) : ∃ t cid, removeIntrospectionConn t cid = .error p :=
  shutdownConnection_panics h.lkinv h.clinv.1 h.nd he

/-- **The `debug_assert!`s of the set wrappers hold** (`ConnectionState::{add,remove}_*`, `Object::{add,remove}_service`,
`Service::{add,remove}_function_call` assert that an insert adds something new and a removal removes something present;
the model uses plain set operations there). In every reachable state: the next cookie is not listed by any connection
as an object, a sender end, a receiver end or a bus listener, nor by any object as a service; what is registered is
listed where the removal will look for it. -/
theorem set_wrapper_asserts_hold {b : Broker} {w : Work} (h : Reachable b w) :
    (∀ id conn, AL.find? id b.conns = some conn →
        b.nextCookie ∉ conn.objects ∧ b.nextCookie ∉ conn.senders ∧ b.nextCookie ∉ conn.receivers ∧ b.nextCookie ∉ conn.busListeners) ∧
    (∀ u o, AL.find? u b.objs = some o → b.nextCookie ∉ o.svcs) ∧
    (∀ u o, AL.find? u b.objs = some o → ∃ conn, AL.find? o.conn b.conns = some conn ∧ o.cookie ∈ conn.objects) ∧
    (∀ sc oid svu info, AL.find? sc b.svcUuids = some (oid, svu, info) → ∃ o, AL.find? oid.uuid b.objs = some o ∧ sc ∈ o.svcs) ∧
    (∀ bs call, b.calls.get? bs = some call → ∃ sv, AL.find? (call.calleeObj, call.calleeSvc) b.svcs = some sv ∧ bs ∈ sv.calls) := by
  have hreg := h.reg
  have hown := h.own
  have hrc := RegistryConsistent.of_reg (b := b) (w := w) (out := []) hreg.2
  have fo : AL.find? b.nextCookie b.objUuids = none := KeysBelow_fresh hreg.1.2.1.below
  have fs : AL.find? b.nextCookie b.svcUuids = none := KeysBelow_fresh hreg.1.2.2.2.1.below
  have fc : AL.find? b.nextCookie b.channels = none := KeysBelow_fresh hown.1.1.below
  have fl : AL.find? b.nextCookie b.listeners = none := KeysBelow_fresh hown.1.2.below
  refine ⟨fun id conn hc => ⟨?_, ?_, ?_, ?_⟩, ?_, hrc.owner_lists_object, ?_, ?_⟩
  · intro hm
    obtain ⟨u, o, hu, _, _⟩ := hrc.listed_object_is_owned id conn _ hc hm
    rw [fo] at hu; simp at hu
  · intro hm
    obtain ⟨_, _, hf, _⟩ := hown.2.listed_end (s := ⟨b, w, []⟩) hc (e := .sender) hm
    rw [fc] at hf; cases hf
  · intro hm
    obtain ⟨_, _, hf, _⟩ := hown.2.listed_end (s := ⟨b, w, []⟩) hc (e := .receiver) hm
    rw [fc] at hf; cases hf
  · intro hm
    have := hown.2.o2 id _ (.lsn, b.nextCookie) (co_find (s := ⟨b, w, []⟩) hc) (by rw [mem_holds]; exact Or.inr (Or.inr ⟨rfl, hm⟩))
    simp [own, fl] at this
  · intro u o ho hm
    obtain ⟨svu, info, hs⟩ := hrc.listed_service_is_of_object u o _ ho hm
    rw [fs] at hs; simp at hs
  · intro sc oid svu info hs
    exact (hrc.service_has_live_object sc oid svu info hs).2
  · intro bs call hg
    obtain ⟨sv, _, _, _, q1, q2, _⟩ := callee_of_call (s := ⟨b, w, []⟩) h.cal hreg.2 hg
    exact ⟨sv, q1, q2⟩

/-- **The broker does not hang in its work loop.** From every state — reachable or not — the loop of
`process_loop_result` stops after finitely many items of deferred work: nothing is left, or an item fails. (Lexicographic
measure: connections; deferred items other than removals of connections; removals of connections. A `send!` to a
connection whose task is gone only ever defers the removal of that connection.) -/
theorem work_loop_terminates (s : St) : ∃ s1, Steps s s1 ∧ (processOne s1 = none ∨ ∃ p, processOne s1 = some (.error p)) :=
  loop_terminates s

/-- hence the outcome of the model's `processLoop` does not depend on its budget once that is large enough: the model's
"out of fuel" result is never what ends the loop -/
theorem work_loop_outcome_is_independent_of_the_budget (s : St) : ∃ n r, (∀ fuel, n ≤ fuel → processLoop fuel s = r) ∧
    (r = .error .fuel → ∃ s1, Steps s s1 ∧ processOne s1 = some (.error .fuel)) :=
  processLoop_stable s

/-! ### the allocator of connection ids (`broker/src/conn_id.rs`)

`turn_panics_only_in_introspection` leaves "the id of a new connection was already in use" as one way for a turn to
fail. The ids come from `ConnectionIdManager`; model `Model/ConnId.lean`, invariant `Lemmas/ConnId/Inv.lean`. -/

/-- **No connection id is handed out twice.** After every history of acquiring ids and of dropping ids that are in
use — any number of them, in any order —, neither `debug_assert!` of `Inner::release` has failed, the ids in use are
pairwise different, and the id that the next `acquire` returns is not in use. -/
theorem connection_ids_are_never_handed_out_twice (ops : List ConnId.Op) :
    ∃ s, ConnId.Sys.run {} ops = .ok s ∧ s.held.Nodup ∧ s.ids.acquire.1 ∉ s.held := by
  obtain ⟨s, hr, hi⟩ := ConnId.run_ok ConnId.Inv.init ops
  exact ⟨s, hr, hi.heldNd, ConnId.acquire_fresh hi⟩

/-- what the allocator keeps track of, in every state it can reach: the ids below `next` are exactly the ids in use
and the ids on the free list, and none is both -/
theorem connection_id_bookkeeping (ops : List ConnId.Op) :
    ∃ s, ConnId.Sys.run {} ops = .ok s ∧ s.ids.free.Nodup ∧ (∀ i, i ∈ s.held → i ∉ s.ids.free) ∧
      ∀ i, i < s.ids.next ↔ (i ∈ s.held ∨ i ∈ s.ids.free) := by
  obtain ⟨s, hr, hi⟩ := ConnId.run_ok ConnId.Inv.init ops
  exact ⟨s, hr, hi.freeNd, hi.disj, hi.cover⟩

/-- **The duplicate-id assertion of `NewConnection` cannot fail.** The broker together with its allocator (`Node`): a new
connection gets the id that `acquire` returns; any other event may happen; the last clone of an id may go at any time
at which the broker has no connection under it (the key of the broker's map is a clone). After every such history, the
id that the next `connect` acquires is not the id of a connection the broker has, so the handling of its
`NewConnection` passes the check — the second alternative of `turn_panics_only_in_introspection` does not occur — and
the ids of the broker's connections are all in use and the allocator's bookkeeping is right. -/
theorem new_connection_id_is_never_a_duplicate (es : List NEv) (n : Node) (h : Node.run {} es = .ok n) (v : Nat) :
    (AL.find? n.ids.ids.acquire.1 n.b.conns).isSome = false ∧
    (∃ s, handleEvent ⟨n.b, n.w, []⟩ (.newConn n.ids.ids.acquire.1 v) = .ok s) ∧
    (∀ c conn, AL.find? c n.b.conns = some conn → c ∈ n.ids.held) ∧ n.ids.held.Nodup := by
  have hi := Node.run_inv es _ _ NInv.init h
  refine ⟨hi.acquired_is_new, hi.handleEvent_newConn_ok v, ?_, hi.ids.heldNd⟩
  intro c conn hc
  exact hi.held c (by simp [exB, hc])

/-! non-vacuity: two connections, the first shuts down and its id goes, a third connection gets the id 0 again -/
example : (match Node.run {} [.connect 20, .connect 20, .ev (.connShutdown 0), .dropId 0, .connect 18] with
    | .ok n => (n.b.conns.map (fun p => (p.1, p.2.version)), n.ids.held, n.ids.ids.next) | .error _ => ([], [], 0)) =
    ([(1, 20), (0, 18)], [0, 1], 2) := by decide

/-! non-vacuity: ids 0 1 2 acquired, 1 then 2 dropped (the second lowers `next`), two more acquired: 1 from the free
list, then 2 again -/
example : (match ConnId.Sys.run {} [.acquire, .acquire, .acquire, .release 1, .release 2, .acquire, .acquire] with
    | .ok s => (s.ids.next, s.ids.free, s.held) | .error _ => (0, [], [])) = (3, [], [2, 1, 0]) := by decide

/-! non-vacuity: abuse by connection 1 (wrong direction, then it is gone); connection 0 is still served -/
example : (match run {} {} [.newConn 0 20, .newConn 1 14, .msg 1 (.other 31), .msg 1 (.sync 5), .msg 0 (.sync 6)] with
    | .ok (b, _, outs) => (b.conns.map (·.1), outs.drop 2) | .error _ => ([], [])) =
    ([0], [[], [], [⟨0, .syncReply 6, none⟩]]) := by decide

end Aldrin.Broker
