/-
C06 — Clients and broker agree on the protocol under every schedule.

Statement (properties.jsonl): when applications use only the public client API, no client ever stops because
the broker sent it a message it did not expect, neither side panics, and every API operation that the
application awaits completes once its peer has acted, on unbounded as well as on small bounded transports.
Results are consistent: a call returns the value computed for that very call, and once all clients have shut
down cleanly a broker asked to stop when idle stops.

What is proved here is the client's half of the agreement, on the model of `Client::run`'s message handling
(`Model/Client.lean`, one case per `msg_*` function), for histories of any length:

* `pending_is_open_requests` — after ANY history of sent requests and accepted messages, a serial is in the
  map of its request kind iff a request of that kind with that serial has been sent and not been answered.
  The client's book-keeping is exactly "requests on their way"; it does not depend on the schedule.
* `unknown_serial_is_refused` — a reply whose serial is not in that map stops the client
  (`UnexpectedMessageReceived`), for each of the 17 reply kinds that are checked;
* `reply_to_open_request_is_not_refused` — conversely a reply to a request that is on its way is never
  refused, for the 12 kinds whose acceptance depends on nothing else; hence a broker that answers every
  request once under its serial (C02, C03, C05 on the broker model) never makes the client stop through one
  of these. The other five (claim, start / stop of a bus listener, subscribe / unsubscribe all) have their
  extra condition stated (`claim_reply_*`, `start_reply_ok_needs_stopped_listener`, …).
* `lenient_replies_never_refused` — replies to calls, object and service destruction are never refused.
* `item_accepted_iff`, `capacity_accepted_iff`, `end_claimed_accepted_iff`, `end_closed_accepted_iff`,
  `current_event_accepted_iff`, `current_finished_accepted_iff` — what the client requires of the messages
  that carry no serial, in terms of its channel-end and listener state.

The composed system (`Model/System.lean`: the broker model, one client model per connection, two
order-preserving queues per connection, EVERY interleaving of "a client sends", "the broker handles the oldest
request of a connection", "any other broker event", "a client handles its oldest message", "a client goes
away"), for the replies that carry a checked serial:

* `replies_carry_open_serials` — in every reachable state, every serial reply that is on its way to a client
  names a serial that is in the client's map of that kind (16 kinds; `queryIntrospectionReply` is answered
  later and is not covered). Rests on `step_msg_reply` / `step_other_no_reply` (Lemmas/Broker/Replies.lean):
  one turn of the broker answers a request at most once, to the requester, under the request's kind and
  serial, and emits no serial reply otherwise — proved for all 35 handlers, connection clean-up and the
  deferred-work loop; and on the invariant `SysInv` (Lemmas/Client/Agreement.lean).
* `broker_replies_never_refused` — hence in no interleaving is a reply of the 11 plain kinds refused.
  The only assumption about the clients is `freshSerial` (a request does not reuse a serial that is still
  open — what `SerialMap::insert` guarantees); the driver checks it on every `cs` line of every trace of the
  real client (`reused-serial`).

* `listener_messages_never_refused` — bus listeners: in every interleaving, whatever the broker has put into a
  client's queue about its listeners — replies to create / destroy / start / stop, the tagged created-events that
  answer a start, the end-of-current marker — is not refused when the client gets to it: the listener is known, a
  start finds it stopped, a stop finds it started, tagged events come only between a start whose scope includes
  what exists and its marker, and the marker comes once. Rests on exact characterisations of the four listener
  handlers (Lemmas/Broker/ListenerSpec.lean), on "a connection that is gone or whose task has ended never comes
  back" for all handlers, clean-up and the work loop (Lemmas/Broker/Alive.lean), on "no other request and nothing
  in the work loop touches another connection's listeners or emits a tagged message", and on the client's listener
  book-keeping being a machine of its own that commutes with sending (Lemmas/Client/ListenerView.lean). The
  invariant (`LSysInv`, Lemmas/Client/ListenerAgreement.lean) relates, per live connection, the broker's listener
  table to the client's listener map *after* the client will have handled what is on its way to it.

* `channel_messages_never_refused` — channels: in every interleaving, whatever the broker has put into a client's
  queue about channels — replies to create / close / claim, "the other end was claimed", "the other end was closed",
  items, capacity — is not refused when the client gets to it: a claim reply is of the kind of the claim, an end that
  is told "claimed" is pending, one that is told "closed" exists and has not been told before, items and capacity
  reach established ends only. This covers close racing claim, closes by flow-control violations, and the
  clean-up of a connection that ends. The invariant (`CSysInv`, Lemmas/Client/ChannelAgreement.lean): for every
  live connection and every end it has claimed in the broker's channel table, the client's map of that end —
  after the messages on their way — says `pending` while the other end is unclaimed and `established` once it is
  claimed; every channel request on its way has its entry. That ends are owned by connections that exist is the
  broker's own ownership invariant, carried through the system in Lemmas/Client/Owners.lean. It is
  preserved by `remove_channel_end` (whoever calls it), the five channel handlers (exact characterisations),
  connection clean-up and the work loop; everything else neither touches the table nor emits a channel message
  (Lemmas/Broker/ChanOut.lean).

* `pending_serials_are_on_their_way`, `quiescent_no_pending` — nothing is left waiting for the broker: in every
  reachable state, for a connection the broker still serves, every serial in one of the client's 16 maps belongs to
  a request that is on its way to the broker or to a reply that is on its way to the client; when both queues of
  the connection are empty, the maps are empty. Rests on `step_msg_answers` (Lemmas/Broker/Answers.lean): a turn
  of the broker for such a request of a connection that is alive before and after the turn puts the reply into the
  queue in that very turn — either the handler answers, or it closes the connection, and then the first round of the
  work loop removes it. This is the protocol half of "every operation that only waits for the broker completes";
  that the real client's futures are woken is the harness' business.

Partial (see DESIGN.md): the same for calls and subscriptions (`NotSupported` is never sent to a client that asked
only when it may) is the remaining part of the composed-system invariant; it is not a theorem here. The `assert!`s
of the client about its own maps (a new cookie is not in the map yet) are not covered by these theorems either. It is checked by the runs of `harness/src/bin/sys.rs`
(real broker, 2-4 real clients, PRNG-chosen schedule, FIFO sizes 1..16 and unbounded), whose transport traces
are replayed through this model. Lost wake-ups, fairness of `select` and back-pressure are runtime behaviour
no theorem about this model can exhibit; the same runs check them (quiescence implies completion).
-/
import Aldrin.Lemmas.Client.Serial
import Aldrin.Lemmas.Client.Agreement
import Aldrin.Lemmas.Client.ListenerAgreement
import Aldrin.Lemmas.Client.ChannelAgreement
import Aldrin.Lemmas.Client.Answered

namespace Aldrin.Client
open Aldrin.Broker

/-- a freshly connected client -/
def CSt.init (version : Nat) : CSt := { version := version }

theorem pending_is_open_requests (version : Nat) (h : List Ev) (s : CSt) (k : SKind) (x : Nat)
    (hr : replay (CSt.init version) h = some s) :
    x ∈ pendingOf s k ↔ openFrom false k x h = true := by
  have := replay_pending h (CSt.init version) s k x hr
  have h0 : decide (x ∈ pendingOf (CSt.init version) k) = false := by
    simp [CSt.init, pendingOf_init]
  rwa [h0] at this

theorem unknown_serial_is_refused (s : CSt) (m : Rsp) (k : SKind) (x : Nat) (hk : rspKey m = some (k, x))
    (hx : x ∉ pendingOf s k) : onRecv s m = .unexpected :=
  onRecv_unknown_serial s m k x hk hx

/-- reply kinds that are accepted whenever their serial is known -/
def plainReply : Rsp → Bool
  | .createObjectReply .. | .createServiceReply .. | .subscribeEventReply .. | .queryServiceVersionReply ..
  | .queryServiceInfoReply .. | .subscribeServiceReply .. | .createChannelReply .. | .closeChannelEndReply ..
  | .syncReply .. | .createBusListenerReply .. | .destroyBusListenerReply .. => true
  | _ => false

theorem known_serial_not_refused (s : CSt) (m : Rsp) (k : SKind) (x : Nat) (hp : plainReply m = true)
    (hk : rspKey m = some (k, x)) (hx : x ∈ pendingOf s k) : onRecv s m ≠ .unexpected := by
  cases m <;> cases hp <;> cases hk <;> simp only [pendingOf] at hx <;> simp only [onRecv]
  -- the serial is found; what the handler does then ends in `ok` or in one of its `assert!`s
  all_goals first
    | simp only [take_eq_some_iff.mpr ⟨hx, rfl⟩]
    | (obtain ⟨v, hv⟩ := mem_keys_iff_find.mp hx; simp only [takeAL_of_find hv])
  all_goals repeat' split
  all_goals exact nofun

theorem reply_to_open_request_is_not_refused (version : Nat) (h : List Ev) (s : CSt) (m : Rsp) (k : SKind) (x : Nat)
    (hr : replay (CSt.init version) h = some s) (hp : plainReply m = true) (hk : rspKey m = some (k, x))
    (hopen : openFrom false k x h = true) : onRecv s m ≠ .unexpected :=
  known_serial_not_refused s m k x hp hk ((pending_is_open_requests version h s k x hr).mpr hopen)

/-- the messages the client never refuses, whatever its state -/
def harmless : Rsp → Bool
  | .destroyObjectReply .. | .destroyServiceReply .. | .callFunction .. | .callFunction2 .. | .callFunctionReply ..
  | .subscribeEvent .. | .unsubscribeEvent .. | .emitEvent .. | .serviceDestroyed .. | .emitBusEvent none _ | .shutdown => true
  | _ => false

theorem harmless_never_refused (s : CSt) (m : Rsp) (h : harmless m = true) : onRecv s m ≠ .unexpected := by
  cases m
  case destroyObjectReply | callFunctionReply | subscribeEvent | unsubscribeEvent | emitEvent | serviceDestroyed | shutdown =>
    exact nofun
  case destroyServiceReply | callFunction | callFunction2 =>
    simp only [onRecv]
    repeat' split
    all_goals exact nofun
  case emitBusEvent o _ =>
    cases o
    · exact nofun
    · cases h
  all_goals cases h

theorem lenient_replies_never_refused (s : CSt) :
    (∀ n r, onRecv s (.destroyObjectReply n r) ≠ .unexpected) ∧
    (∀ n r, onRecv s (.callFunctionReply n r) ≠ .unexpected) ∧
    (∀ n r, onRecv s (.destroyServiceReply n r) ≠ .unexpected) :=
  ⟨fun _ _ => harmless_never_refused s _ rfl, fun _ _ => harmless_never_refused s _ rfl, fun _ _ => harmless_never_refused s _ rfl⟩

/-! ### the replies with a second condition -/

theorem claim_reply_matching (s : CSt) (n : Nat) (ck : Cookie) (cap : Nat)
    (hs : AL.find? n s.claimChannelEnd = some (.sender, ck)) :
    onRecv s (.claimChannelEndReply n (.senderClaimed cap)) ≠ .unexpected ∧
    onRecv s (.claimChannelEndReply n .receiverClaimed) = .unexpected := by
  constructor
  · simp only [onRecv, takeAL_of_find hs]
    repeat' split
    all_goals simp_all
  · simp [onRecv, takeAL_of_find hs]

theorem claim_reply_failure_accepted (s : CSt) (n : Nat) (e : ChanEnd) (ck : Cookie)
    (hs : AL.find? n s.claimChannelEnd = some (e, ck)) :
    (∃ s', onRecv s (.claimChannelEndReply n .invalidChannel) = .ok s') ∧
    (∃ s', onRecv s (.claimChannelEndReply n .alreadyClaimed) = .ok s') := by
  constructor <;> cases e <;> simp [onRecv, takeAL_of_find hs]

theorem start_reply_ok_needs_stopped_listener (s : CSt) (n : Nat) (ck : Cookie) (sc : Scope)
    (hs : AL.find? n s.startBusListener = some (ck, sc)) :
    onRecv s (.startBusListenerReply n .ok) ≠ .unexpected ↔
      ∃ l, AL.find? ck s.listeners = some l ∧ l.scope = none := by
  simp only [onRecv, takeAL_of_find hs]
  cases hl : AL.find? ck s.listeners with
  | none => simp
  | some l => cases hsc : l.scope <;> simp [hsc]

theorem stop_reply_ok_needs_started_listener (s : CSt) (n : Nat) (ck : Cookie)
    (hs : AL.find? n s.stopBusListener = some ck) :
    onRecv s (.stopBusListenerReply n .ok) ≠ .unexpected ↔
      ∃ l, AL.find? ck s.listeners = some l ∧ l.scope.isSome = true := by
  simp only [onRecv, takeAL_of_find hs]
  cases hl : AL.find? ck s.listeners with
  | none => simp
  | some l => cases hsc : l.scope <;> simp [hsc]

/-- `NotSupported` is never an acceptable answer: the client only asks when the service said it can -/
theorem not_supported_refused (s : CSt) (n : Nat) :
    onRecv s (.subscribeAllEventsReply n .notSupported) = .unexpected ∧
    onRecv s (.unsubscribeAllEventsReply n .notSupported) = .unexpected := by
  constructor <;> simp only [onRecv] <;> split <;> simp

/-! ### messages without a serial -/

theorem item_accepted_iff (s : CSt) (ck : Cookie) (p : Payload) :
    onRecv s (.itemReceived ck p) = .ok s ↔ AL.find? ck s.receivers = some .established := by
  simp only [onRecv]; split <;> simp_all

theorem capacity_accepted_iff (s : CSt) (ck : Cookie) (n : Nat) :
    onRecv s (.addChannelCapacity ck n) = .ok s ↔ AL.find? ck s.senders = some .established := by
  simp only [onRecv]; split <;> simp_all

/-- the other end was claimed: accepted exactly once, while this client's end is still pending -/
theorem end_claimed_accepted_iff (s : CSt) (ck : Cookie) (e : ChanEnd) (cap : Nat) :
    onRecv s (.channelEndClaimed ck e cap) ≠ .unexpected ↔
      AL.find? ck (ends s (peerEnd e)) = some .pending := by
  simp only [onRecv, channelEndClaimed]
  split <;> simp_all

/-- the other end was closed: accepted once, while this client's end exists and has not been told already -/
theorem end_closed_accepted_iff (s : CSt) (ck : Cookie) (e : ChanEnd) :
    onRecv s (.channelEndClosed ck e) ≠ .unexpected ↔
      ∃ st, AL.find? ck (ends s (peerEnd e)) = some st ∧ st ≠ .peerClosed := by
  simp only [onRecv, channelEndClosed]
  split <;> simp_all

theorem current_event_accepted_iff (s : CSt) (ck : Cookie) (ev : BusEv) :
    onRecv s (.emitBusEvent (some ck) ev) = .ok s ↔
      ∃ l, AL.find? ck s.listeners = some l ∧ (l.scope.map Scope.includesCurrent).getD false = true ∧ l.currentFinished = false := by
  simp only [onRecv]
  cases hl : AL.find? ck s.listeners with
  | none => simp
  | some l => by_cases h1 : (l.scope.map Scope.includesCurrent).getD false = true <;> cases h2 : l.currentFinished <;> simp_all

theorem current_finished_accepted_iff (s : CSt) (ck : Cookie) :
    onRecv s (.busListenerCurrentFinished ck) ≠ .unexpected ↔
      ∃ l, AL.find? ck s.listeners = some l ∧ l.currentFinished = false := by
  simp only [onRecv]
  cases hl : AL.find? ck s.listeners with
  | none => simp
  | some l => cases h2 : l.currentFinished <;> simp_all

/-- events, service notifications and untagged bus events are always accepted -/
theorem notifications_always_accepted (s : CSt) :
    (∀ c e p, onRecv s (.emitEvent c e p) = .ok s) ∧ (∀ c, onRecv s (.serviceDestroyed c) = .ok s) ∧
    (∀ c e, onRecv s (.subscribeEvent c e) = .ok s) ∧ (∀ c e, onRecv s (.unsubscribeEvent c e) = .ok s) ∧
    (∀ ev, onRecv s (.emitBusEvent none ev) = .ok s) := by
  simp [onRecv]

/-! ### the composed system -/

open Aldrin.System in
/-- In every interleaving of the composed system, a serial reply that is on its way to a client names a serial
the client has in its map of that kind. -/
theorem replies_carry_open_serials (es : List SysEv) (s : Sys) (hr : sysRun {} es = some s)
    (c : ConnId) (l : Link) (hl : s.links c = some l) (m : Rsp) (hm : m ∈ l.down)
    (k : SKind) (n : Nat) (hk : strictKey m = some (k, n)) : n ∈ pendingOf l.mon k :=
  head_is_pending (sysRun_inv es {} s hr SysInv_init) hl hm hk

theorem plainReply_strict {m : Rsp} (hp : plainReply m = true) : ∃ k n, strictKey m = some (k, n) := by
  cases m <;> simp only [plainReply, Bool.false_eq_true] at hp <;> exact ⟨_, _, rfl⟩

open Aldrin.System in
/-- In every interleaving of the composed system, the next message of a client is not a refused plain reply. -/
theorem broker_replies_never_refused (es : List SysEv) (s : Sys) (hr : sysRun {} es = some s)
    (c : ConnId) (l : Link) (hl : s.links c = some l) (m : Rsp) (rest : List Rsp) (hd : l.down = m :: rest)
    (hp : plainReply m = true) : onRecv l.mon m ≠ .unexpected := by
  obtain ⟨k, n, hk⟩ := plainReply_strict hp
  have hx := replies_carry_open_serials es s hr c l hl m (by simp [hd]) k n hk
  exact known_serial_not_refused l.mon m k n hp (strictKey_eq_some_iff.mp hk).2 hx

open Aldrin.System in
/-- In every interleaving of the composed system, the next message of a client, if it is about its bus listeners, is
not refused. -/
theorem listener_messages_never_refused (es : List SysEv) (s : Sys) (hr : sysRun {} es = some s)
    (c : ConnId) (l : Link) (hl : s.links c = some l) (m : Rsp) (rest : List Rsp) (hd : l.down = m :: rest)
    (hL : isL m = true) : onRecv l.mon m ≠ .unexpected :=
  listener_head_accepted (sysRun_linv es {} s hr ⟨SysInv_init, OwnedInv_init, LSysInv_init⟩) hl hd hL

open Aldrin.System in
/-- In every interleaving of the composed system, the next message of a client, if it is about channels, is not
refused. -/
theorem channel_messages_never_refused (es : List SysEv) (s : Sys) (hr : sysRun {} es = some s)
    (c : ConnId) (l : Link) (hl : s.links c = some l) (m : Rsp) (rest : List Rsp) (hd : l.down = m :: rest)
    (hC : isC m = true) : onRecv l.mon m ≠ .unexpected :=
  channel_head_accepted (sysRun_cinv es {} s hr ⟨SysInv_init, OwnedInv_init, CSysInv_init⟩) hl hd hC

open Aldrin.System in
/-- In every interleaving of the composed system, for a connection the broker still serves: a serial that the client
has in the map of one of the 16 request kinds is that of a request on its way to the broker or of a reply on its way
to the client. -/
theorem pending_serials_are_on_their_way (es : List SysEv) (s : Sys) (hr : sysRun {} es = some s)
    (c : ConnId) (l : Link) (hl : s.links c = some l) (ha : aliveB (stOf s) c = true)
    (k : SKind) (n : Nat) (hk : k ≠ .queryIntrospection) (hn : n ∈ pendingOf l.mon k) :
    (k, n) ∈ l.up.filterMap reqKeyS ∨ (k, n) ∈ l.down.filterMap strictKey := by
  have := sysRun_ans es {} s hr AnsInv_init c l hl ha k n hk hn
  simp only [cnt, keysUp, keysDown] at this
  by_cases h1 : (k, n) ∈ l.up.filterMap reqKeyS
  · exact Or.inl h1
  · right
    have h0 := List.count_eq_zero.mpr h1
    exact List.count_pos_iff.mp (by omega)

open Aldrin.System in
/-- … so with nothing on its way in either direction, no operation waits for the broker. -/
theorem quiescent_no_pending (es : List SysEv) (s : Sys) (hr : sysRun {} es = some s)
    (c : ConnId) (l : Link) (hl : s.links c = some l) (ha : aliveB (stOf s) c = true) (hu : l.up = []) (hd : l.down = [])
    (k : SKind) (hk : k ≠ .queryIntrospection) : pendingOf l.mon k = [] := by
  cases hp : pendingOf l.mon k with
  | nil => rfl
  | cons n rest =>
    have := pending_serials_are_on_their_way es s hr c l hl ha k n hk (by rw [hp]; simp)
    simp [hu, hd] at this

/-- the messages of the broker that the three agreement theorems cover: serial replies of the 11 plain kinds, everything about
bus listeners, everything about channels -/
def covered (m : Rsp) : Bool := plainReply m || isL m || isC m

open Aldrin.System in
/-- In every interleaving of the composed system, the next message of a client is not refused if it is of a covered
or of a harmless kind. Of the broker's 37 message kinds 20 are covered and 10 are harmless; the other seven are the
version-gated `abortFunctionCall`, `queryIntrospection`, `queryIntrospectionReply`, the owner-directed
`subscribeAllEvents` / `unsubscribeAllEvents`, and `subscribeAllEventsReply` / `unsubscribeAllEventsReply`, which are
refused exactly when they say `NotSupported`. -/
theorem covered_messages_never_refused (es : List SysEv) (s : Sys) (hr : sysRun {} es = some s)
    (c : ConnId) (l : Link) (hl : s.links c = some l) (m : Rsp) (rest : List Rsp) (hd : l.down = m :: rest)
    (hc : covered m = true ∨ harmless m = true) : onRecv l.mon m ≠ .unexpected := by
  rcases hc with hc | hh
  rotate_left
  · exact harmless_never_refused l.mon m hh
  simp only [covered, Bool.or_eq_true] at hc
  rcases hc with (hp | hL) | hC
  · exact broker_replies_never_refused es s hr c l hl m rest hd hp
  · exact listener_messages_never_refused es s hr c l hl m rest hd hL
  · exact channel_messages_never_refused es s hr c l hl m rest hd hC

/-- how many of the broker's message kinds are covered -/
example : ([Rsp.createObjectReply 0 .duplicate, .createServiceReply 0 .duplicate, .subscribeEventReply 0 .ok, .queryServiceVersionReply 0 none,
    .queryServiceInfoReply 0 none, .subscribeServiceReply 0 .ok, .createChannelReply 0 0, .closeChannelEndReply 0 .ok, .syncReply 0,
    .createBusListenerReply 0 0, .destroyBusListenerReply 0 .ok, .startBusListenerReply 0 .ok, .stopBusListenerReply 0 .ok,
    .emitBusEvent (some 0) (.objCreated ⟨0, 0⟩), .busListenerCurrentFinished 0, .claimChannelEndReply 0 .receiverClaimed,
    .channelEndClosed 0 .sender, .channelEndClaimed 0 .sender 0, .itemReceived 0 [], .addChannelCapacity 0 0].all covered) = true := by decide

namespace SystemExample
open Aldrin.System

/-- two clients, interleaved; client 1 has two requests on their way before the broker handles any -/
def hist : List SysEv :=
  [.attach 1 14, .attach 2 14,
   .clientSends 1 (.sync 7), .clientSends 1 (.createChannel 8 .sender 0), .clientSends 2 (.sync 7),
   .brokerHandles 1, .brokerHandles 2, .brokerHandles 1]

example : (sysRun {} hist).bind (fun s => (s.links 1).map (·.down)) = some [.syncReply 7, .createChannelReply 8 0] := by decide
example : (sysRun {} (hist ++ [.clientHandles 1, .clientHandles 1, .clientHandles 2])).isSome = true := by decide
/-- the assumption is needed: a second `sync 7` while the first is open cannot be sent -/
example : (sysRun {} (hist ++ [.clientSends 1 (.sync 7)])).isSome = false := by decide

/-- client 1 creates a channel with its sender end, client 2 claims the receiver with capacity 2, client 1 sends an item
and closes its end while client 2 adds capacity: every message is handled by both clients -/
def channelHist : List SysEv :=
  [.attach 1 20, .attach 2 20, .clientSends 1 (.createChannel 0 .sender 0), .brokerHandles 1, .clientHandles 1,
   .clientSends 2 (.claimChannelEnd 0 0 .receiver 2), .brokerHandles 2, .clientHandles 2, .clientHandles 1,
   .clientSends 1 (.sendItem 0 [1]), .clientSends 1 (.closeChannelEnd 1 0 .sender), .clientSends 2 (.addChannelCapacity 0 1),
   .brokerHandles 1, .brokerHandles 2, .brokerHandles 1]

example : (sysRun {} channelHist).bind (fun s => (s.links 2).map (·.down)) =
    some [.itemReceived 0 [1], .channelEndClosed 0 .sender] := by decide
example : (sysRun {} (channelHist ++ [.clientHandles 2, .clientHandles 2, .clientHandles 1, .clientHandles 1])).isSome = true := by decide

/-- a listener is created, given a filter, started for what exists (one object of client 2), stopped; every message
is handled by client 1 -/
def listenerHist : List SysEv :=
  [.attach 1 20, .attach 2 20, .clientSends 2 (.createObject 0 5), .brokerHandles 2,
   .clientSends 1 (.createBusListener 0), .brokerHandles 1, .clientHandles 1,
   .clientSends 1 (.addFilter 1 (.object none)), .clientSends 1 (.startBusListener 0 1 .all), .brokerHandles 1, .brokerHandles 1,
   .clientSends 1 (.stopBusListener 0 1), .brokerHandles 1]

example : (sysRun {} listenerHist).bind (fun s => (s.links 1).map (·.down)) =
    some [.startBusListenerReply 0 .ok, .emitBusEvent (some 1) (.objCreated ⟨5, 0⟩), .busListenerCurrentFinished 1,
          .stopBusListenerReply 0 .ok] := by decide
example : (sysRun {} (listenerHist ++ [.clientHandles 1, .clientHandles 1, .clientHandles 1, .clientHandles 1])).isSome = true := by decide

end SystemExample

/-! ### non-vacuity: a history in which a channel is created, claimed by the peer, used and closed -/

def exHistory : List Ev :=
  [.sent (.createChannel 0 .sender 0), .got (.createChannelReply 0 7), .sent (.sync 0), .got (.channelEndClaimed 7 .receiver 4),
   .got (.syncReply 0), .got (.addChannelCapacity 7 2), .sent (.closeChannelEnd 0 7 .sender), .got (.channelEndClosed 7 .receiver),
   .sent (.createObject 3 9)]

example : (replay (CSt.init 20) exHistory).isSome = true := by decide
example : openFrom false .closeChannelEnd 0 exHistory = true ∧ openFrom false .createObject 3 exHistory = true ∧
    openFrom false .sync 0 exHistory = false := by decide
example : ∀ s, replay (CSt.init 20) exHistory = some s → onRecv s (.closeChannelEndReply 0 .ok) ≠ .unexpected :=
  fun s hs => reply_to_open_request_is_not_refused 20 exHistory s _ .closeChannelEnd 0 hs rfl rfl (by decide)
example : ∀ s, replay (CSt.init 20) exHistory = some s → onRecv s (.syncReply 0) = .unexpected :=
  fun s hs => unknown_serial_is_refused s _ .sync 0 rfl
    (fun hm => by have := (pending_is_open_requests 20 exHistory s .sync 0 hs).mp hm; revert this; decide)

end Aldrin.Client
