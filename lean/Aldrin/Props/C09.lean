/-
C09 — Disconnect and shutdown cleanup: no residual state, exact counters.

Statement (properties.jsonl): when a connection ends for any reason, everything it owned or subscribed
to is released and every affected peer is notified once; once all connections are gone the broker
holds no objects, services, calls, channels, listeners or subscriptions and an idle-shutdown request
completes. The published statistics counters always equal the true number of live connections,
objects, services, channels and bus listeners. A broker shutdown sends each connection a shutdown
message and terminates.

What is proved here (model M4):
* for ALL histories of broker events (all four ways a connection can end, at any point, including with
  requests still queued) the channel and bus-listener gauges equal the sizes of the maps, cookies are
  never reused as map keys, and keys are unique (`channel_listener_gauges_all_histories`); the proof
  uses the translator fact that `create_channel` counts the channel before the reply is sent
  (`createChannelCountsBeforeReply`, regenerated from broker.rs on every run — this is where the
  defect fixed in 2be3d48 shows up as a broken proof: the constant enters through the `rfl` that closes
  `createChannel_eq` in `Lemmas/Broker/Stages.lean`, nowhere by name);
* likewise the gauges for connections, objects and services, the equal size of the two views of the object
  and of the service registry, unique keys and cookie freshness (`registry_gauges_all_histories`);
* run-loop exit condition (`finished_iff`), broker shutdown queues every connection for removal with
  a Shutdown message and sets the flag (`broker_shutdown_queues_all`), and the turn that handles it ends with no
  connection left, nothing deferred and the exit condition true (`broker_shutdown_completes`, from any state); a
  connection removed with notice whose task still takes messages gets `Shutdown` first
  (`removal_with_notice_sends_shutdown_first`); idle
  shutdown only sets its flag (`idle_shutdown_sets_flag`).
* in every reachable state (fewer than 2³² calls pending at a time) a call whose caller is no longer connected has
  been ended on the caller's side: it is marked aborted, so nothing will ever be delivered for it
  (`calls_of_a_removed_connection_are_ended`, from the cross-reference invariant of C02); in particular with no
  connection left every remaining entry of the call table is an aborted one (`no_connections_no_live_call`).
* for ALL histories, once no connection is left the broker holds no object and no service in any of the four registry
  maps (`no_connections_no_objects_no_services`, from the registry cross-reference invariant of C03: every object
  has a connected owner, every service a live object) — hence also no subscription, which lives inside a service
  entry or a connection entry.
* likewise no channel and no bus listener (`no_connections_no_channels_no_listeners`, from the ownership invariant of
  C05: every channel has a claimed end, every claimed end and every listener a connected owner), and in every
  reachable state no call (`no_connections_no_calls`, from the callee-side invariant of C02) — together the seven
  `debug_assert!`s at the end of `Broker::run` (`conns`, `obj_uuids`, `objs`, `svc_uuids`, `svcs`, `function_calls`
  empty; no work left) and "no residual state";
Partial: that every affected peer is *notified* once; these are covered by the correspondence runs (every scenario ends by
closing everything in one of two orders, comparing `take_statistics` with the model and the model's gauges with
its map sizes, and requiring `Broker::run` to finish), not by a theorem.
-/
import Aldrin.Lemmas.Broker.Gauge5
import Aldrin.Lemmas.Broker.Xref2
import Aldrin.Lemmas.Broker.Reg
import Aldrin.Lemmas.Broker.Own
import Aldrin.Lemmas.Broker.Callee
import Aldrin.Lemmas.Broker.Shutdown

namespace Aldrin.Broker
open Generated

theorem channel_listener_gauges_all_histories (es : List Event) (b : Broker) (w : Work) (outs : List (List Out))
    (h : run {} {} es = .ok (b, w, outs)) :
    b.stats.numChannels = b.channels.length ∧ b.stats.numBusListeners = b.listeners.length ∧
    AL.NodupKeys b.channels ∧ AL.NodupKeys b.listeners ∧
    (∀ k v, AL.find? k b.channels = some v → k < b.nextCookie) ∧
    (∀ k v, AL.find? k b.listeners = some v → k < b.nextCookie) := by
  obtain ⟨h1, h2⟩ := run_G2 es _ _ _ _ _ G2_init h
  exact ⟨h1.size, h2.size, h1.nodup, h2.nodup, h1.below, h2.below⟩

/-- all five gauges, for every history: connections, objects (both views), services (both views) — sizes
equal the gauge, keys are unique, issued cookies are below the counter -/
theorem registry_gauges_all_histories (es : List Event) (b : Broker) (w : Work) (outs : List (List Out))
    (h : run {} {} es = .ok (b, w, outs)) :
    b.stats.numConnections = b.conns.length ∧ b.stats.numObjects = b.objUuids.length ∧ b.stats.numObjects = b.objs.length ∧
    b.stats.numServices = b.svcUuids.length ∧ b.stats.numServices = b.svcs.length ∧
    AL.NodupKeys b.conns ∧ AL.NodupKeys b.objUuids ∧ AL.NodupKeys b.objs ∧ AL.NodupKeys b.svcUuids ∧ AL.NodupKeys b.svcs ∧
    (∀ k v, AL.find? k b.objUuids = some v → k < b.nextCookie) ∧ (∀ k v, AL.find? k b.svcUuids = some v → k < b.nextCookie) := by
  obtain ⟨g1, g2, g3, g4, g5⟩ := run_G5 es _ _ _ _ _ G5_init h
  exact ⟨by simpa using g1.size, by simpa using g2.size, by simpa using g3.size, g4.size, g5.size,
    g1.nodup, g2.nodup, g3.nodup, g4.nodup, g5.nodup, g2.below, g4.below⟩

/-- once all connections are gone the connection gauge is zero (and the run loop's idle exit condition holds
as soon as idle shutdown was requested) -/
theorem no_connections_gauge_zero (es : List Event) (b : Broker) (w : Work) (outs : List (List Out))
    (h : run {} {} es = .ok (b, w, outs)) (hc : b.conns = []) : b.stats.numConnections = 0 := by
  have := (registry_gauges_all_histories es b w outs h).1
  rw [hc] at this; exact this

theorem counts_channel_before_reply : createChannelCountsBeforeReply = true := by decide

theorem finished_iff (b : Broker) (w : Work) :
    finished b w = true ↔ w.shutdownNow = true ∨ (w.shutdownIdle = true ∧ b.conns = []) := by
  unfold finished
  simp [List.isEmpty_iff]

theorem broker_shutdown_queues_all (s s' : St) (h : handleEvent s .shutdownBroker = .ok s') :
    s'.w.shutdownNow = true ∧ ∀ p ∈ s.b.conns, (p.1, true) ∈ s'.w.removeConns := by
  simp only [handleEvent, Except.ok.injEq] at h
  subst h
  refine ⟨by simp, ?_⟩
  intro p hp
  simp only [St.setWShutdownNow_w_removeConns, St.setWRemoveConns_w_removeConns, List.mem_append, List.mem_reverse, List.mem_map]
  exact Or.inl ⟨p, hp, rfl⟩

/-- **A broker shutdown removes every connection and ends `Broker::run`**: the turn that handles `ShutdownBroker`, from
any state whatever, ends with no connection left, nothing deferred, and the exit condition of the run loop true.
(Every connection is queued for removal with a `Shutdown` message; the work loop handles removals first and each
removal takes its connection out of the map and keeps the rest of the queue, `Lemmas/Broker/Shutdown.lean`.) -/
theorem broker_shutdown_completes {b b' : Broker} {w w' : Work} {out : List Out}
    (hr : step b w .shutdownBroker = .ok (b', w', out)) : b'.conns = [] ∧ w'.idle ∧ finished b' w' = true :=
  shutdownBroker_completes hr

/-- **A connection removed with notice gets `Shutdown` first.** The removal of a connection queued by a broker
shutdown or forced through the handle (`send_shutdown = true`), whose task still takes messages, puts `Shutdown` into
that connection's queue before anything else the removal sends to anybody; nothing that was in the queues before is
lost or reordered (`shutdownConnection_sends_shutdown` in `Lemmas/Broker/Shutdown.lean`: the output of a turn only grows at its end, `Fp.out`). -/
theorem removal_with_notice_sends_shutdown_first {s s' : St} {id : ConnId} {conn : Conn} (hconn : AL.find? id s.b.conns = some conn)
    (ha : conn.alive = true) (hr : shutdownConnection s id true = .ok s') :
    ∃ rest, s'.out = s.out ++ [⟨id, .shutdown, none⟩] ++ rest :=
  shutdownConnection_sends_shutdown hconn ha hr

theorem idle_shutdown_sets_flag (s s' : St) (h : handleEvent s .shutdownIdle = .ok s') :
    s'.w.shutdownIdle = true ∧ s'.b = s.b ∧ s'.out = s.out := by
  simp only [handleEvent, Except.ok.injEq] at h
  subst h
  exact ⟨rfl, rfl, rfl⟩

/-! non-vacuity: a connection with a channel and a listener is dropped with a request still queued; then
everything ends; gauges are zero and the loop is finished -/
example : (match run {} {} [.newConn 0 20, .newConn 1 20, .msg 0 (.createChannel 1 .sender 0), .msg 0 (.createBusListener 2),
      .msg 1 (.claimChannelEnd 3 0 .receiver 5), .taskDropped 0, .msg 0 (.createChannel 4 .receiver 1),
      .connShutdown 1, .shutdownIdle] with
    | .ok (b, w, _) => (b.stats.numChannels, b.channels.length, b.stats.numBusListeners, b.conns.length, finished b w)
    | .error _ => (9, 9, 9, 9, false)) = (0, 0, 0, 0, true) := by decide


/-- a call whose caller is gone is marked aborted (`shutdown_connection` queues the abort of every call of the
connection it removes, and the work loop has run them all before the next event) -/
theorem calls_of_a_removed_connection_are_ended {b : Broker} {w : Work} (h : Reachable b w) {bs : Nat} {call : Call}
    (hg : b.calls.get? bs = some call) (hgone : AL.find? call.callerConn b.conns = none) : call.aborted = true := by
  cases hna : call.aborted with
  | true => rfl
  | false =>
    obtain ⟨conn, _, hc, _⟩ := h.idle.caller hg hna
    rw [hgone] at hc; cases hc

/-- for ALL histories: once all connections are gone the broker holds no objects and no services -/
theorem no_connections_no_objects_no_services (es : List Event) (b : Broker) (w : Work) (outs : List (List Out))
    (h : run {} {} es = .ok (b, w, outs)) (hc : b.conns = []) :
    b.objs = [] ∧ b.objUuids = [] ∧ b.svcs = [] ∧ b.svcUuids = [] := by
  have hrc := RegistryConsistent.of_reg (run_reg es _ _ _ _ _ G5_init Reg.init h)
  have ho : b.objs = [] := AL.eq_nil_of_find fun u o hf => by
    obtain ⟨_, h1, _⟩ := hrc.owner_lists_object u o hf
    rw [hc] at h1; cases h1
  have hou : b.objUuids = [] := AL.eq_nil_of_find fun c u hf => by
    obtain ⟨_, h1, _⟩ := hrc.cookie_names_object c u hf
    rw [ho] at h1; cases h1
  have hsu : b.svcUuids = [] := AL.eq_nil_of_find fun c v hf => by
    have h1 := (hrc.service_has_live_object c v.1 v.2.1 v.2.2 hf).1
    rw [hou] at h1; cases h1
  refine ⟨ho, hou, AL.eq_nil_of_find fun k sv hf => ?_, hsu⟩
  obtain ⟨_, h1⟩ := hrc.service_is_registered k.1 k.2 sv hf
  rw [hsu] at h1; cases h1

/-- for ALL histories: once all connections are gone the broker holds no channels and no bus listeners -/
theorem no_connections_no_channels_no_listeners (es : List Event) (b : Broker) (w : Work) (outs : List (List Out))
    (h : run {} {} es = .ok (b, w, outs)) (hc : b.conns = []) : b.channels = [] ∧ b.listeners = [] := by
  have hown := run_own es _ _ _ _ _ G2_init Own.init h
  have hch := (run_CLInv es _ _ _ _ _ CLInv_init h).1
  have nobody : ∀ x o, own ⟨b, w, []⟩ x ≠ some o := fun x o hx => by
    obtain ⟨_, h1, _⟩ := hown.holder hx
    rw [hc] at h1; cases h1
  constructor
  · refine AL.eq_nil_of_find fun ck ch hf => ?_
    obtain ⟨os, or⟩ := own_chan (s := ⟨b, w, []⟩) hf
    -- one end of a stored channel is claimed
    rcases (AllV_find hch hf).1 with hs | hr
    · cases hse : ch.sender <;> simp [hse, EndState.isClaimed] at hs
      exact nobody _ _ (by rw [os, hse]; rfl)
    · cases hre : ch.receiver <;> simp [hre, EndState.isClaimed] at hr
      exact nobody _ _ (by rw [or, hre]; rfl)
  · exact AL.eq_nil_of_find fun ck l hf => nobody (.lsn, ck) l.conn (by simp [own, hf])

/-- in every reachable state: once all connections are gone the call table is empty -/
theorem no_connections_no_calls {b : Broker} {w : Work} (h : Reachable b w) (hc : b.conns = []) : b.calls.elems = [] :=
  AL.eq_nil_of_find fun bs call hf => by
    obtain ⟨_, _, _, _, _, _, _, _, _, hown⟩ := callee_of_call (s := ⟨b, w, []⟩) h.cal h.reg.2 (bs := bs) (call := call) hf
    rw [hc] at hown; cases hown

theorem no_connections_no_live_call {b : Broker} {w : Work} (h : Reachable b w) (hc : b.conns = []) {bs : Nat} {call : Call}
    (hg : b.calls.get? bs = some call) : call.aborted = true :=
  calls_of_a_removed_connection_are_ended h hg (by simp [hc, AL.find?])

end Aldrin.Broker
