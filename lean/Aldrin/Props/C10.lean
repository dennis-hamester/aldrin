/-
C10 — Bus listeners report exactly the matching current and new events.

Statement (properties.jsonl): starting a listener with a scope that includes current entities yields
exactly one created-event, tagged with the listener, for every existing object and service matching
any of its filters, followed by one end-of-current marker; nothing else carries the tag. While
started with a scope that includes new entities, each creation or destruction of a matching object or
service is reported exactly once per connection (not once per listener); stopped, unstarted or
destroyed listeners and non-matching filters produce nothing.

What is proved here about the model of `broker/src/bus_listener.rs` and the listener handlers (M4):
* for ALL histories of broker events every stored listener's cached flags (`matches_all_objects`,
  `matches_specific_services`) equal their recomputation from the filter set, and the filter set has
  no duplicates (`listener_flags_all_histories`; component form `filter_history`);
* hence the two `unreachable!()` arms of `specific_objects` / `specific_services` are dead and the
  enumeration strategy depends on the filter set alone (`specific_*_choice`);
* the optimised "specific" enumeration lists exactly the uuids (pairs) a matching object (service)
  can have, each once (`specific_objects_exact`, `specific_services_exact`), and the scan path uses
  the plain filter predicate (`scan_objects_exact`, `matches_object_is_filter_semantics`);
* a new bus event goes to exactly the connections owning a started (scope includes new) listener with
  a matching filter, once per connection, untagged (`new_event_once_per_connection`).
* the maps the two enumeration paths read agree (cookie ↔ uuid views): by the registry invariant of C03 both paths list
  exactly the registered objects / services that match (`start_lists_exactly_the_matching_objects`,
  `start_lists_exactly_the_matching_services`, `registry_views_agree_all_histories`).
-/
import Aldrin.Lemmas.Broker.Handlers
import Aldrin.Lemmas.Broker.Replies
import Aldrin.Lemmas.Broker.CurrentView

namespace Aldrin.Broker

theorem listener_flags_all_histories (es : List Event) (b : Broker) (w : Work) (outs : List (List Out))
    (h : run {} {} es = .ok (b, w, outs)) (ck : Cookie) (l : Listener) (hl : AL.find? ck b.listeners = some l) :
    l.allObjects = l.filters.any Filter.isAnyObject ∧
    l.specificServices = l.filters.all Filter.isSpecificService ∧ l.filters.Nodup := by
  have : l.OK := AllV_find (P := Listener.OK) (run_CLInv es _ _ _ _ _ CLInv_init h).2 hl
  exact this

/-- component form: any sequence of add / remove / clear on a new listener -/
theorem filter_history (c : ConnId) (ops : List FOp) : (ops.foldl Listener.applyF { conn := c }).OK :=
  Listener.history_ok c ops

theorem specific_objects_choice {l : Listener} (h : l.OK) :
    l.specificObjects = .ok (if l.filters.any Filter.isAnyObject then none
      else some (l.filters.filterMap Filter.objectUuid?)) := Listener.specificObjects_ok h

theorem specific_services_choice {l : Listener} (h : l.OK) :
    l.specificServices? = .ok (if l.filters.all Filter.isSpecificService
      then some (l.filters.filterMap Filter.servicePair?) else none) := Listener.specificServices?_ok h

theorem matches_object_is_filter_semantics {l : Listener} (h : l.OK) (o : ObjId) :
    l.matchesObject o = l.filters.any (·.matchesObject o) := Listener.matchesObject_spec h o

/-- specific path, objects: listed uuids = uuids of matching objects; no uuid twice -/
theorem specific_objects_exact {l : Listener} (h : l.OK) (hno : l.filters.any Filter.isAnyObject = false) (o : ObjId) :
    (l.matchesObject o = true ↔ o.uuid ∈ l.filters.filterMap Filter.objectUuid?) ∧
    (l.filters.filterMap Filter.objectUuid?).Nodup :=
  ⟨Listener.specificObjects_complete h hno o, Listener.specificObjects_nodup h⟩

theorem specific_services_exact {l : Listener} (h : l.OK) (hall : l.filters.all Filter.isSpecificService = true) (s : SvcId) :
    (l.matchesService s = true ↔ (s.obj.uuid, s.uuid) ∈ l.filters.filterMap Filter.servicePair?) ∧
    (l.filters.filterMap Filter.servicePair?).Nodup :=
  ⟨Listener.specificServices_complete hall s, Listener.specificServices_nodup h⟩

/-- scan path, objects: a tagged created-event for exactly the existing objects that match -/
theorem scan_objects_exact (b : Broker) (l : Listener) (cookie : Cookie) (o : ObjId) :
    Rsp.emitBusEvent (some cookie) (.objCreated o) ∈ currentObjMsgs b l cookie none ↔
      (o.cookie, o.uuid) ∈ b.objUuids ∧ l.matchesObject o = true := by
  simp only [currentObjMsgs, List.mem_filterMap]
  constructor
  · rintro ⟨p, hp, hm⟩
    split at hm
    · simp only [Option.some.injEq, Rsp.emitBusEvent.injEq, true_and, BusEv.objCreated.injEq] at hm
      subst hm
      exact ⟨hp, ‹_›⟩
    · simp at hm
  · rintro ⟨hp, hm⟩
    exact ⟨(o.cookie, o.uuid), hp, by simp [hm]⟩

/-- everything `start` sends besides its reply carries the listener's tag or is the end marker -/
theorem current_msgs_tagged (b : Broker) (l : Listener) (cookie : Cookie) (so) (ss) (m : Rsp)
    (hm : m ∈ currentObjMsgs b l cookie so ++ currentSvcMsgs b l cookie ss) :
    ∃ e, m = .emitBusEvent (some cookie) e := by
  rcases List.mem_append.mp hm with hm | hm
  · exact currentObjMsgs_ns b l cookie so m hm
  · exact currentSvcMsgs_ns b l cookie ss m hm

/-- **Both enumeration paths of `start` list exactly the existing objects that match.** In a consistent registry with
unique cookies (every state the broker reaches: `registry_views_agree_all_histories`), for a listener whose cached flags
are right and whichever path `specific_objects` selects: a tagged created-event for the object id `o` is sent iff `o` is
registered and the listener's filters match it. -/
theorem start_lists_exactly_the_matching_objects {b : Broker} (hrc : RegistryConsistent b) (hn : AL.NodupKeys b.objUuids)
    {l : Listener} (h : l.OK) (cookie : Cookie) {so : Option (List Uuid)} (hso : l.specificObjects = .ok so) (o : ObjId) :
    Rsp.emitBusEvent (some cookie) (.objCreated o) ∈ currentObjMsgs b l cookie so ↔
      ((o.cookie, o.uuid) ∈ b.objUuids ∧ l.matchesObject o = true) := by
  cases so with
  | none => exact scan_objects_exact b l cookie o
  | some uuids =>
    have hch := (specific_objects_choice h).symm.trans hso
    split at hch
    · cases hch
    next hno =>
    cases hch
    rw [mem_currentObjMsgs_specific, object_views_agree hrc hn o, (specific_objects_exact h (by simpa using hno) o).1]
    exact and_comm

/-- the same for services: whichever path `specific_services` selects, a tagged created-event for the service id `sid` is
sent iff `sid` is registered and the listener's filters match it -/
theorem start_lists_exactly_the_matching_services {b : Broker} (hrc : RegistryConsistent b) (hn : AL.NodupKeys b.svcUuids)
    {l : Listener} (h : l.OK) (cookie : Cookie) {ss : Option (List (Uuid × Uuid))} (hss : l.specificServices? = .ok ss) (sid : SvcId) :
    Rsp.emitBusEvent (some cookie) (.svcCreated sid) ∈ currentSvcMsgs b l cookie ss ↔
      ((∃ info, (sid.cookie, (sid.obj, sid.uuid, info)) ∈ b.svcUuids) ∧ l.matchesService sid = true) := by
  cases ss with
  | none => exact mem_currentSvcMsgs_scan b l cookie sid
  | some pairs =>
    have hch := (specific_services_choice h).symm.trans hss
    split at hch
    next hall =>
      cases hch
      rw [mem_currentSvcMsgs_specific, service_views_agree hrc hn sid, (specific_services_exact h hall sid).1]
      exact and_comm
    · cases hch

/-- for ALL histories the hypotheses of `start_lists_exactly_the_matching_objects` hold: the registry is consistent and
no cookie is registered twice -/
theorem registry_views_agree_all_histories (es : List Event) (b : Broker) (w : Work) (outs : List (List Out))
    (h : run {} {} es = .ok (b, w, outs)) :
    RegistryConsistent b ∧ AL.NodupKeys b.objUuids ∧ AL.NodupKeys b.svcUuids := by
  have hg := run_G5 es _ _ _ _ _ G5_init h
  have hr := run_reg es _ _ _ _ _ G5_init Reg.init h
  exact ⟨RegistryConsistent.of_reg hr, hg.2.1.nodup, hg.2.2.2.1.nodup⟩

/-- new events: one untagged copy per connection owning a started matching listener -/
theorem new_event_once_per_connection (s : St) (e : BusEv) :
    (emitBusEvent s e).out = s.out ++ (busTargets s e).filterMap (fun cid => match AL.find? cid s.b.conns with
        | some c => if c.alive then some ⟨cid, .emitBusEvent none e, none⟩ else none
        | none => none) ∧
    (busTargets s e).Nodup ∧
    (∀ c, c ∈ busTargets s e ↔ ∃ p ∈ s.b.listeners, p.2.conn = c ∧ p.2.matchesNewEvent e = true) :=
  ⟨emitBusEvent_out s e, busTargets_spec s e⟩

/-- an unstarted or stopped listener, or one started for current entities only, matches no new event -/
theorem not_started_matches_nothing (l : Listener) (e : BusEv)
    (h : l.scope = none ∨ l.scope = some .current) : l.matchesNewEvent e = false := by
  rcases h with h | h <;> simp [Listener.matchesNewEvent, h, Scope.includesNew]

/-! non-vacuity: two listeners of one connection, both matching; the new object is reported once -/
example : (match run {} {} [.newConn 0 20, .newConn 1 20,
      .msg 0 (.createBusListener 1), .msg 0 (.createBusListener 2),
      .msg 0 (.addFilter 0 (.object none)), .msg 0 (.addFilter 1 (.object (some 7))),
      .msg 0 (.startBusListener 3 0 .all), .msg 0 (.startBusListener 4 1 .new),
      .msg 1 (.createObject 5 7)] with
    | .ok (_, _, outs) => outs.getLast? | .error _ => none) =
    some [⟨1, .createObjectReply 5 (.ok 2), none⟩, ⟨0, .emitBusEvent none (.objCreated ⟨7, 2⟩), none⟩] := by decide

end Aldrin.Broker
