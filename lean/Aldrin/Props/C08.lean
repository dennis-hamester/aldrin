/-
C08 — Message codec round-trip and strict parsing of all message kinds.

Statement (properties.jsonl): every protocol message of every kind (with a non-empty payload where
it has one) serializes to a frame whose 4-byte little-endian length prefix equals the frame length,
and parsing that frame yields an equal message with an identical payload. Parsing arbitrary bytes
never panics; it accepts a frame only if the length prefix matches, the kind is known, every field
is well-formed and nothing is left over, and whatever it accepts re-serializes to a frame that
parses to the same message.

The layouts quantified over here are the ones translated from the 63 `serialize_message` /
`deserialize_message` bodies on every run (`Generated.deTrees`, `Generated.serPaths`).
-/
import Aldrin.Lemmas.Msg
import Aldrin.Lemmas.Guard

namespace Aldrin
open Generated

/-! ### Obligations on the translated source -/

mutual
/-- Paths of a decision tree. -/
def L.paths : L → List (VMode × List Item)
  | .u32 k => (L.paths k).map (fun p => (p.1, Item.u32 :: p.2))
  | .uuid k => (L.paths k).map (fun p => (p.1, Item.uuid :: p.2))
  | .enumv vals k => (L.paths k).map (fun p => (p.1, Item.enumv vals :: p.2))
  | .tag alts => altPaths alts
  | .fin m => [(m, [])]
def altPaths : List (Nat × L) → List (VMode × List Item)
  | [] => []
  | (n, k) :: r => (L.paths k).map (fun p => (p.1, Item.disc n :: p.2)) ++ altPaths r
end

def sameSet {α : Type} [DecidableEq α] (a b : List α) : Bool :=
  a.all (b.contains ·) && b.all (a.contains ·)

/-- For every one of the 63 kinds, the set of byte layouts `serialize_message` can write is exactly
the set of layouts `deserialize_message` accepts (fields, their order, discriminants, and whether a
value is carried, written as `None`, or absent). -/
theorem ser_de_agree :
    (deTrees.map (·.1)) = (serPaths.map (·.1)) ∧
    (deTrees.all (fun p => sameSet (L.paths p.2) ((lookupKind p.1 serPaths).getD []))) = true := by
  refine ⟨by decide +kernel, by decide +kernel⟩

/-- The kind table: 63 kinds, numbered 0..62 without gaps, the same set the dispatcher knows. -/
theorem kind_table :
    messageKinds.map (·.2) = List.range 63 ∧ deTrees.map (·.1) = List.range 63 := by
  refine ⟨by decide +kernel, by decide +kernel⟩

/-- No `match` on a discriminant lists the same discriminant twice (decoding is deterministic). -/
def altsDistinct : L → Bool
  | .u32 k | .uuid k | .enumv _ k => altsDistinct k
  | .tag alts => go alts [] 
  | .fin _ => true
where go : List (Nat × L) → List Nat → Bool
  | [], _ => true
  | (n, k) :: r, seen => !seen.contains n && altsDistinct k && go r (n :: seen)

theorem discriminants_distinct : (deTrees.all (fun p => altsDistinct p.2)) = true := by decide +kernel

/-! ### The codec -/

/-- Round trip: a well-formed message serializes to a frame whose length prefix is the frame
length, and parsing that frame yields the same message with the identical payload. -/
theorem msg_roundtrip (r : Rec) (hw : r.WF) :
    ∃ fr, encodeFrame r = .ok fr ∧ fr.take 4 = u32le fr.length ∧ decodeFrame fr = .ok r := by
  obtain ⟨t, m, ht, hm, hv, hl⟩ := hw
  obtain ⟨hk, hctor⟩ := kind_mode ht hm
  cases m with
  | none =>
    simp only at hv hl
    have hlen : ¬ (5 + (encFlds r.flds).length > 4294967295) := by omega
    refine ⟨u32le (5 + (encFlds r.flds).length) ++ UInt8.ofNat r.kind :: encFlds r.flds, ?_,
      hdr_prefix _ _ (by simp only [List.length_cons]; omega), ?_⟩
    · simp [encodeFrame, ht, hm, hlen]
    · rw [decodeFrame_noValue r.kind t _ hk ht hctor (by omega)]
      have hdec := decTree_encFlds t r.flds .none [] hm
      rw [List.append_nil] at hdec
      rw [hdec]
      simp only [List.isEmpty_nil, ↓reduceIte, ← hv]
  | keep =>
    obtain ⟨v, hv1, hv2⟩ := hv
    simp only [hv1, Option.getD_some] at hl
    refine ⟨u32le (9 + v.length + (encFlds r.flds).length) ++ UInt8.ofNat r.kind ::
        (u32le v.length ++ (v ++ encFlds r.flds)),
      ?_, hdr_prefix _ _ (by simp only [List.length_cons, List.length_append, u32le_length]; omega),
      decodeFrame_encoded hk ht hctor hm hv2 (by omega) (by simp [hv1])⟩
    have h1 : ¬ v.length < 1 := by omega
    have h2 : ¬ v.length > 4294967295 := by omega
    have h3 : ¬ (9 + v.length + (encFlds r.flds).length > 4294967295) := by omega
    simp [encodeFrame, ht, hm, hv1, h1, h2, h3]
  | discard =>
    simp only at hv hl
    refine ⟨u32le (9 + 1 + (encFlds r.flds).length) ++ UInt8.ofNat r.kind :: (u32le 1 ++ (0 :: encFlds r.flds)),
      ?_, hdr_prefix _ _ (by simp only [List.length_cons, List.length_append, u32le_length]; omega),
      decodeFrame_encoded (v := [0]) hk ht hctor hm (by simp) (by simp only [List.length_singleton]; omega) (by simp [hv])⟩
    have h3 : ¬ (9 + 1 + (encFlds r.flds).length > 4294967295) := by omega
    simp [encodeFrame, ht, hm, h3]

/-- Strict parsing: a frame is accepted only if it is at least a header long, its length prefix
equals its length, its kind byte is one of the known kinds, its fields follow the kind's layout and
nothing is left over — i.e. the result is a well-formed message … -/
theorem msg_strict (fr : Bytes) (r : Rec) (h : decodeFrame fr = .ok r) :
    5 ≤ fr.length ∧ ofLeBytes (fr.take 4) = fr.length ∧ r.kind = (fr.getD 4 0).toNat ∧
    (lookupKind r.kind deTrees).isSome ∧ r.WF := by
  -- every check on the way to a result has passed
  simp only [decodeFrame, guard_eq_ok] at h
  obtain ⟨h5, h⟩ := h
  have hlt := ofLeBytes_take4_lt fr
  split at h
  · -- without value
    rename_i t ht hc
    simp only [guard_eq_ok, ne_eq, Decidable.not_not] at h
    obtain ⟨hlen, h⟩ := h
    split at h
    · cases h
    · rename_i fs m rest hd
      simp only [check_eq_ok, List.isEmpty_iff] at h
      obtain ⟨rfl, rfl⟩ := h
      obtain ⟨hm, hsz⟩ := decTree_ok t _ fs m [] hd
      have hmode : m = .none := by simpa using hc.symm.trans (kind_mode ht hm).2
      subst hmode
      simp only [List.length_drop, List.length_nil] at hsz
      exact ⟨by omega, hlen, rfl, by rw [ht]; rfl, t, .none, ht, hm, rfl, by dsimp only; omega⟩
  · -- with value
    rename_i t ht hc
    simp only [guard_eq_ok, ne_eq, Decidable.not_not] at h
    obtain ⟨h10, hlen, hv1, hv2, h⟩ := h
    split at h
    · cases h
    · rename_i fs m rest hd
      simp only [check_eq_ok, List.isEmpty_iff] at h
      obtain ⟨rfl, rfl⟩ := h
      obtain ⟨hm, hsz⟩ := decTree_ok t _ fs m [] hd
      have hmode : m ≠ .none := by simpa using hc.symm.trans (kind_mode ht hm).2
      generalize ofLeBytes ((fr.drop 5).take 4) = vlen at *
      have hvl : ((fr.drop 9).take vlen).length = vlen := by
        simp only [List.length_take, List.length_drop]; omega
      simp only [List.length_drop, List.length_nil] at hsz
      refine ⟨by omega, hlen, rfl, by rw [ht]; rfl, t, m, ht, hm, ?_, ?_⟩
      · cases m with
        | none => exact absurd rfl hmode
        | keep => exact ⟨(fr.drop 9).take vlen, by simp, by rw [hvl]; omega⟩
        | discard => simp
      · cases m with
        | none => exact absurd rfl hmode
        | keep => simp only [↓reduceIte, Option.getD_some, hvl]; omega
        | discard => dsimp only; omega
  · cases h

/-- … and whatever is accepted re-serializes to a frame with a correct length prefix that parses
to the same message. -/
theorem msg_reserialize (fr : Bytes) (r : Rec) (h : decodeFrame fr = .ok r) :
    ∃ fr', encodeFrame r = .ok fr' ∧ fr'.take 4 = u32le fr'.length ∧ decodeFrame fr' = .ok r :=
  have ⟨_, _, _, _, hw⟩ := msg_strict fr r h
  msg_roundtrip r hw

/-- Parsing is a total function of the bytes: the tree walk is structural recursion on the
(generated, finite) layout — there is no recursion budget that could run out. -/
theorem msg_total (fr : Bytes) : ∃ x, decodeFrame fr = x := ⟨_, rfl⟩

/-- Non-vacuity: `CallFunction { serial: 300, service_cookie, function: 7, value: [3, 4] }`. -/
example : decodeFrame ([31, 0, 0, 0, 11, 2, 0, 0, 0, 3, 4, 253, 44, 1] ++ List.replicate 16 9 ++ [7])
    = .ok { kind := 11, flds := [.u32 300, .uuid (List.replicate 16 9), .u32 7], value := some [3, 4] } := by
  rfl

end Aldrin
