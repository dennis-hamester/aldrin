/-
C20 — Type ids are structural: equal iff the wire-relevant layout is equal.

Statement (properties.jsonl): the introspection type id of a type or service is a deterministic function
of its wire-relevant description — schema and type name, field/variant/function/event ids and names,
required flags, referenced types, fallbacks, and transitively the same for everything it references —
and of nothing else: documentation, declaration order and the order references are visited do not
change it, while changing any of the listed aspects does. An introspection record serializes and
deserializes to an equal record whose references resolve.

Model (M8, `Model/TypeId.lean`): the IR generically (records with all declared fields by name, docs
included), the serialization of a record driven by the table `Generated.irRecs` that the translator reads
from the seventeen `Serialize` impls of `core/src/introspection/ir/*.rs` on every run (which fields, which
ids, which only-if-present), the work-list closure of `compute_from_dyn`, the ordered set, the `Compute`
record, UUIDv5. The driver evaluates the model including SHA-1, so the correspondence compares final ids.

Proved here:
* `doc` is declared but never serialized, for every IR record, and is the only such field
  (`docs_never_serialized`, `only_docs_are_dropped` — facts about the translated tables), hence replacing
  any documentation anywhere in a layout leaves its bytes unchanged (`docs_do_not_matter`);
* listing a record's fields in another order leaves the bytes unchanged (`field_order_does_not_matter`); maps
  are `BTreeMap`s in the code, i.e. already ordered by id when they reach the serializer;
* the ordered set of referenced layouts — and hence the pre-image — depends only on WHICH serialized layouts
  were collected, not on visiting order or multiplicity (`reference_order_does_not_matter`, `preimage_of_set`);
* sensitivity: a serialized field whose contribution changes changes the record's value
  (`serialized_field_matters`, with unique ids per record from the tables), different values have different
  bytes (`encoding_injective`, from the C01 round trip), and the pre-image determines root layout and set
  (`preimage_injective`).
Trusted / partial: SHA-1 collision resistance (two different pre-images give different ids) is assumed, not
proved; that the closure loop reaches exactly the reachable types is tied by the correspondence runs (random
graphs with cycles, shuffled and duplicated reference lists), not proved; the round trip of the
`Introspection` record and the agreement of macro- and codegen-produced layouts are oracle-checked only.
-/
import Aldrin.Lemmas.TypeId
import Aldrin.Lemmas.ByteSet

namespace Aldrin.TypeIdM
open Generated

theorem docs_never_serialized : ∀ r ∈ irRecs, ∀ f ∈ r.2, f.2.1 ≠ "doc" := doc_not_serialized

theorem only_docs_are_dropped : ∀ d ∈ irDeclared, ∀ n ∈ d.2,
    n = "doc" ∨ ∃ r ∈ irRecs, r.1 = d.1 ∧ ∃ f ∈ r.2, f.2.1 = n := by decide +kernel

/-- so a field's value can be read back from the struct -/
theorem ids_unique_per_record : ∀ r ∈ irRecs, (r.2.map (·.1)).Nodup := by decide +kernel

/-- replacing every documentation string at every depth by anything leaves the serialized layout unchanged -/
theorem docs_do_not_matter (f : Ir → Ir) (l : Ir) : layoutBytes (l.mapDocs f) = layoutBytes l := by
  unfold layoutBytes; rw [toValue_mapDocs]

theorem field_order_does_not_matter (ty : String) (fs fs' : List (String × Ir)) (hp : fs.Perm fs')
    (hn : (fs.map (·.1)).Nodup) : layoutBytes (.record ty fs) = layoutBytes (.record ty fs') := by
  unfold layoutBytes; rw [record_field_order ty fs fs' hp hn]

/-- visiting references in another order, or reporting a reference several times, gives the same set -/
theorem reference_order_does_not_matter (xs ys : List Ir)
    (h : ∀ b, b ∈ xs.map layoutBytes ↔ b ∈ ys.map layoutBytes) (root : Ir) :
    computeBytes root xs = computeBytes root ys := by
  unfold computeBytes
  simp only []
  rw [toSet_ext _ _ h]

/-- the pre-image is a function of the root's bytes and the set of referenced bytes -/
theorem preimage_of_set (root : Ir) (xs : List Ir) :
    computeBytes root xs = computeBytesOfSet root (toSet (xs.map layoutBytes)) := rfl

/-- a serialized field of a record can be read back from the record's value: changing what a serialized
field contributes changes the record's value -/
theorem serialized_field_matters (ty : String) (fs fs' : List (String × Ir)) (id : Nat) (n : String) (ifSome : Bool)
    (hs : (id, n, ifSome) ∈ schemaOf ty) (hu : ((schemaOf ty).map (·.1)).Nodup)
    (v v' : Value) (hl : lookupV n (fieldsToValue fs) = some v) (hl' : lookupV n (fieldsToValue fs') = some v')
    (hne : v ≠ v') : (Ir.record ty fs).toValue ≠ (Ir.record ty fs').toValue := by
  simp only [Ir.toValue, ne_eq, Value.map.injEq, true_and]
  intro heq
  -- a field that is written is read back from either side; one that is not is `None` under `if_some`
  by_cases hv : v ≠ Value.none ∨ ifSome = false
  · have := selectFields_lookup hu hs (heq ▸ mem_selectFields hs hl hv)
    exact hne (Option.some.inj (hl'.symm.trans this)).symm
  by_cases hv' : v' ≠ Value.none ∨ ifSome = false
  · have := selectFields_lookup hu hs (heq ▸ mem_selectFields hs hl' hv')
    exact hne (Option.some.inj (hl.symm.trans this))
  · exact hne ((Classical.not_not.1 (not_or.1 hv).1).trans (Classical.not_not.1 (not_or.1 hv').1).symm)

theorem encoding_injective (v w : Value) (hv : v.WF) (hw : w.WF) (dv : v.depth ≤ maxValueDepth) (dw : w.depth ≤ maxValueDepth)
    (h : encRaw .v2 v = encRaw .v2 w) : v = w :=
  (encRaw_prefix_inj (r := []) (s := []) hv hw dv dw (by rw [h])).1

/-- equal pre-images come from equal root layouts and equal sets of referenced layouts (all being encodings
of well-formed values, which serialized layouts are) -/
theorem preimage_injective (r r' : Ir) (xs ys : List Bytes)
    (hr : IsEnc (layoutBytes r)) (hr' : IsEnc (layoutBytes r')) (hx : ∀ x ∈ xs, IsEnc x) (hy : ∀ y ∈ ys, IsEnc y)
    (h : computeBytesOfSet r xs = computeBytesOfSet r' ys) : layoutBytes r = layoutBytes r' ∧ xs = ys := by
  simp only [computeBytesOfSet, List.append_assoc, List.append_cancel_left_eq] at h
  obtain ⟨hl, h1⟩ := enc_prefix_unique hr hr' h
  simp only [List.append_cancel_left_eq] at h1
  exact ⟨hl, (flatten_refs_injective (t := Kind.some.b) (u := Kind.none.b) (by decide) xs ys hx hy h1).1⟩

/-! non-vacuity: a struct with one field; changing the doc keeps the bytes, changing `is_required` does not -/
example :
    let f (req : Bool) (doc : Ir) : Ir := .enumv 1 (.record "StructIr" [("schema", .str [115]), ("name", .str [84]), ("doc", doc),
      ("fields", .map [(0, .record "FieldIr" [("id", .u32 0), ("name", .str [97]), ("doc", doc), ("is_required", .bool req),
        ("field_type", .uuid (List.replicate 16 7))])]), ("fallback", .none)])
    layoutBytes (f true .none) = layoutBytes (f true (.some (.str [100]))) ∧ layoutBytes (f true .none) ≠ layoutBytes (f false .none) := by
  decide +kernel

end Aldrin.TypeIdM
