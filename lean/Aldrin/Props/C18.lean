/-
C18 — the formatter preserves the schema and is idempotent.

Models: `Model/Schema/Parse.lean` is `parser/grammar.pest` as the PEG pest executes plus the AST construction;
`Model/Schema/Fmt.lean` is `parser/src/fmt.rs` function by function. Both are tied to the real parser and
formatter on every run (canonical AST dump and formatted text of generated and damaged sources).

Proved here, for all inputs:
* `parse_format_parse` — the property for the models with nothing assumed: for EVERY source text the grammar accepts,
  the formatted text of its schema is accepted again, with the parser's own fuel, as the same schema in canonical
  form, and formatting that result gives the same text again. It rests on the three theorems below and on
  `formatted_text_carries_its_fuel` (the nesting budget of the parser model, input length + 2, always suffices for
  text the formatter wrote);
* `formatting_a_parsed_schema` — the property for the models with no premise on the schema: for EVERY source text the
  grammar accepts, the formatted text of its AST reads back as the canonical form of that AST and formatting that
  again changes nothing. It combines `parsed_schemas_are_well_formed` (every AST the parser model returns is
  `ValidSchema`; one lemma per grammar rule) with the next two theorems;
* `format_parses_back` — for every schema AST that is well formed (`ValidSchema`: identifiers and literals of the shape
  the grammar matches, one-line comment texts, schema comments only together with schema docs, no type reference
  whose first identifier starts with a parameterless type keyword) the formatted text parses, with the PEG of
  `grammar.pest`, to exactly the same schema with every comment / doc line in canonical form and the imports in
  the formatter's (stable, by name) order: same definitions in the same order with the same names, ids, types,
  attributes, comments and doc comments. This covers structs, enums, newtypes, consts of all kinds, services with
  functions in all three body forms, events, inline structs and enums, both fallbacks, file prelude, and the
  formatter's complete blank-line state machine (shown to write blank runs only);
* `formatting_again_changes_nothing` — the schema read back from the formatted text is formatted to the same text
  (`format_of_canonical_form`: the formatter sees lines only through their inner text and sorts imports stably);
* `struct_def_roundtrip`, `enum_def_roundtrip`, `service_def_roundtrip`, `const_def_roundtrip`,
  `newtype_def_roundtrip`, `definition_roundtrip` — the same per definition, whatever follows it;
* `type_roundtrip` — the text the formatter writes for a type is parsed back to that type, for every type the
  grammar can produce (`ValidType`: well-formed identifiers, no reference starting with a parameterless
  type keyword, which the PEG would commit to) and whatever may follow a type;
* `ref_roundtrip`, `int_roundtrip`, `uuid_roundtrip`, `string_roundtrip`, `ident_roundtrip` — the same for the
  leaves of the grammar;
* `comment_line_roundtrip`, `doc_line_roundtrip`, `inline_doc_line_roundtrip` — a written comment / doc line is
  read back as one line of the same kind (never as another kind), and `line_inner_stable`: its inner text is
  the one that was written, so writing it again gives the same line (idempotence of line formatting).
Not theorems (tied by the correspondence runs and the implementation-only oracles): that models and code agree (AST
dumps and formatted text on generated and damaged sources; the `sval` lines re-evaluate premises and conclusion of
the theorems on every parsed input); the validator (equal errors and warnings).
-/
import Aldrin.Lemmas.Schema.Types
import Aldrin.Lemmas.Schema.Lines
import Aldrin.Lemmas.Schema.Schema
import Aldrin.Lemmas.Schema.ValidSound
import Aldrin.Lemmas.Schema.Idem
import Aldrin.Lemmas.Schema.ParseValid
import Aldrin.Lemmas.Schema.FuelBound

namespace Aldrin.Schema

/-- Formatting a (well-formed) schema yields text that parses, without syntax error, to the same schema: lines
in canonical form, imports in the formatter's order, everything else identical. -/
theorem format_parses_back (s : Schema) (hv : ValidSchema s) (fuel : Nat) (hf : schemaFuel s ≤ fuel) :
    fileP fuel (format s) = some (canonSchema s) := by
  obtain ⟨hvc, hvd, hcd, hvi, hvdf⟩ := hv
  obtain ⟨b, wtsI, wtsD, hb, hrelI, hrelD, hfmt⟩ := schemaF_out s
  unfold schemaFuel at hf
  have hfuelD : ∀ d ∈ s.defs, defFuel d ≤ fuel := fun d hd => by have := le_listMax_map defFuel hd; omega
  have hfuelI : ∀ i ∈ sortImports s.imports, i.comment.length < fuel := fun i hi => by
    have := le_listMax_map (·.comment.length) (mem_sortImports.1 hi); omega
  -- definitions up to the end of the file
  have hdefs := many_block canonDef DefTexts (defP fuel) s.defs wtsD [] fuel hrelD
    (fun d hd => defP_text d (hvdf d hd) fuel (hfuelD d hd))
    (defP_nil fuel) (by omega)
  simp only [List.append_nil, skipWs_nil] at hdefs
  -- where the definitions start
  have hstartD : ItemStart fuel NotImportKw (joined (blockItems canonDef s.defs wtsD) ++ []) :=
    block_itemStart canonDef DefTexts fuel NotImportKw s.defs wtsD
      (fun d hd txt ht => by
        obtain ⟨⟨more, h1⟩, h2, _, _, h3⟩ := defText_shape d (hvdf d hd) txt ht
        exact ⟨_, _, _, _, _, h1, h2, by have := hfuelD d hd; omega, d.head_ident, by
          cases d <;> exact fun _ => rfl⟩)
      hrelD [] ItemStart.eof
  rw [List.append_nil] at hstartD
  -- imports, up to the definitions
  have himports := many_block canonImport (fun (i : Import) t => t = importText i) (importP fuel) (sortImports s.imports) wtsI
    (joined (blockItems canonDef s.defs wtsD)) fuel hrelI
    (fun i hi txt ht => ht ▸ importP_text i (hvi i (mem_sortImports.1 hi)) fuel (hfuelI i hi))
    (importP_none_at fuel _ hstartD) (by rw [length_sortImports]; omega)
  -- where the imports start
  have hstartI : ItemStart fuel (fun _ => True) (joined (blockItems canonImport (sortImports s.imports) wtsI) ++
      joined (blockItems canonDef s.defs wtsD)) :=
    block_itemStart canonImport (fun (i : Import) t => t = importText i) fuel (fun _ => True) (sortImports s.imports) wtsI
      (fun i hi txt ht => ⟨i.comment, [], [], chars! "import", ' ' :: (i.name ++ [';']), by rw [ht, importText_shape],
        (hvi i (mem_sortImports.1 hi)).1, hfuelI i hi, vi_import, trivial⟩)
      hrelI _ (itemStart_mono (fun _ _ => trivial) hstartD)
  -- the schema prelude
  have hgroups := many_headerText s b hb hvc hvd hcd fuel (by omega) (fileGroupP_none hstartI)
  rw [← hfmt] at hgroups
  obtain ⟨hg1, hg2, hg3⟩ := hgroups
  simp only [fileP, hg3, himports.1, himports.2, hdefs.1, hdefs.2, List.isEmpty_nil, ↓reduceIte, hg1, hg2, canonSchema]

/-- Everything the grammar accepts is well formed: the premise of `format_parses_back` holds for every AST that
comes from a source text (60 lemmas, one per rule of the grammar model, `Lemmas/Schema/ParseValid.lean`). -/
theorem parsed_schemas_are_well_formed (src : Str) (s : Schema) (h : parseSchema src = some s) : ValidSchema s :=
  fileP_valid h

/-- The formatter sees comment and doc lines only through their inner text, and sorts imports stably by name:
a schema and its canonical form are formatted alike. -/
theorem format_of_canonical_form (s : Schema) : format (canonSchema s) = format s := by
  simp only [format, schemaF, canonSchema, List.isEmpty_map, commentLines_canon, docLines_canon inner_canonDI, importsF_canon, forF_map,
    definitionF_canon]

/-- The fuel `parseSchema` takes for a text (its length + 2) is enough for the schema the text was written for:
every unit of `schemaFuel` stands for something the formatter writes at least one character for. -/
theorem formatted_text_carries_its_fuel (s : Schema) (hv : ValidSchema s) : schemaFuel s ≤ (format s).length + 2 := by
  obtain ⟨b, wtsI, wtsD, _, hrelI, hrelD, hfmt⟩ := schemaF_out s
  obtain ⟨_, _, _, hvi, hvd⟩ := hv
  have h1 := headerText_length s b
  have h2 := blockItems_fuel canonImport (fun (i : Import) t => t = importText i) (fun i => i.comment.length)
    (sortImports s.imports) wtsI (fun i _ txt h => by
      have := preLines_length i.comment [] 0
      simp only [h, importText, List.length_append, List.length_nil] at this ⊢
      omega) hrelI
  have h2' : listMax (s.imports.map (·.comment.length)) ≤ listMax ((sortImports s.imports).map (·.comment.length)) :=
    listMax_le_of_forall fun n hn => by
      obtain ⟨i, hi, rfl⟩ := List.mem_map.1 hn
      exact le_listMax_map (·.comment.length) (mem_sortImports.2 hi)
  have h3 := blockItems_fuel canonDef DefTexts defFuel s.defs wtsD (fun d hd => defTexts_fuel d (hvd d hd)) hrelD
  rw [hfmt]
  simp only [schemaFuel, List.length_append, length_sortImports] at h2 ⊢
  omega

/-- The property for the model, without a premise on the schema: whatever source the grammar accepts, the text the
formatter writes for its AST reads back (given fuel for the nesting of that AST) as the canonical form of the same
AST - same definitions in the same order, names, ids, types, attributes, comments and docs, imports sorted -, and
formatting what was read back changes nothing. -/
theorem formatting_a_parsed_schema (src : Str) (s : Schema) (h : parseSchema src = some s) :
    fileP (schemaFuel s) (format s) = some (canonSchema s) ∧ format (canonSchema s) = format s :=
  ⟨format_parses_back s (parsed_schemas_are_well_formed src s h) _ (Nat.le_refl _), format_of_canonical_form s⟩

/-- C18 for the models, with nothing assumed: whatever source text the grammar accepts, formatting its schema
yields text that the grammar accepts again - with the parser's own fuel - as the same schema in canonical form
(same definitions in the same order, names, ids, types, attributes, comments, docs; imports sorted), and formatting
that result again gives the same text. -/
theorem parse_format_parse (src : Str) (s : Schema) (h : parseSchema src = some s) :
    parseSchema (format s) = some (canonSchema s) ∧ (parseSchema (format s)).map format = some (format s) := by
  have hv := parsed_schemas_are_well_formed src s h
  have hp : parseSchema (format s) = some (canonSchema s) :=
    format_parses_back s hv _ (formatted_text_carries_its_fuel s hv)
  exact ⟨hp, by rw [hp, Option.map_some, format_of_canonical_form]⟩

/-- The same with the executable well-formedness check (`Model/Schema/Valid.lean`), which the driver evaluates on
every AST the model parser produces in the correspondence runs. -/
theorem format_parses_back_checked (s : Schema) (hv : validSchemaB s = true) (fuel : Nat) (hf : schemaFuel s ≤ fuel) :
    fileP fuel (format s) = some (canonSchema s) :=
  format_parses_back s (validSchemaB_sound hv) fuel hf

/-- Formatting the result again changes nothing: the schema read back from the formatted text is formatted to the
same text. -/
theorem formatting_again_changes_nothing (s : Schema) (hv : ValidSchema s) (fuel : Nat) (hf : schemaFuel s ≤ fuel) :
    (fileP fuel (format s)).map format = some (format s) := by
  rw [format_parses_back s hv fuel hf, Option.map_some, format_of_canonical_form]

/-- The imports of the schema read back are sorted by name. -/
theorem imports_sorted (s : Schema) : SortedI (sortImports s.imports) := sortImports_sorted s.imports

theorem definition_roundtrip (d : Definition) (hv : ValidDef d) (fuel : Nat) (hf : defFuel d ≤ fuel) (txt : Str)
    (ht : DefTexts d txt) (w rest : Str) (hw : Blank w) : defP fuel (skipWs (w ++ (txt ++ rest))) = some (canonDef d, rest) :=
  defP_text d hv fuel hf txt ht w rest hw

/-- Whatever the formatter state, a definition is written as a blank run, one of its texts and a line end. -/
theorem definition_written (d : Definition) : Emits (definitionF d) (DefTexts d) := emits_definitionF d

theorem struct_def_roundtrip (d : StructDef) (hv : ValidStruct d) (fuel : Nat) (hf : structFuel d ≤ fuel) (t : Str)
    (ht : StructTexts d t) (w rest : Str) (hw : Blank w) :
    structDefP fuel (skipWs (w ++ (t ++ rest))) = some (canonStruct d, rest) := structDefP_text d hv fuel hf t ht w rest hw

theorem enum_def_roundtrip (d : EnumDef) (hv : ValidEnum d) (fuel : Nat) (hf : enumFuel d ≤ fuel) (t : Str)
    (ht : EnumTexts d t) (w rest : Str) (hw : Blank w) :
    enumDefP fuel (skipWs (w ++ (t ++ rest))) = some (canonEnum d, rest) := enumDefP_text d hv fuel hf t ht w rest hw

theorem service_def_roundtrip (d : ServiceDef) (hv : ValidService d) (fuel : Nat) (hf : serviceFuel d ≤ fuel) (t : Str)
    (ht : ServiceTexts d t) (w rest : Str) (hw : Blank w) :
    serviceDefP fuel (skipWs (w ++ (t ++ rest))) = some (canonService d, rest) := serviceDefP_text d hv fuel hf t ht w rest hw

theorem const_def_roundtrip (d : ConstDef) (hv : ValidConst d) (fuel : Nat) (hf : d.comment.length + d.doc.length < fuel)
    (w rest : Str) (hw : Blank w) : constDefP fuel (skipWs (w ++ (constText d ++ rest))) = some (canonConst d, rest) :=
  constDefP_text d hv fuel hf w rest hw

theorem newtype_def_roundtrip (d : NewtypeDef) (hv : ValidNewtype d) (fuel : Nat) (hf : newtypeFuel d ≤ fuel)
    (w rest : Str) (hw : Blank w) : newtypeDefP fuel (skipWs (w ++ (newtypeText d ++ rest))) = some (canonNewtype d, rest) :=
  newtypeDefP_text d hv fuel hf w rest hw

/-- A type written by the formatter is read back as the same type. -/
theorem type_roundtrip (t : TypeName) (ht : ValidType t) (fuel : Nat) (rest : Str) (hd : t.depth ≤ fuel)
    (hf : TypeFollow rest) : typeNameP fuel (typeText t ++ rest) = some (t, rest) :=
  typeNameP_typeText t ht fuel rest hd hf

theorem ref_roundtrip (r : NamedRef) (hr : ValidRef r) (rest : Str) (hf : TypeFollow rest) :
    namedRefP (namedRefText r ++ rest) = some (r, rest) :=
  namedRefP_text hr hf

theorem ident_roundtrip (n rest : Str) (hn : ValidIdent n) (hr : NoCont rest) : identP (n ++ rest) = some (n, rest) :=
  identP_append hn hr

theorem int_roundtrip (v rest : Str) (hv : ValidInt v) (hr : NoDigit rest) : litIntP (v ++ rest) = some (v, rest) :=
  litIntP_append hv hr

theorem uuid_roundtrip (u rest : Str) (hu : ValidUuid u) : litUuidP (u ++ rest) = some (u, rest) :=
  litUuidP_append hu

theorem string_roundtrip (v rest : Str) (hv : ValidLitString v) : litStringP (v ++ rest) = some (v, rest) :=
  litStringP_append hv

theorem comment_line_roundtrip (i rest : Str) (hn : '\n' ∉ i) :
    commentP (canonLine (chars! "//") i ++ rest) = some (canonLine (chars! "//") i, rest) ∧
    docP (canonLine (chars! "//") i ++ rest) = none :=
  ⟨commentP_canon i rest hn, docP_comment i rest⟩

theorem doc_line_roundtrip (i rest : Str) (hn : '\n' ∉ i) :
    docP (canonLine (chars! "///") i ++ rest) = some (canonLine (chars! "///") i, rest) ∧
    commentP (canonLine (chars! "///") i ++ rest) = none :=
  ⟨docP_canon i rest hn, commentP_doc i rest⟩

theorem inline_doc_line_roundtrip (i rest : Str) (hn : '\n' ∉ i) :
    docInlineP (canonLine (chars! "//!") i ++ rest) = some (canonLine (chars! "//!") i, rest) ∧
    commentP (canonLine (chars! "//!") i ++ rest) = none :=
  ⟨docInlineP_canon i rest hn, commentP_docInline i rest⟩

/-- Formatting a line that was already formatted changes nothing: the inner text of a written line is the
inner text it was written from. -/
theorem line_inner_stable (k : Nat) (pre : Str) (hk : pre.length = k) (raw : Line) :
    inner k (canonLine pre (inner k raw)) = inner k raw :=
  canonLine_inner_idem pre k raw hk

/-! ### the premises are satisfiable -/

example : ValidType (.map (.prim .string) (.array (.option (.ref (.extern (chars! "other") (chars! "Thing")))) (.lit (chars! "4")))) := by
  exact ⟨trivial, ⟨⟨⟨'o', chars! "ther", rfl, by decide, by decide⟩, ⟨'T', chars! "hing", rfl, by decide, by decide⟩⟩,
    (by decide : ∀ p ∈ allPrims, ¬ p.kwText <+: chars! "other")⟩, ⟨chars! "4", by simp, by decide, Or.inl rfl⟩⟩

example : typeText (.map (.prim .string) (.array (.option (.ref (.extern (chars! "other") (chars! "Thing")))) (.lit (chars! "4"))))
    = chars! "map<string -> [option<other::Thing>; 4]>" := by decide +kernel

-- the PEG commits to `bool` in `boolean`: such a reference is not something the grammar produces
example : typeNameP 5 (chars! "boolean;") = some (.prim .bool, chars! "ean;") := by decide +kernel

-- a schema for which every premise of `format_parses_back` holds, with what it is formatted to
def exSchema : Schema :=
  { comment := [chars! "//c\n"], doc := [chars! "//!  d \n"],
    imports := [{ comment := [], name := chars! "zeta" }, { comment := [chars! "//   about a\n"], name := chars! "alpha" }],
    defs := [.newtype { comment := [], doc := [chars! "///x\n"], attrs := [{ name := chars! "a", options := [chars! "b", chars! "c"] }],
                        name := chars! "N", target := .map (.prim .string) (.ref (.intern (chars! "Foo"))) },
             .struct { comment := [], doc := [], attrs := [], name := chars! "S",
                       fields := [{ comment := [chars! "//f\n"], doc := [], required := true, name := chars! "required", id := chars! "-1",
                                    ty := .option (.prim .u8) }],
                       fallback := some { comment := [], doc := [], name := chars! "rest" } }] }

set_option maxRecDepth 8192 in
example : format exSchema = chars! "// c\n\n//!  d\n\n//   about a\nimport alpha;\n\nimport zeta;\n\n/// x\n#[a(b, c)]\nnewtype N = map<string -> Foo>;\n\nstruct S {\n    // f\n    required required @ -1 = option<u8>;\n\n    rest = fallback;\n}\n" := by
  decide +kernel

set_option maxRecDepth 8192 in
example : parseSchema (format exSchema) = some (canonSchema exSchema) := by decide +kernel

theorem exSchema_valid : ValidSchema exSchema := validSchemaB_sound (by decide +kernel)

set_option maxRecDepth 8192 in
example : schemaFuel exSchema ≤ (format exSchema).length + 2 := by decide +kernel

end Aldrin.Schema
