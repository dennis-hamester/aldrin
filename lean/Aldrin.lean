import Aldrin.Model.Bytes
import Aldrin.Model.Value
import Aldrin.Model.Codec
import Aldrin.Model.WF
import Aldrin.Props.C01
import Aldrin.Props.C07
import Aldrin.Props.C13
import Aldrin.Props.C02
import Aldrin.Props.C03
import Aldrin.Props.C04
import Aldrin.Props.C05
import Aldrin.Props.C08
import Aldrin.Props.C09
import Aldrin.Props.C10
import Aldrin.Props.C11
import Aldrin.Props.C12
import Aldrin.Props.C14
import Aldrin.Props.C16
import Aldrin.Props.C19
import Aldrin.Props.C20
import Aldrin.Props.C06
import Aldrin.Props.C15
import Aldrin.Props.C17
import Aldrin.Props.C18
